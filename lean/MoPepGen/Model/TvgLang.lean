/-
Layer G, function level — the decidable condition under which a graph state of
`Model/Tvg.lean` has a path for a given list of records ("the records are ATTACHED along the
frames the path runs through").

`create_variant_graph` attaches the variant node of a record only to the reading frames that are
active when the record is reached, and a frameshifting record moves the path into ANOTHER frame's
reference chain (`apply_variant(cursors[i], cursors[j], variant)`).  So a list of records `h`
(ascending, strictly separated) has a path from the reference chain of frame `g` exactly when the
first record has a variant node in frame `g` and, if more records follow, one of the frames its
`variant_end` edges lead to carries the rest in the same sense: `attached s g h`.
These are definitions over the graph state (what the completeness theorem of `Props/C01.lean`
assumes / proves), not models of Python functions.
-/
import MoPepGen.Model.Tvg
namespace MoPepGen.Tvg
open MoPepGen MoPepGen.Spec

/-- `reading_frame_index` of node `i` (3 when there is no such node) -/
def nodeFrame (s : TState) (i : Nat) : Nat := (s.nodes[i]?.map (·.rf)).getD 3

/-- node `n` is a variant node of frame `g` whose record, as a `Var`, is `v` -/
def isVarOf (n : TNode) (g : Nat) (v : Var) : Bool :=
  n.rf == g && (match n.kind with
    | .var r => r.toVar == v
    | _ => false)

/-- record `v` has a variant node in frame `g` -/
def carries (s : TState) (g : Nat) (v : Var) : Bool := s.nodes.any fun n => isVarOf n g v

/-- the frames of the nodes that the out-edges of the variant nodes of `v` in frame `g` lead to:
where a path that took `v` in frame `g` can continue -/
def bridgeFrames (s : TState) (g : Nat) (v : Var) : List Nat :=
  (s.edges.filter fun e => match s.nodes[e.src]? with
    | some n => isVarOf n g v
    | none => false).map fun e => nodeFrame s e.dst

/-- **the records `h` are attached along the frames from frame `g` on**: the first record has a
variant node in frame `g`, and if more records follow, one of the frames behind it carries the
rest -/
def attached (s : TState) : Nat → List Var → Bool
  | _, [] => true
  | g, v :: rest =>
    carries s g v && (rest.isEmpty || (bridgeFrames s g v).any fun g' => attached s g' rest)

/-- every record that has a variant node has one in each of the three frames — what
`create_variant_graph` builds when all three frames are active from the start (a transcript
without a known ORF) -/
def allFrames (s : TState) : Bool :=
  s.nodes.all fun n => match n.kind with
    | .var r => [0, 1, 2].all fun g => carries s g r.toVar
    | _ => true

/-- the records that have a variant node in the graph (`varPool` of `Lemmas/Tvg.lean`) -/
def varRecs (s : TState) : List Var :=
  s.nodes.filterMap fun n => match n.kind with
    | .var v => some v.toVar
    | _ => none

/-- **the record lists of the maximal paths of frame `f`, computed without walking the graph**:
every sub-collection of the records of the graph that, in ascending order, is strictly separated
and attached along the frames from `f` on (`Props.C01.tvg_attached_subs_spec`: exactly the record
lists of the maximal paths from the reference node of frame `f` starting at `f`) -/
def attachedSubs (s : TState) (f : Nat) : List (List Var) :=
  ((sublists (varRecs s).eraseDups).map sortByStart).filter fun h => separated h && attached s f h

/-! ### the input of `create_variant_graph` as an input of the definitional layer -/

/-- the merge class (`compatible_type_map` of `find_mnvs_from_adjacent_variants`) of a record as
the class of the definitional layer -/
def recCls (v : Rec) : VCls :=
  if v.type == "SNV" || v.type == "RNAEditingSite" then .snv
  else if v.type == "INDEL" then .indel else .other

/-- a record as the `Var` of `Spec/CallVariant.lean`, merge class included -/
def Rec.toSpec (v : Rec) : Var :=
  { start := v.start, stop := v.stop, ref := v.ref, alt := v.alt, cls := recCls v, ids := v.ids }

/-- the transcript of `create_variant_graph` as the `TxIn` of the definitional layer (no Sec
sites, no `cds_start_NF`: neither is read by the record pool) -/
def TvgIn.toTx (inp : TvgIn) : TxIn :=
  { seq := inp.seq, coding := inp.hasKnownOrf,
    orfStart := match inp.orf with
      | some (s, _) => s
      | none => 0,
    orfEnd := match inp.orf with
      | some (_, e) => e
      | none => inp.seq.length,
    startNF := false, endNF := inp.mrnaEndNF, sec := [] }

/-- ascending starts, as a decidable check -/
def ascStarts : List Rec → Bool
  | [] => true
  | [_] => true
  | a :: b :: rest => decide (a.start ≤ b.start) && ascStarts (b :: rest)

/-- what is assumed of the input of `create_variant_graph` (`call_peptide_main` hands over the
records of one transcript from a `VariantRecordPool`; that it always meets this is not proved, the
stream `G-tvglang` evaluates the predicate on the arguments of every real call): the transcript has a known
ORF exactly when it carries one; `max_adjacent_as_mnv` is the default 2; every record is of a
modelled type, a non-empty stretch inside the transcript, and typed `INDEL` exactly when its
alleles make it an insertion or a deletion; the records come in ascending order of start -/
def poolInputOk (inp : TvgIn) (vs : List Rec) : Bool :=
  (inp.hasKnownOrf == inp.orf.isSome) && (inp.maxAdj == 2) && decide (3 ≤ inp.seq.length) &&
  (vs.all fun v => inScope v && decide (v.start < v.stop) && decide (v.stop ≤ inp.seq.length) &&
    ((v.type == "INDEL") == (isInsertion v || isDeletion v))) &&
  ascStarts vs

end MoPepGen.Tvg
