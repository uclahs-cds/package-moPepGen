/-
Layer G — refinement checkpoints inside the graph algorithm of `callVariant`.

The graph algorithm (ThreeFrameTVG.create_variant_graph → fit_into_codons → translate →
PeptideVariantGraph.create_cleavage_graph → call_variant_peptides, ≈ 8 k lines of Python) is
not modelled function by function.  What is modelled is what each stage's graph DENOTES:
a graph is a finite set of labelled nodes with successor lists; its language is the set of
labels of its maximal paths.  After every stage the real graph is dumped by the harness and
the checkpoint predicate of this file is evaluated on it by the native driver:

  CP1  create_variant_graph   language of frame f  =  { (applyHap seq h).drop f | h compatible }
  CP2  fit_into_codons        same language, every inner node a whole number of codons
  CP3  translate              language = translations (Sec read as U) of those sequences
  CP4  create_cleavage_graph  same language, every cleavage site of every path is a node boundary

`Lemmas/Graph.lean` proves: `pathsFrom` enumerates exactly the maximal paths; the position
automaton that `apply_variant` builds (alt attached between the reference node ending at
`start` and the one starting at `stop`) accepts exactly the separated sub-collections with
their `applyHap` sequences; node-wise translation of a codon-aligned path is the translation
of its sequence; and if the node boundaries of a path contain the cleavage sites then every
digestion product of the path's protein is a concatenation of consecutive whole nodes (there as
`slice_is_join`; stated for digestion products in `Props.C01.digest_product_is_node_join`).
-/
import MoPepGen.Spec.CallVariant
namespace MoPepGen.Graph
open MoPepGen MoPepGen.Spec

/-- a dumped graph node: `TVGNode` / `PVGNode` reduced to what a path denotes -/
structure GNode where
  seq : List Char
  vars : List Nat            -- ids of the GVF records the node carries
  out : List Nat             -- successor node indices
  rf : Nat := 0              -- reading_frame_index
  cleavage : Bool := false   -- PVGNode.cleavage
  isStop : Bool := false     -- the graph's shared end sentinel (`PeptideVariantGraph.stop`)
  deriving Repr, Inhabited

abbrev Graph := Array GNode

def isStopNode (g : Graph) (i : Nat) : Bool :=
  match g[i]? with
  | some n => n.isStop
  | none => false

/-- successors a path can enter (the end sentinel is not part of any path) -/
def succs (g : Graph) (i : Nat) : List Nat :=
  match g[i]? with
  | some n => n.out.filter fun o => !isStopNode g o
  | none => []

/-- all maximal paths (node indices) starting at `i`, by depth-first search with fuel; a
graph with a cycle reachable from `i` runs out of fuel and reports no path through it -/
def pathsFrom (g : Graph) : Nat → Nat → List (List Nat)
  | 0, _ => []
  | fuel + 1, i =>
    if i < g.size then
      if (succs g i).isEmpty then [[i]]
      else (succs g i).flatMap fun o => (pathsFrom g fuel o).map (i :: ·)
    else []

def paths (g : Graph) (i : Nat) : List (List Nat) := pathsFrom g (g.size + 1) i

def nodeSeq (g : Graph) (i : Nat) : List Char := (g[i]?.map (·.seq)).getD []
def nodeVars (g : Graph) (i : Nat) : List Nat := (g[i]?.map (·.vars)).getD []

def pathSeq (g : Graph) (p : List Nat) : List Char := p.flatMap (nodeSeq g)
def pathVars (g : Graph) (p : List Nat) : List Nat := p.flatMap (nodeVars g)

/-- positions (in `pathSeq`) at which a new node starts, first node excluded; with
`onlyCleavage` only those whose node is flagged `cleavage` -/
def boundaries (g : Graph) (onlyCleavage : Bool) : List Nat → List Nat
  | [] => []
  | i :: rest =>
    let rec go (pos : Nat) : List Nat → List Nat
      | [] => []
      | j :: js =>
        let here := if !onlyCleavage || ((g[j]?.map (·.cleavage)).getD false) then [pos] else []
        here ++ go (pos + (nodeSeq g j).length) js
    go (nodeSeq g i).length rest

/-! ### what the stages must denote (definitional layer) -/

/-- every compatible combination, the empty one included -/
def allHaps (t : TxIn) (vs : List Var) : List (List Var) := [] :: haplotypes t vs

def hapIds (h : List Var) : List Nat := h.flatMap (·.ids)

/-- CP1 / CP2: the DNA language of reading frame `f` -/
def tvgLang (t : TxIn) (vs : List Var) (f : Nat) : List (List Char × List Nat) :=
  (allHaps t vs).map fun h => ((applyHap t.seq h).drop f, hapIds h)

/-- translation of the whole frame (no stop at `*`), annotated Sec codons in frame read `U` -/
def fullTranslation (seq : List Char) (sec : List Nat) (start : Nat) : List Char :=
  let aa := translate (seq.drop start)
  (List.range aa.length).zip aa |>.map fun (i, c) =>
    if c == '*' && sec.contains (start + 3 * i) then 'U' else c

/-- CP3 / CP4: the protein language of reading frame `f` -/
def protLang (t : TxIn) (vs : List Var) (f : Nat) : List (List Char) :=
  (allHaps t vs).map fun h => fullTranslation (applyHap t.seq h) (secAfter t.sec h) f

/-- every inner node of the path is a whole number of codons -/
def codonAligned (g : Graph) (p : List Nat) : Bool :=
  p.dropLast.all fun i => (nodeSeq g i).length % 3 == 0

/-- node-wise translation of a path (what `ThreeFrameTVG.translate` does, node by node) -/
def translatePath (g : Graph) (p : List Nat) : List Char := p.flatMap fun i => translate (nodeSeq g i)

/-- trailing stop symbols removed (`translate` marks the end of a frame with an extra `*`
whenever the last node is shorter than a codon) -/
def stripEnd (w : List Char) : List Char := (w.reverse.dropWhile (· == '*')).reverse

/-- stop-delimited segments of a protein with their offsets -/
def stopSegments (w : List Char) : List (Nat × List Char) :=
  let rec go (off : Nat) (cur : List Char) : List Char → List (Nat × List Char)
    | [] => [(off, cur.reverse)]
    | c :: cs => if c == '*' then (off, cur.reverse) :: go (off + cur.length + 1) [] cs
                 else go off (c :: cur) cs
  go 0 [] w

/-- the positions CP4 requires to be node boundaries: the cleavage sites of every
stop-delimited segment and both sides of every stop symbol (inner positions only) -/
def requiredCuts (rule : Re) (exc : Option Re) (w : List Char) : List Nat :=
  ((stopSegments w).flatMap fun (off, seg) =>
      ((cleaveSites rule exc seg).map (· + off)) ++ [off, off + seg.length]).filter
    fun x => 0 < x && x < w.length

end MoPepGen.Graph
