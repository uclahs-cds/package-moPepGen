import MoPepGen.Model.Coord
import MoPepGen.Model.Gvf
/-!
# The GTF codec: writer, parser, annotation models (property C11, last clause)

Models, function by function, of

* `moPepGen/gtf/GtfIO.py`                : `line_to_seq_feature`, `GtfIterator.iterate`,
                                           `to_gtf_record`, `write`
* `moPepGen/gtf/GenomicAnnotation.py`    : `dump_gtf` (with `biotype=None`), `add_gene_record`,
                                           `add_transcript_record`
* `moPepGen/gtf/TranscriptAnnotationModel.py` : `GTF_FEATURE_TYPES`, `add_record`, `split_utr`,
                                           `sort_records`
* `moPepGen/gtf/GTFSeqFeature.py`        : the properties `gene_id`, `transcript_id`,
                                           `protein_id`, `gene_name` (getter and setter)
* `moPepGen/SeqFeature.py`               : `FeatureLocation.__gt__/__eq__`, `SeqFeature.__lt__/__gt__`

Text is `List Char` (`Gvf.Str`, as in `Model/Gvf.lean`, whose string primitives are reused).
A GTF line is the abstract `Line`: the fields the parser reads (seqname, feature, 1-based
inclusive start / end, strand field, frame) and the attribute column already cut into
`(key, raw value)` pairs.  Cutting the attribute column text (`rstrip(';')`, `split(';')`,
`strip()`, `split(' ', 1)`) is the separate pair `colText` / `colParse`.  Tab splitting and
decimal integers are not modelled (the driver does them); columns 2 and 6 (`source`, `score`)
are written as `.` and never read.

Not modelled: the `source` (GENCODE / ENSEMBL) that `GTFSourceInferrer` attaches to every
record.  It is a function of the chromosome names (of the record itself for the first 101
records of a file, of the majority among those afterwards), selects the attribute the
`biotype` property reads (`gene_type` / `gene_biotype`; both attributes are kept and compared
here) and is compared on the real objects by the harness; `dump_gtf` is modelled with
`biotype=None`.  Also not modelled: `record.id`; non-ASCII `str.lower()`.

Python `raise` → `Except GErr`.  No imports outside `Model/`.
-/
namespace MoPepGen.Gtf
open MoPepGen.Gvf (Str AttrVal dictGet dictSet splitOn rstripChar stripChar isPySpace rstrip)

/-- exceptions of the modelled functions -/
inductive GErr where
  /-- `ValueError('Same gene has multiple records')` -/
  | dupGene
  /-- `ValueError('Gene ID … not found')` -/
  | geneNotFound
  /-- `ValueError('UTR found but not CDS …')` -/
  | utrNoCds
  /-- `AttributeError`: `self.transcript` is `None` (`split_utr`, `write`) -/
  | noTxRecord
  /-- `KeyError`: `anno.transcripts[tx_id]` in `write` -/
  | keyError
  /-- `ValueError`: attribute without a value (`key, val = [...]` unpacking) or
  `end < start` (`Bio.SeqFeature.SimpleLocation`) -/
  | badLine
  /-- outside the model: a record without `gene_id` / `transcript_id` (Python keys the dict by
  `None`), start column `0` (Python builds a location starting at `-1`) -/
  | unmodelled
  deriving DecidableEq, Repr, Inhabited

def GErr.name : GErr → String
  | .dupGene => "ValueError:dup-gene" | .geneNotFound => "ValueError:gene-not-found"
  | .utrNoCds => "ValueError:utr-no-cds" | .noTxRecord => "AttributeError"
  | .keyError => "KeyError" | .badLine => "ValueError:line" | .unmodelled => "unmodelled"

/-- `[f(x) for x in xs]` with exceptions -/
def mapE {α β : Type} (f : α → Except GErr β) : List α → Except GErr (List β)
  | [] => .ok []
  | x :: xs =>
    match f x with
    | .error e => .error e
    | .ok y => match mapE f xs with
      | .error e => .error e
      | .ok ys => .ok (y :: ys)

/-- nested loop `for x in xs: out += f(x)` with exceptions -/
def flatMapE {α β : Type} (f : α → Except GErr (List β)) : List α → Except GErr (List β)
  | [] => .ok []
  | x :: xs =>
    match f x with
    | .error e => .error e
    | .ok ys => match flatMapE f xs with
      | .error e => .error e
      | .ok zs => .ok (ys ++ zs)

/-! ## constants -/

def kGeneId : Str := ['g','e','n','e','_','i','d']
def kTranscriptId : Str := ['t','r','a','n','s','c','r','i','p','t','_','i','d']
def kProteinId : Str := ['p','r','o','t','e','i','n','_','i','d']
def kGeneName : Str := ['g','e','n','e','_','n','a','m','e']
def kGeneType : Str := ['g','e','n','e','_','t','y','p','e']
def kGeneBiotype : Str := ['g','e','n','e','_','b','i','o','t','y','p','e']
def kTag : Str := ['t','a','g']
def kIpc : Str := ['i','s','_','p','r','o','t','e','i','n','_','c','o','d','i','n','g']
def vTrue : Str := ['t','r','u','e']
def vFalse : Str := ['f','a','l','s','e']
def fGene : Str := ['g','e','n','e']

/-- `attributes_to_keep` of `line_to_seq_feature` -/
def keepKeys : List Str :=
  [kGeneId, kTranscriptId, kProteinId, kGeneName, kGeneType, kGeneBiotype, kTag, kIpc]

/-- ASCII `str.lower()` -/
def lower (s : Str) : Str := s.map Char.toLower

/-! ## the attribute column as text -/

/-- one iteration of the `attrs += f" {key} {val};"` loop of `to_gtf_record` -/
def attrField (kv : Str × Str) : Str := ' ' :: kv.1 ++ ' ' :: kv.2 ++ [';']

/-- column 9 as `to_gtf_record` builds it from the flat `(key, value)` list -/
def colText (kvs : List (Str × Str)) : Str := (kvs.map attrField).flatten

/-- `s.strip()` -/
def strip (s : Str) : Str := rstrip (s.dropWhile isPySpace)

/-- `s.split(c, 1)` when it has two parts (`none`: `c` does not occur, one part) -/
def splitFirst (c : Char) : Str → Option (Str × Str)
  | [] => none
  | x :: xs =>
    if x = c then some ([], xs)
    else match splitFirst c xs with
      | some (a, b) => some (x :: a, b)
      | none => none

/-- `field.strip().split(' ', 1)` followed by the unpacking `key, val = …`
(`ValueError` when there is no space) -/
def colField (f : Str) : Except GErr (Str × Str) :=
  match splitFirst ' ' (strip f) with
  | some kv => .ok kv
  | none => .error .badLine

/-- `[field.strip().split(' ', 1) for field in fields[8].rstrip(';').split(';')]` -/
def colParse (s : Str) : Except GErr (List (Str × Str)) :=
  mapE colField (splitOn ';' (rstripChar ';' s))

/-! ## records -/

/-- `location.strand`: `1`, `-1`, `0` (field `?`), `None` (any other field) -/
inductive GStrand where
  | plus | minus | unknown | none
  deriving DecidableEq, Repr, Inhabited

/-- `_STRAND_LEVELS` -/
def GStrand.level : GStrand → Nat
  | .none => 0 | .unknown => 1 | .minus => 2 | .plus => 3

/-- `{'+':1, '-':-1, '?':0}[fields[6]]`, `KeyError` → `None` -/
def strandOfField (s : Str) : GStrand :=
  if s = ['+'] then .plus else if s = ['-'] then .minus else if s = ['?'] then .unknown else .none

/-- the strand column of `to_gtf_record` -/
def strandField : GStrand → Str
  | .plus => ['+'] | .minus => ['-'] | _ => ['.']

/-- the fields of one GTF line that the parser reads -/
structure Line where
  seqname : Str
  feature : Str
  /-- column 4, 1-based inclusive -/
  start1 : Nat
  /-- column 5, 1-based inclusive -/
  end1 : Nat
  strand : Str
  /-- column 8, `none` = `.` -/
  frame : Option Nat
  /-- column 9 after `colParse` -/
  attrs : List (Str × Str)
  deriving DecidableEq, Repr, Inhabited

/-- `GTFSeqFeature`: chromosome, type, 0-based half-open location, strand, frame and the
`attributes` dict (insertion ordered; `tag` holds a list, every other key a string) -/
structure Rec where
  chrom : Str
  type : Str
  iv : Iv
  strand : GStrand
  frame : Option Nat
  attrs : List (Str × AttrVal)
  deriving DecidableEq, Repr, Inhabited

/-- one iteration of the attribute loop of `line_to_seq_feature` -/
def attrStep (d : List (Str × AttrVal)) (kv : Str × Str) : List (Str × AttrVal) :=
  if keepKeys.contains kv.1 then
    let v := stripChar '"' kv.2
    if kv.1 = kTag then
      match dictGet d kTag with
      | some (.list l) => dictSet d kTag (.list (l ++ [v]))
      | _ => dictSet d kTag (.list [v])
    else dictSet d kv.1 (.str v)
  else d

def parseAttrs (kvs : List (Str × Str)) : List (Str × AttrVal) := kvs.foldl attrStep []

/-- `GtfIO.line_to_seq_feature` on the abstract line -/
def lineToRec (l : Line) : Except GErr Rec :=
  if l.start1 = 0 then .error .unmodelled
  else if l.end1 < l.start1 - 1 then .error .badLine
  else .ok { chrom := l.seqname, type := l.feature, iv := ⟨l.start1 - 1, l.end1⟩,
             strand := strandOfField l.strand, frame := l.frame, attrs := parseAttrs l.attrs }

/-- the `for key, val in record.attributes.items()` loop of `to_gtf_record` as a flat list -/
def flatAttrs : List (Str × AttrVal) → List (Str × Str)
  | [] => []
  | (k, .str v) :: r => (k, v) :: flatAttrs r
  | (k, .list l) :: r => l.map (fun v => (k, v)) ++ flatAttrs r

/-- the `is_protein_coding` suffix of `to_gtf_record` -/
def ipcAttr : Option Bool → List (Str × Str)
  | none => []
  | some true => [(kIpc, vTrue)]
  | some false => [(kIpc, vFalse)]

/-- `GtfIO.to_gtf_record(record, is_protein_coding)` -/
def recToLine (r : Rec) (ipc : Option Bool) : Line :=
  { seqname := r.chrom, feature := r.type, start1 := r.iv.start + 1, end1 := r.iv.stop,
    strand := strandField r.strand, frame := r.frame,
    attrs := flatAttrs r.attrs ++ ipcAttr ipc }

/-- a string-valued attribute (the properties `gene_id`, `transcript_id`, `protein_id` return
`None` when the key is absent) -/
def Rec.getStr (r : Rec) (k : Str) : Option Str :=
  match dictGet r.attrs k with
  | some (.str s) => some s
  | _ => none

/-- the property setters: `self.attributes[key] = val` -/
def Rec.setStr (r : Rec) (k v : Str) : Rec := { r with attrs := dictSet r.attrs k (.str v) }

/-! ## ordering of records (`list.sort()` on `GTFSeqFeature`s) -/

/-- `FeatureLocation.__gt__` (start, then `_STRAND_LEVELS`, then end) -/
def Rec.gt (a b : Rec) : Bool :=
  decide (a.iv.start > b.iv.start) ||
  (decide (a.iv.start = b.iv.start) &&
    (decide (a.strand.level > b.strand.level) ||
      (decide (a.strand.level = b.strand.level) && decide (a.iv.stop > b.iv.stop))))

/-- `FeatureLocation.__eq__` -/
def Rec.eqLoc (a b : Rec) : Bool :=
  decide (a.iv.start = b.iv.start) && decide (a.iv.stop = b.iv.stop) && decide (a.strand = b.strand)

/-- `SeqFeature.__lt__` = `not (self == other or self > other)` -/
def Rec.lt (a b : Rec) : Bool := !(a.eqLoc b || a.gt b)

/-- insertion step of a stable sort: `x` (which precedes every element of the list in the
input) goes before the first element that is not smaller -/
def insertBy {α : Type} (lt : α → α → Bool) (x : α) : List α → List α
  | [] => [x]
  | y :: ys => if lt y x then y :: insertBy lt x ys else x :: y :: ys

/-- stable sort by `lt` (insertion sort).  `list.sort()` is stable and calls only `__lt__`;
for a strict weak order every stable sort returns the same list. -/
def sortBy {α : Type} (lt : α → α → Bool) : List α → List α
  | [] => []
  | x :: xs => insertBy lt x (sortBy lt xs)

/-- `records.sort()` -/
def sortRecs (l : List Rec) : List Rec := sortBy Rec.lt l

/-! ## annotation models -/

/-- `GeneAnnotationModel`: the gene record and the transcript ids in order of appearance -/
structure GeneModel where
  gene : Rec
  transcripts : List Str
  deriving DecidableEq, Repr, Inhabited

/-- `TranscriptAnnotationModel` (`gene_type` is never set: `GTFSeqFeature` has no such
attribute, so `hasattr(record, 'gene_type')` is false; `_seq` is a cache) -/
structure TxModel where
  transcript : Option Rec := none
  cds : List Rec := []
  exon : List Rec := []
  startCodon : List Rec := []
  stopCodon : List Rec := []
  utr : List Rec := []
  fiveUtr : List Rec := []
  threeUtr : List Rec := []
  sec : List Rec := []
  isProteinCoding : Option Bool := none
  transcriptId : Option Str := none
  geneId : Option Str := none
  proteinId : Option Str := none
  geneName : Option Str := none
  deriving DecidableEq, Repr, Inhabited

/-- `GenomicAnnotation`: the two insertion-ordered dicts -/
structure Anno where
  genes : List (Str × GeneModel) := []
  txs : List (Str × TxModel) := []
  deriving DecidableEq, Repr, Inhabited

/-- the values of `GTF_FEATURE_TYPES` -/
inductive Slot where
  | transcript | cds | exon | startCodon | stopCodon | utr | sec | fiveUtr | threeUtr
  deriving DecidableEq, Repr, Inhabited

/-- `GTF_FEATURE_TYPES` (keyed by `record.type.lower()`) -/
def slotOf (f : Str) : Option Slot :=
  if f = ['t','r','a','n','s','c','r','i','p','t'] then some .transcript
  else if f = ['c','d','s'] then some .cds
  else if f = ['e','x','o','n'] then some .exon
  else if f = ['s','t','a','r','t','_','c','o','d','o','n'] then some .startCodon
  else if f = ['s','t','o','p','_','c','o','d','o','n'] then some .stopCodon
  else if f = ['u','t','r'] then some .utr
  else if f = ['s','e','l','e','n','o','c','y','s','t','e','i','n','e'] then some .sec
  else if f = ['f','i','v','e','_','p','r','i','m','e','_','u','t','r'] then some .fiveUtr
  else if f = ['t','h','r','e','e','_','p','r','i','m','e','_','u','t','r'] then some .threeUtr
  else none

/-- the slot a record goes to -/
def Rec.slot (r : Rec) : Option Slot := slotOf (lower r.type)

/-- one iteration of the `for key in […]` loop of `add_record`: the model value is taken from
the record when the model has none (and the record's is neither `None` nor `''`); otherwise
the record's attribute is overwritten with the model's. -/
def syncKey (mv : Option Str) (r : Rec) (k : Str) : Option Str × Rec :=
  match mv with
  | none =>
    match r.getStr k with
    | some v => if v = [] then (none, r) else (some v, r)
    | none => (none, r)
  | some v => (some v, r.setStr k v)

/-- the ids of a `TranscriptAnnotationModel` -/
structure Ids where
  transcriptId : Option Str := none
  geneId : Option Str := none
  proteinId : Option Str := none
  geneName : Option Str := none
  deriving DecidableEq, Repr, Inhabited

/-- the whole key loop of `add_record` (keys in the order of the Python list) -/
def syncIds (i : Ids) (r : Rec) : Ids × Rec :=
  let (t, r1) := syncKey i.transcriptId r kTranscriptId
  let (g, r2) := syncKey i.geneId r1 kGeneId
  let (p, r3) := syncKey i.proteinId r2 kProteinId
  let (n, r4) := syncKey i.geneName r3 kGeneName
  (⟨t, g, p, n⟩, r4)

def TxModel.ids (m : TxModel) : Ids := ⟨m.transcriptId, m.geneId, m.proteinId, m.geneName⟩

def TxModel.setIds (m : TxModel) (i : Ids) : TxModel :=
  { m with transcriptId := i.transcriptId, geneId := i.geneId, proteinId := i.proteinId,
           geneName := i.geneName }

/-- `d.pop(k)` / `del d[k]` on an insertion-ordered dict -/
def dictErase {β : Type} (d : List (Str × β)) (k : Str) : List (Str × β) :=
  d.filter (fun kv => kv.1 ≠ k)

/-- the second half of `add_record`: the `transcript` record replaces `self.transcript` (its
`is_protein_coding` attribute is popped and becomes the flag), any other record is appended
to its list -/
def place (m : TxModel) (s : Slot) (r : Rec) : TxModel :=
  match s with
  | .transcript =>
    match dictGet r.attrs kIpc with
    | some v => { m with transcript := some { r with attrs := dictErase r.attrs kIpc },
                         isProteinCoding := some (decide (v = .str vTrue)) }
    | none => { m with transcript := some r }
  | .cds => { m with cds := m.cds ++ [r] }
  | .exon => { m with exon := m.exon ++ [r] }
  | .startCodon => { m with startCodon := m.startCodon ++ [r] }
  | .stopCodon => { m with stopCodon := m.stopCodon ++ [r] }
  | .utr => { m with utr := m.utr ++ [r] }
  | .sec => { m with sec := m.sec ++ [r] }
  | .fiveUtr => { m with fiveUtr := m.fiveUtr ++ [r] }
  | .threeUtr => { m with threeUtr := m.threeUtr ++ [r] }

/-- `TranscriptAnnotationModel.add_record`; also returns the record as mutated by the key loop
(the caller reads `record.gene_id` afterwards) -/
def addRecord (m : TxModel) (s : Slot) (r : Rec) : TxModel × Rec :=
  let (i, r') := syncIds m.ids r
  (place (m.setIds i) s r', r')

/-- `GenomicAnnotation.add_gene_record` -/
def addGene (a : Anno) (r : Rec) : Except GErr Anno :=
  match r.getStr kGeneId with
  | none => .error .unmodelled
  | some gid =>
    match dictGet a.genes gid with
    | some _ => .error .dupGene
    | none => .ok { a with genes := a.genes ++ [(gid, ⟨r, []⟩)] }

/-- `GenomicAnnotation.add_transcript_record` (records of a type outside `GTF_FEATURE_TYPES`
are ignored; `record.gene_id` is read after `add_record` has overwritten it) -/
def addTx (a : Anno) (r : Rec) : Except GErr Anno :=
  match r.slot with
  | none => .ok a
  | some s =>
    match r.getStr kTranscriptId with
    | none => .error .unmodelled
    | some tid =>
      let m := (dictGet a.txs tid).getD {}
      let (m', r') := addRecord m s r
      let txs' := dictSet a.txs tid m'
      match r'.getStr kGeneId with
      | none => .error .geneNotFound
      | some gid =>
        match dictGet a.genes gid with
        | none => .error .geneNotFound
        | some g =>
          if g.transcripts.contains tid then .ok { a with txs := txs' }
          else .ok { genes := dictSet a.genes gid { g with transcripts := g.transcripts ++ [tid] },
                     txs := txs' }

/-- the loop body of `dump_gtf` (no `biotype` filter) -/
def step (a : Anno) (r : Rec) : Except GErr Anno :=
  if lower r.type = fGene then addGene a r else addTx a r

/-- the `for utr in self.utr` loop of `split_utr` on the 5' side (`first`/`last` = `cds[0]`,
`cds[-1]`) -/
def isFive (strand : GStrand) (first last u : Rec) : Bool :=
  (decide (strand = .plus) && u.lt first) || (decide (strand = .minus) && u.gt last)

/-- `TranscriptAnnotationModel.sort_records` (with `split_utr` inlined) -/
def sortRecords (m : TxModel) : Except GErr TxModel :=
  let cds := sortRecs m.cds
  let fin (five three : List Rec) : TxModel :=
    { m with cds := cds, exon := sortRecs m.exon, startCodon := sortRecs m.startCodon,
             stopCodon := sortRecs m.stopCodon, utr := sortRecs m.utr,
             threeUtr := sortRecs three, fiveUtr := sortRecs five, sec := sortRecs m.sec }
  if m.utr = [] then .ok (fin m.fiveUtr m.threeUtr)
  else
    match m.transcript with
    | none => .error .noTxRecord
    | some t =>
      match cds.head?, cds.getLast? with
      | some first, some last =>
        .ok (fin (m.fiveUtr ++ m.utr.filter (isFive t.strand first last))
                 (m.threeUtr ++ m.utr.filter (fun u => !isFive t.strand first last u)))
      | _, _ => .error .utrNoCds

/-- one iteration of the final `for transcript_model in self.transcripts.values()` loop -/
def sortEntry (kv : Str × TxModel) : Except GErr (Str × TxModel) :=
  match sortRecords kv.2 with
  | .ok m => .ok (kv.1, m)
  | .error e => .error e

/-- the final `for transcript_model in self.transcripts.values(): sort_records()` -/
def finalize (a : Anno) : Except GErr Anno :=
  match mapE sortEntry a.txs with
  | .ok txs => .ok { a with txs := txs }
  | .error e => .error e

/-- the record loop of `dump_gtf` over `GtfIterator.iterate` -/
def parseLines (a : Anno) : List Line → Except GErr Anno
  | [] => .ok a
  | l :: ls =>
    match lineToRec l with
    | .error e => .error e
    | .ok r =>
      match step a r with
      | .error e => .error e
      | .ok a' => parseLines a' ls

/-- `GenomicAnnotation().dump_gtf(handle)` on the non-comment lines of the file -/
def parseGtf (ls : List Line) : Except GErr Anno :=
  match parseLines {} ls with
  | .error e => .error e
  | .ok a => finalize a

/-! ## the writer -/

/-- `x` is the same object as a member of `tx_model.utr`.  Records have no identity here; in
every model the package builds (`add_record` + `split_utr`, `fake.fake_transcript_model`) the
objects shared between `utr` and `five_utr`/`three_utr` are exactly the records of type `UTR`,
and `five_prime_utr` / `three_prime_utr` records are never in `utr`. -/
def isUtrObject (x : Rec) : Bool := decide (x.slot = some .utr)

/-- the records `write` emits after the transcript record, in its order -/
def txRecords (m : TxModel) : List Rec :=
  m.sec ++ (sortRecs (m.cds ++ m.exon) ++ m.utr
    ++ (m.fiveUtr ++ m.threeUtr).filter (fun x => !isUtrObject x)
    ++ (m.startCodon ++ m.stopCodon))

/-- the lines of one transcript in `GtfIO.write` -/
def writeTx (m : TxModel) : Except GErr (List Line) :=
  match m.transcript with
  | none => .error .noTxRecord
  | some t => .ok (recToLine t m.isProteinCoding :: (txRecords m).map (recToLine · none))

/-- `tx_model = anno.transcripts[tx_id]` and its lines -/
def writeTxOf (a : Anno) (tid : Str) : Except GErr (List Line) :=
  match dictGet a.txs tid with
  | none => .error .keyError
  | some m => writeTx m

/-- the lines of one gene -/
def writeGene (a : Anno) (g : GeneModel) : Except GErr (List Line) :=
  match flatMapE (writeTxOf a) g.transcripts with
  | .error e => .error e
  | .ok ls => .ok (recToLine g.gene none :: ls)

/-- `GtfIO.write(handle, anno)` -/
def writeGtf (a : Anno) : Except GErr (List Line) :=
  flatMapE (fun kv : Str × GeneModel => writeGene a kv.2) a.genes

/-! ## normal form, well-formedness (all decidable and executable: the driver evaluates them
on the models the real loader builds) -/

/-- forget the attribute dict of a record -/
def Rec.erase (r : Rec) : Rec := { r with attrs := [] }

/-- forget the attribute dicts of the records in the eight lists (the `transcript` record,
the flag and the ids are kept) -/
def TxModel.erase (m : TxModel) : TxModel :=
  { m with cds := m.cds.map Rec.erase, exon := m.exon.map Rec.erase,
           startCodon := m.startCodon.map Rec.erase, stopCodon := m.stopCodon.map Rec.erase,
           utr := m.utr.map Rec.erase, fiveUtr := m.fiveUtr.map Rec.erase,
           threeUtr := m.threeUtr.map Rec.erase, sec := m.sec.map Rec.erase }

def Anno.erase (a : Anno) : Anno :=
  { a with txs := a.txs.map fun kv => (kv.1, kv.2.erase) }

/-- the transcripts dict re-listed gene by gene, in the order of `gene.transcripts`
(the order in which `write` emits them and therefore the dict order after parsing) -/
def Anno.canon (a : Anno) : Anno :=
  { a with txs := a.genes.flatMap fun kv =>
      kv.2.transcripts.filterMap fun tid => (dictGet a.txs tid).map fun m => (tid, m) }

/-- the key loop of `add_record` run over a list of records in order -/
def syncAll (i : Ids) : List Rec → Ids × List Rec
  | [] => (i, [])
  | r :: rs =>
    let (i1, r') := syncIds i r
    let (i2, rs') := syncAll i1 rs
    (i2, r' :: rs')

/-- the first record of the list carrying a non-empty string for `k` -/
def firstAttr (k : Str) : List Rec → Option Str
  | [] => none
  | r :: rs =>
    match r.getStr k with
    | some v => if v = [] then firstAttr k rs else some v
    | none => firstAttr k rs

/-- `"…".strip('"')` leaves the value unchanged (it neither starts nor ends with `"`) -/
def quoteFree (v : Str) : Bool := decide (stripChar '"' v = v)

/-- an `attributes` dict that `to_gtf_record` → `line_to_seq_feature` reproduces: distinct
kept keys, `tag` (and only `tag`) holds a non-empty list, no value starts or ends with `"` -/
def attrsOK (d : List (Str × AttrVal)) : Bool :=
  decide ((d.map (·.1)).Nodup) &&
  d.all fun kv =>
    keepKeys.contains kv.1 &&
    match kv.2 with
    | .str s => decide (kv.1 ≠ kTag) && quoteFree s
    | .list l => decide (kv.1 = kTag) && decide (l ≠ []) && l.all quoteFree

/-- a record the line codec reproduces: `start ≤ end`, strand `+`, `-` or none (strand `0`
is written as `.` and read back as `None`) -/
def Rec.ok (r : Rec) : Bool :=
  attrsOK r.attrs && decide (r.strand ≠ .unknown) && decide (r.iv.start ≤ r.iv.stop)

/-- sorted for `list.sort()`: no later element is smaller than an earlier one -/
def sortedRecs (l : List Rec) : Bool := decide (l.Pairwise fun a b => b.lt a = false)

/-- every record of a list is codec-clean, goes to slot `s` and names the transcript -/
def listOK (tid : Str) (s : Slot) (l : List Rec) : Bool :=
  l.all fun r => r.ok && decide (r.slot = some s) && decide (r.getStr kTranscriptId = some tid)

/-- the UTR records `split_utr` puts on the 5' side / the 3' side -/
def splitUtr (five : Bool) (t : Rec) (m : TxModel) : List Rec :=
  match m.cds.head?, m.cds.getLast? with
  | some first, some last => m.utr.filter fun u => isFive t.strand first last u == five
  | _, _ => []

/-- A transcript model in the normal form of the loader, listed by gene `gid` under id `tid`:
* a codec-clean `transcript` record of type `transcript` naming `tid` and the (non-empty) `gid`,
  without an `is_protein_coding` attribute (the loader pops it);
* every list holds codec-clean records of its own type naming `tid` (`five_utr`/`three_utr`:
  of type `five_prime_utr`/`three_prime_utr`, or `UTR` records);
* `cds`, `exon`, `start_codon`, `stop_codon`, `utr`, `selenocysteine` sorted;
* `utr` records only together with `cds` records;
* `five_utr` (`three_utr`) = sorted (its own `five_prime_utr` (`three_prime_utr`) records followed
  by the `UTR` records `split_utr` puts on that side);
* the four ids are those of the first record, in writing order, that carries one. -/
def TxModel.wf (gid tid : Str) (m : TxModel) : Bool :=
  match m.transcript with
  | none => false
  | some t =>
    t.ok && decide (t.slot = some .transcript) && decide (t.getStr kTranscriptId = some tid) &&
    decide (t.getStr kGeneId = some gid) && decide (gid ≠ []) &&
    (dictGet t.attrs kIpc).isNone &&
    listOK tid .cds m.cds && listOK tid .exon m.exon && listOK tid .startCodon m.startCodon &&
    listOK tid .stopCodon m.stopCodon && listOK tid .utr m.utr && listOK tid .sec m.sec &&
    listOK tid .fiveUtr (m.fiveUtr.filter fun x => !isUtrObject x) &&
    listOK tid .threeUtr (m.threeUtr.filter fun x => !isUtrObject x) &&
    sortedRecs m.cds && sortedRecs m.exon && sortedRecs m.startCodon && sortedRecs m.stopCodon &&
    sortedRecs m.utr && sortedRecs m.sec &&
    (decide (m.utr = []) || decide (m.cds ≠ [])) &&
    decide (m.fiveUtr = sortRecs ((m.fiveUtr.filter fun x => !isUtrObject x) ++ splitUtr true t m)) &&
    decide (m.threeUtr = sortRecs ((m.threeUtr.filter fun x => !isUtrObject x) ++ splitUtr false t m)) &&
    decide (m.ids = ⟨firstAttr kTranscriptId (t :: txRecords m), firstAttr kGeneId (t :: txRecords m),
                     firstAttr kProteinId (t :: txRecords m), firstAttr kGeneName (t :: txRecords m)⟩)

/-- A well-formed annotation: distinct gene ids; every transcript id listed by exactly one gene
and once; every gene record codec-clean, of type `gene`, carrying its key as `gene_id`; every
listed transcript present in the transcripts dict and well-formed for that gene. -/
def Anno.wf (a : Anno) : Bool :=
  decide ((a.genes.map (·.1)).Nodup) &&
  decide ((a.genes.flatMap (·.2.transcripts)).Nodup) &&
  a.genes.all fun kv =>
    kv.2.gene.ok && decide (lower kv.2.gene.type = fGene) &&
    decide (kv.2.gene.getStr kGeneId = some kv.1) &&
    kv.2.transcripts.all fun tid =>
      match dictGet a.txs tid with
      | some m => m.wf kv.1 tid
      | none => false

/-- the transcripts dict is listed gene by gene (true for every file that lists each gene's
transcripts before the next gene, and after any `write` → `dump_gtf`) -/
def Anno.ordered (a : Anno) : Bool := decide (a.canon = a)

/-- the key loop of `add_record`, run over the records in writing order, changes no attribute
dict (true after one `write` → `dump_gtf`; false e.g. for a freshly loaded ENSEMBL file whose
`protein_id` sits on the CDS records only) -/
def TxModel.stable (m : TxModel) : Bool :=
  match m.transcript with
  | none => false
  | some t => decide ((syncAll {} (t :: txRecords m)).2 = t :: txRecords m)

def Anno.stable (a : Anno) : Bool := a.txs.all fun kv => kv.2.stable

/-! ## the round trip as one function, closure of the well-formedness predicates -/

/-- `GtfIO.write(buf, a)` followed by `GenomicAnnotation().dump_gtf(buf)`: the reloaded
annotation (composition of `writeGtf` and `parseGtf`; an exception of either is the result) -/
def reload (a : Anno) : Except GErr Anno :=
  match writeGtf a with
  | .ok ls => parseGtf ls
  | .error e => .error e

/-- the three hypotheses of the round-trip theorems together: `wf ∧ ordered ∧ stable` (what the
closure theorems `gtf_roundtrip_closed_*` of Props/C11.lean are about: proved of the reload of a stable
annotation, compared per input otherwise) -/
def Anno.closed (a : Anno) : Bool := a.wf && a.ordered && a.stable

/-! ## what the coordinate model of `Model/Coord.lean` reads from a transcript model -/

def toStrand : GStrand → Option Strand
  | .plus => some .plus | .minus => some .minus | _ => none

/-- strand of the `transcript` record and the exon intervals -/
def TxModel.toTranscript (m : TxModel) : Option Transcript :=
  match m.transcript with
  | none => none
  | some t => (toStrand t.strand).map fun s => ⟨s, m.exon.map (·.iv)⟩

def TxModel.cdsList (m : TxModel) : List Cds := m.cds.map fun r => ⟨r.iv, r.frame⟩
def TxModel.threeUtrIvs (m : TxModel) : List Iv := m.threeUtr.map (·.iv)
def TxModel.secIvs (m : TxModel) : List Iv := m.sec.map (·.iv)

/-- `is_cds_start_nf()` / `is_mrna_end_nf()`: the tag list of the `transcript` record -/
def TxModel.hasTag (m : TxModel) (tag : Str) : Bool :=
  match m.transcript with
  | none => false
  | some t => match dictGet t.attrs kTag with
    | some (.list l) => l.contains tag
    | _ => false

/-! ## text-level well-formedness of the attribute column -/

/-- a key `colText` → `colParse` reproduces: non-empty, no white space, no `;` -/
def keyTextOK (k : Str) : Bool := decide (k ≠ []) && k.all fun c => !isPySpace c && decide (c ≠ ';')

/-- a value `colText` → `colParse` reproduces: non-empty, no `;`, no white space at either end -/
def valTextOK (v : Str) : Bool :=
  decide (v ≠ []) && v.all (fun c => decide (c ≠ ';')) &&
  (match v.head? with | some c => !isPySpace c | none => false) &&
  (match v.getLast? with | some c => !isPySpace c | none => false)

/-- the attribute dict of a record can be written as column text and read back: at least one
`(key, value)` pair is written and every key / value is text-clean -/
def Rec.textOK (r : Rec) : Bool :=
  decide (flatAttrs r.attrs ≠ []) &&
  r.attrs.all fun kv =>
    keyTextOK kv.1 &&
    match kv.2 with
    | .str s => valTextOK s
    | .list l => l.all valTextOK

def TxModel.textOK (m : TxModel) : Bool :=
  (match m.transcript with | some t => t.textOK | none => true) &&
  (m.cds ++ m.exon ++ m.startCodon ++ m.stopCodon ++ m.utr ++ m.fiveUtr ++ m.threeUtr ++ m.sec).all
    Rec.textOK

def Anno.textOK (a : Anno) : Bool :=
  (a.genes.all fun kv => kv.2.gene.textOK) && a.txs.all fun kv => kv.2.textOK

end MoPepGen.Gtf
