/-
Layer M for the GVF text format and its byte-offset index (property C13):

* moPepGen/seqvar/VariantRecord.py    `to_string`, `info`, `transcript_id`, `__eq__`, `__hash__`
* moPepGen/seqvar/io.py               `parse_attrs`, `line_to_variant_record`, `iterate`
* moPepGen/circ/CircRNA.py            `CircRNAModel.to_string`
* moPepGen/circ/io.py                 `line_to_circ_model`
* moPepGen/seqvar/GVFIndex.py         `iterate_pointer`, `GVFPointer.to_line/parse/__iter__`
* moPepGen/seqvar/VariantRecordPoolOnDisk.py
                                      `validate_gvf_index`, `load_index`, `generate_index`,
                                      `VariantRecordPoolOnDiskOpener.open`, the pointer loop
                                      of `__getitem__`
* moPepGen/cli/index_gvf.py           `index_gvf`

Text is `List Char` (one element = one byte of the file; the harness keeps the
model streams ASCII, see the assumptions of harness/c13.py).  Python exceptions
are `Except Err`.  SHA-512 is the parameter `H`.  The constant `ATTRS_POSITION`
and the attribute keys of the circRNA reader / writer are parameters here; the
driver instantiates them with `MoPepGen.Generated` (extracted from the source).
No imports outside core Lean.
-/
namespace MoPepGen.Gvf

abbrev Str := List Char

/-- Python exception classes that the modelled functions can raise. -/
inductive Err where
  | index   -- IndexError
  | value   -- ValueError
  | key     -- KeyError
  | type    -- TypeError
  deriving DecidableEq, Repr

def Err.name : Err → String
  | .index => "IndexError" | .value => "ValueError" | .key => "KeyError" | .type => "TypeError"

/-! ## string primitives -/

/-- `s.split(c)` for a one-character separator (never returns `[]`). -/
def splitOn (c : Char) : Str → List Str
  | [] => [[]]
  | x :: xs =>
    if x = c then [] :: splitOn c xs
    else match splitOn c xs with
      | [] => [[x]]
      | h :: t => (x :: h) :: t

/-- `c.join(xs)` -/
def joinWith (c : Char) : List Str → Str
  | [] => []
  | [x] => x
  | x :: y :: r => x ++ c :: joinWith c (y :: r)

/-- `str.isspace()` of one character: the code points Python's `str.strip()`/`rstrip()` remove
(checked against CPython over all code points by the harness stream `space`). -/
def isPySpace (c : Char) : Bool :=
  let n := c.toNat
  (9 ≤ n && n ≤ 13) || (28 ≤ n && n ≤ 32) || n = 133 || n = 160 || n = 5760 ||
  (8192 ≤ n && n ≤ 8202) || n = 8232 || n = 8233 || n = 8239 || n = 8287 || n = 12288

/-- `s.rstrip()` -/
def rstrip : Str → Str
  | [] => []
  | c :: cs =>
    match rstrip cs with
    | [] => if isPySpace c then [] else [c]
    | r => c :: r

/-- the text does not end in a white-space character -/
def noTrailSpace (s : Str) : Bool :=
  match s.getLast? with
  | none => true
  | some c => !isPySpace c

/-- `s.rstrip(c)` for a single character `c` -/
def rstripChar (c : Char) : Str → Str
  | [] => []
  | x :: xs =>
    match rstripChar c xs with
    | [] => if x = c then [] else [x]
    | r => x :: r

/-- `s.lstrip(chars)` -/
def lstripP (p : Char → Bool) (s : Str) : Str := s.dropWhile p

/-- `s.strip(c)` for a single character `c` -/
def stripChar (c : Char) (s : Str) : Str := rstripChar c (s.dropWhile (· = c))

/-- `s.startswith(p)` -/
def startsWith (p s : Str) : Bool := p.isPrefixOf s

/-- ASCII `str.upper()` (keys outside ASCII are excluded by well-formedness). -/
def upper (s : Str) : Str := s.map Char.toUpper

/-! ## decimal integers -/

def digitChar (d : Nat) : Char := Char.ofNat (48 + d)

/-- decimal digits of `n`, most significant first; `fuel ≥ n` is always enough
(structural recursion, so that closed instances evaluate by `decide`) -/
def natToStrAux : Nat → Nat → Str
  | 0, n => [digitChar (n % 10)]
  | fuel + 1, n =>
    if n < 10 then [digitChar n] else natToStrAux fuel (n / 10) ++ [digitChar (n % 10)]

/-- `str(n)` for `n ≥ 0` -/
def natToStr (n : Nat) : Str := natToStrAux n n

def isDigit (c : Char) : Bool := 48 ≤ c.toNat && c.toNat ≤ 57

def parseDigits (acc : Nat) : Str → Option Nat
  | [] => some acc
  | c :: cs => if isDigit c then parseDigits (acc * 10 + (c.toNat - 48)) cs else none

/-- `int(s)` restricted to `[0-9]+` -/
def parseNat (s : Str) : Option Nat :=
  match s with
  | [] => none
  | _ => parseDigits 0 s

/-- `str(z)` -/
def intToStr (z : Int) : Str :=
  match z with
  | .ofNat n => natToStr n
  | .negSucc n => '-' :: natToStr (n + 1)

/-- `int(s)` restricted to `-?[0-9]+` (Python also accepts surrounding white space, `+`,
`_` separators and non-ASCII digits: outside the modelled domain). `ValueError` otherwise. -/
def parseInt (s : Str) : Except Err Int :=
  match s with
  | [] => .error .value
  | c :: r =>
    if c = '-' then
      match parseNat r with
      | some n => .ok (-(n : Int))
      | none => .error .value
    else
      match parseNat (c :: r) with
      | some n => .ok (n : Int)
      | none => .error .value

/-- `[f(x) for x in xs]` with exceptions -/
def mapE {α β : Type} (f : α → Except Err β) : List α → Except Err (List β)
  | [] => .ok []
  | x :: xs =>
    match f x with
    | .error e => .error e
    | .ok y => match mapE f xs with
      | .error e => .error e
      | .ok ys => .ok (y :: ys)

/-- nested loop `for x in xs: out += f(x)` with exceptions -/
def flatMapE {α β : Type} (f : α → Except Err (List β)) : List α → Except Err (List β)
  | [] => .ok []
  | x :: xs =>
    match f x with
    | .error e => .error e
    | .ok ys => match flatMapE f xs with
      | .error e => .error e
      | .ok zs => .ok (ys ++ zs)

/-! ## insertion-ordered dict -/

/-- `d[k] = v` on an insertion-ordered dict -/
def dictSet {β : Type} (d : List (Str × β)) (k : Str) (v : β) : List (Str × β) :=
  match d with
  | [] => [(k, v)]
  | (k', v') :: r => if k' = k then (k', v) :: r else (k', v') :: dictSet r k v

/-- `d.get(k)` -/
def dictGet {β : Type} (d : List (Str × β)) (k : Str) : Option β :=
  match d with
  | [] => none
  | (k', v') :: r => if k' = k then some v' else dictGet r k

/-! ## variant records -/

/-- a value of `VariantRecord.attrs`: anything that is written with `str()` (given as that
text), or a list (written `','.join(str(x) …)`) -/
inductive AttrVal where
  | str (s : Str)
  | list (xs : List Str)
  deriving DecidableEq, Repr

/-- `VariantRecord` (location = seqname, start, end) -/
structure VarRec where
  seqname : Str
  start : Int
  stop : Int
  ref : Str
  alt : Str
  type : Str
  id : Str
  attrs : List (Str × AttrVal)
  deriving DecidableEq, Repr

def tSNV : Str := ['S','N','V']
def tSNP : Str := ['S','N','P']
def tINDEL : Str := ['I','N','D','E','L']
def tMNV : Str := ['M','N','V']
def tRES : Str := ['R','N','A','E','d','i','t','i','n','g','S','i','t','e']
def tFusion : Str := ['F','u','s','i','o','n']
def tInsertion : Str := ['I','n','s','e','r','t','i','o','n']
def tDeletion : Str := ['D','e','l','e','t','i','o','n']
def tSubstitution : Str := ['S','u','b','s','t','i','t','u','t','i','o','n']
def tCircRNA : Str := ['c','i','r','c','R','N','A']
def tSECT : Str := ['S','E','C','T']
def tW2F : Str := ['W','2','F']
/-- `_VARIANT_TYPES` of VariantRecord.py -/
def variantTypes : List Str := [tSNV, tINDEL, tMNV, tFusion, tRES, tInsertion, tDeletion,
  tSubstitution, tCircRNA, tSECT, tW2F]

def aFUSION : Str := ['<','F','U','S','I','O','N','>']
def aDEL : Str := ['<','D','E','L','>']
def aINS : Str := ['<','I','N','S','>']
def aSUB : Str := ['<','S','U','B','>']
def kEND : Str := ['E','N','D']
def kTRANSCRIPT_ID : Str := ['T','R','A','N','S','C','R','I','P','T','_','I','D']

/-- constants of the source that the model depends on -/
structure Consts where
  /-- `constant.ATTRS_POSITION` -/
  attrsPosition : List Str
  /-- `constant.SINGLE_NUCLEOTIDE_SUBSTITUTION` -/
  sns : List Str

/-- the text written for one attribute value (`VariantRecord.info`, loop body) -/
def attrText (C : Consts) (k : Str) (v : AttrVal) : Except Err Str :=
  if C.attrsPosition.contains k then
    match v with
    | .str s => match parseInt s with
      | .ok z => .ok (intToStr (z + 1))
      | .error e => .error e
    | .list _ => .error .type
  else
    match v with
    | .str s => .ok s
    | .list xs => .ok (joinWith ',' xs)

/-- `VariantRecord.info` -/
def info (C : Consts) (attrs : List (Str × AttrVal)) : Except Err Str :=
  match mapE (fun kv => match attrText C kv.1 kv.2 with
      | .ok t => .ok (upper kv.1 ++ '=' :: t ++ [';'])
      | .error e => .error e) attrs with
  | .ok parts => .ok (rstripChar ';' parts.flatten)
  | .error e => .error e

/-- `VariantRecord.__init__` checks -/
def ctorOk (r : VarRec) : Bool :=
  (r.type = tSubstitution || r.type = tDeletion || r.type = tCircRNA ||
    decide (r.stop - r.start = (r.ref.length : Int))) && variantTypes.contains r.type

/-- the REF and ALT columns of `VariantRecord.to_string` (first character of `ref` for the
symbolic kinds: `IndexError` on an empty `ref`) -/
def refAlt (C : Consts) (r : VarRec) : Except Err (Str × Str) :=
  if C.sns.contains r.type then .ok (r.ref, r.alt)
  else match r.ref with
    | [] => .error .index
    | c :: _ =>
      if r.type = tFusion then .ok ([c], aFUSION)
      else if r.type = tInsertion || r.type = tDeletion || r.type = tSubstitution then
        .ok ([c], '<' :: (upper r.type).take 3 ++ ['>'])
      else .ok ([c], '<' :: upper r.type ++ ['>'])

/-- `VariantRecord.to_string` -/
def toLine (C : Consts) (r : VarRec) : Except Err Str :=
  match refAlt C r with
  | .error e => .error e
  | .ok (ref, alt) =>
    match info C r.attrs with
    | .error e => .error e
    | .ok inf =>
      .ok (joinWith '\t' [r.seqname, intToStr (r.start + 1), r.id, ref, alt, ['.'], ['.'], inf])

/-- loop body of `seqvar.io.parse_attrs` -/
def parseAttrStep (C : Consts) (acc : List (Str × AttrVal)) (field : Str) :
    Except Err (List (Str × AttrVal)) :=
  match splitOn '=' field with
  | [k, v] =>
    let v := stripChar '"' v
    if C.attrsPosition.contains k then
      match parseInt v with
      | .ok z => .ok (dictSet acc k (.str (intToStr (z - 1))))
      | .error e => .error e
    else .ok (dictSet acc k (.str v))
  | _ => .error .value

def parseAttrsGo (C : Consts) (acc : List (Str × AttrVal)) : List Str →
    Except Err (List (Str × AttrVal))
  | [] => .ok acc
  | f :: fs => match parseAttrStep C acc f with
    | .ok acc' => parseAttrsGo C acc' fs
    | .error e => .error e

/-- `seqvar.io.parse_attrs` -/
def parseAttrs (C : Consts) (inf : Str) : Except Err (List (Str × AttrVal)) :=
  parseAttrsGo C [] (splitOn ';' inf)

/-- `attrs['END']` then `int(...)` -/
def attrEnd (attrs : List (Str × AttrVal)) : Except Err Int :=
  match dictGet attrs kEND with
  | none => .error .key
  | some (.str s) => parseInt s
  | some (.list _) => .error .type

/-- the `end` / `_type` branch of `line_to_variant_record` -/
def endType (start : Int) (f3 f4 : Str) (attrs : List (Str × AttrVal)) : Except Err (Int × Str) :=
  if !(startsWith ['<'] f4) then
    .ok (start + f3.length,
      if f3.length = 1 && f4.length = 1 then tSNV
      else if f3.length = 1 || f4.length = 1 then tINDEL else tMNV)
  else if f4 = aFUSION then .ok (start + 1, tFusion)
  else if f4 = aDEL then match attrEnd attrs with
    | .ok e => .ok (e, tDeletion) | .error e => .error e
  else if f4 = aINS then .ok (start + 1, tInsertion)
  else if f4 = aSUB then match attrEnd attrs with
    | .ok e => .ok (e, tSubstitution) | .error e => .error e
  else .error .value

/-- `seqvar.io.line_to_variant_record` -/
def parseLine (C : Consts) (line : Str) : Except Err VarRec :=
  match splitOn '\t' (rstrip line) with
  | f0 :: f1 :: f2 :: f3 :: f4 :: _ :: _ :: f7 :: _ =>
    match parseInt f1 with
    | .error e => .error e
    | .ok p =>
      let start := p - 1
      match parseAttrs C f7 with
      | .error e => .error e
      | .ok attrs =>
        match endType start f3 f4 attrs with
        | .error e => .error e
        | .ok (stop, ty) =>
          -- Bio.SeqFeature.SimpleLocation: ValueError when end < start
          if stop < start then .error .value
          else
            let r : VarRec := { seqname := f0, start := start, stop := stop, ref := f3,
                                alt := f4, type := ty, id := f2, attrs := attrs }
            if ctorOk r then .ok r else .error .value
  | _ :: f1 :: _ =>
    -- fewer than 8 fields: `int(fields[1])` is evaluated before the first missing index
    match parseInt f1 with
    | .error e => .error e
    | .ok _ => .error .index
  | _ => .error .index

/-- `VariantRecord.transcript_id` -/
def VarRec.transcriptId (r : VarRec) : Except Err Str :=
  match dictGet r.attrs kTRANSCRIPT_ID with
  | some (.str s) => .ok s
  | some (.list _) => .error .type     -- a list is not a dict key downstream
  | none => .ok r.seqname

/-- `VariantRecord.__eq__` as it stood before the repair df87733, which added the comparison of
`ACCEPTER_TRANSCRIPT_ID` and `ACCEPTER_POSITION` (and both attributes to the hashed tuple) -/
def VarRec.pyEq (a b : VarRec) : Bool :=
  a.start = b.start && a.stop = b.stop && a.ref = b.ref && a.alt = b.alt && a.type = b.type

/-- the tuple hashed by `VariantRecord.__hash__` -/
def VarRec.hashKey (r : VarRec) : List (Option AttrVal) × (Int × Int × Str × Str × Str) :=
  ( [ ['D','O','N','O','R','_','T','R','A','N','S','C','R','I','P','T','_','I','D'],
      ['S','T','A','R','T'], ['E','N','D'], ['D','O','N','O','R','_','S','T','A','R','T'],
      ['D','O','N','O','R','_','E','N','D'],
      ['L','E','F','T','_','I','N','S','E','R','T','_','S','T','A','R','T'],
      ['L','E','F','T','_','I','N','S','E','R','T','_','E','N','D'],
      ['R','I','G','H','T','_','I','N','S','E','R','T','_','S','T','A','R','T'],
      ['R','I','G','H','T','_','I','N','S','E','R','T','_','E','N','D'] ].map (dictGet r.attrs),
    (r.start, r.stop, r.ref, r.alt, r.type) )

/-- two records collapse in `set(records)` when hash key and `__eq__` agree
(hash collisions of Python's tuple hash are not modelled) -/
def VarRec.sameInSet (a b : VarRec) : Bool := a.hashKey = b.hashKey && a.pyEq b

/-- `set(records)` keeping the first representative, in first-occurrence order -/
def dedupBy {α : Type} (same : α → α → Bool) : List α → List α
  | [] => []
  | x :: xs => x :: (dedupBy same xs).filter (fun y => !same x y)

/-! ## Layer S: well-formed records and the normal form a record has after a round trip -/

/-- no tab: the text can be a GVF column -/
def noTab (s : Str) : Bool := !s.contains '\t'

/-- a written attribute value: stays inside its `KEY=value;` cell and is not quoted -/
def textOK (t : Str) : Bool :=
  !t.contains '\t' && !t.contains ';' && !t.contains '=' &&
  t.head? != some '"' && t.getLast? != some '"'

/-- an attribute key: stays inside its cell and is its own `upper()` -/
def keyOK (k : Str) : Bool :=
  !k.contains '\t' && !k.contains ';' && !k.contains '=' && upper k == k

/-- the text `info` writes for an attribute (`[]` when `attrText` raises) -/
def textOf (C : Consts) (kv : Str × AttrVal) : Str :=
  match attrText C kv.1 kv.2 with
  | .ok t => t
  | .error _ => []

def attrOK (C : Consts) (kv : Str × AttrVal) : Bool :=
  keyOK kv.1 && match attrText C kv.1 kv.2 with
    | .ok t => textOK t
    | .error _ => false

/-- there is a last attribute and its text does not end in white space
(`line.rstrip()` in the reader) -/
def lastOK (C : Consts) (attrs : List (Str × AttrVal)) : Bool :=
  match attrs.getLast? with
  | none => false
  | some kv => noTrailSpace (textOf C kv)

/-- record kinds written with literal REF / ALT -/
def snsKinds : List Str := [tSNV, tINDEL, tMNV, tRES]
/-- record kinds written with a symbolic ALT -/
def symKinds : List Str := [tFusion, tInsertion, tDeletion, tSubstitution]

/-- the constants extracted from the source classify the eight GVF kinds as the model assumes -/
def ConstsOK (C : Consts) : Bool :=
  snsKinds.all (C.sns.contains ·) && symKinds.all (!C.sns.contains ·)

/-- kind-specific well-formedness -/
def kindOK (r : VarRec) : Bool :=
  if snsKinds.contains r.type then
    !startsWith ['<'] r.alt && noTab r.ref && noTab r.alt &&
      decide (r.stop - r.start = (r.ref.length : Int))
  else if r.type = tFusion || r.type = tInsertion then
    match r.ref with
    | [] => false
    | c :: _ => c != '\t'
  else if r.type = tDeletion || r.type = tSubstitution then
    (match r.ref with
      | [] => false
      | c :: _ => c != '\t') &&
    (match attrEnd r.attrs with
      | .ok e => decide (r.start ≤ e)
      | .error _ => false)
  else false

/-- a well-formed record of one of the eight GVF kinds (decidable) -/
def WFrec (C : Consts) (r : VarRec) : Bool :=
  noTab r.seqname && noTab r.id && kindOK r && r.attrs.all (attrOK C) && lastOK C r.attrs &&
  decide ((r.attrs.map (·.1)).Nodup)

/-- the value `parse_attrs` stores for a written attribute -/
def parsedVal (C : Consts) (k : Str) (v : AttrVal) : AttrVal :=
  if C.attrsPosition.contains k then
    match v with
    | .str s => match parseInt s with
      | .ok z => .str (intToStr z)
      | .error _ => v
    | .list _ => v
  else
    match v with
    | .str s => .str s
    | .list xs => .str (joinWith ',' xs)

def normAttrs (C : Consts) (attrs : List (Str × AttrVal)) : List (Str × AttrVal) :=
  attrs.map fun kv => (kv.1, parsedVal C kv.1 kv.2)

/-- the record read back from the line of `r`: same seqname, start, id, attribute keys and
order; REF/ALT as written; values as text (position values in canonical decimal); `end` and
`type` recomputed by the reader -/
def normalise (C : Consts) (r : VarRec) : VarRec :=
  match refAlt C r with
  | .ok (ref, alt) =>
    let attrs := normAttrs C r.attrs
    match endType r.start ref alt attrs with
    | .ok (stop, ty) => { r with stop := stop, ref := ref, alt := alt, type := ty, attrs := attrs }
    | .error _ => r
  | .error _ => r

/-- a record that is already in the form the reader produces: nothing is lost -/
def Canonical (C : Consts) (r : VarRec) : Bool :=
  decide (normalise C r = r)

/-! ## circRNA records -/

/-- `CircRNAModel` (fragments = (start, end) of each `SeqFeature`; the fragment type
`'intron' if j+1 in introns else 'exon'` is a function of the other fields) -/
structure Circ where
  geneId : Str
  fragments : List (Int × Int)
  intron : List Int
  id : Str
  txId : Str
  geneName : Str
  genomicPosition : Str
  deriving DecidableEq, Repr

def kOFFSET : Str := ['O','F','F','S','E','T']
def kLENGTH : Str := ['L','E','N','G','T','H']
def kINTRON : Str := ['I','N','T','R','O','N']
def kGENE_SYMBOL : Str := ['G','E','N','E','_','S','Y','M','B','O','L']

/-- `CircRNAModel.to_string`; `wk` is the key under which the writer emits
`self.genomic_position` -/
def circToLine (wk : Str) (c : Circ) : Except Err Str :=
  match c.fragments with
  | [] => .error .index
  | (s0, _) :: _ =>
    let offset := joinWith ',' (c.fragments.map fun f => intToStr (f.1 - s0))
    let length := joinWith ',' (c.fragments.map fun f => intToStr (f.2 - f.1))
    let intron := joinWith ',' (c.intron.map intToStr)
    let inf := joinWith ';' [kOFFSET ++ '=' :: offset, kLENGTH ++ '=' :: length,
      kINTRON ++ '=' :: intron, kTRANSCRIPT_ID ++ '=' :: c.txId,
      kGENE_SYMBOL ++ '=' :: c.geneName, wk ++ '=' :: c.genomicPosition]
    .ok (joinWith '\t' [c.geneId, intToStr s0, c.id, ['.'], ['.'], ['.'], ['.'], inf])

/-- value of the `attrs` dict of `line_to_circ_model` -/
inductive CircVal where
  | ints (l : List Int)
  | s (v : Str)
  deriving DecidableEq, Repr

/-- loop body over `fields[7].split(';')` in `line_to_circ_model` -/
def circAttrStep (acc : List (Str × CircVal)) (field : Str) : Except Err (List (Str × CircVal)) :=
  match splitOn '=' field with
  | [k, v] =>
    if k = kOFFSET || k = kLENGTH then
      match mapE parseInt (splitOn ',' v) with
      | .ok l => .ok (dictSet acc k (.ints l))
      | .error e => .error e
    else if k = kINTRON then
      if v = [] then .ok (dictSet acc k (.ints []))
      else match mapE parseInt (splitOn ',' v) with
        | .ok l => .ok (dictSet acc k (.ints l))
        | .error e => .error e
    else .ok (dictSet acc k (.s v))
  | _ => .error .value

def circAttrsGo (acc : List (Str × CircVal)) : List Str → Except Err (List (Str × CircVal))
  | [] => .ok acc
  | f :: fs => match circAttrStep acc f with
    | .ok acc' => circAttrsGo acc' fs
    | .error e => .error e

def getInts (d : List (Str × CircVal)) (k : Str) : Except Err (List Int) :=
  match dictGet d k with
  | none => .error .key
  | some (.ints l) => .ok l
  | some (.s _) => .error .type

def getStr (d : List (Str × CircVal)) (k : Str) : Except Err Str :=
  match dictGet d k with
  | none => .error .key
  | some (.s v) => .ok v
  | some (.ints _) => .error .type

/-- `zip(offsets, lengths)` → fragments; `FeatureLocation` raises `ValueError` when end < start -/
def circFragments (start : Int) : List Int → List Int → Except Err (List (Int × Int))
  | o :: os, l :: ls =>
    if l < 0 then .error .value
    else match circFragments start os ls with
      | .ok fs => .ok ((start + o, start + o + l) :: fs)
      | .error e => .error e
  | _, _ => .ok []

/-- `circ.io.line_to_circ_model`; `rk` is the key the reader looks up for the genomic
position (`attrs.get(rk, '')`) -/
def circParseLine (rk : Str) (line : Str) : Except Err Circ :=
  match splitOn '\t' (rstrip line) with
  | f0 :: f1 :: f2 :: _ :: _ :: _ :: _ :: f7 :: _ =>
    match parseInt f1 with
    | .error e => .error e
    | .ok start =>
      match circAttrsGo [] (splitOn ';' f7) with
      | .error e => .error e
      | .ok attrs =>
        match getInts attrs kOFFSET, getInts attrs kLENGTH, getInts attrs kINTRON,
              getStr attrs kTRANSCRIPT_ID, getStr attrs kGENE_SYMBOL with
        | .ok offs, .ok lens, .ok intr, .ok tx, .ok sym =>
          let gp : Except Err Str := match dictGet attrs rk with
            | none => .ok []
            | some (.s v) => .ok v
            | some (.ints _) => .error .type
          match gp with
          | .error e => .error e
          | .ok g =>
            match circFragments start offs lens with
            | .error e => .error e
            | .ok frags => .ok { geneId := f0, fragments := frags, intron := intr, id := f2,
                                 txId := tx, geneName := sym, genomicPosition := g }
        | .error e, _, _, _, _ => .error e
        | _, .error e, _, _, _ => .error e
        | _, _, .error e, _, _ => .error e
        | _, _, _, .error e, _ => .error e
        | _, _, _, _, .error e => .error e
  | _ :: f1 :: _ =>
    match parseInt f1 with
    | .error e => .error e
    | .ok _ => .error .index
  | _ => .error .index

/-! ## byte-offset index -/

/-- `GVFPointer` without its handle: key, start, end (byte offsets) -/
structure Ptr where
  key : Str
  start : Nat
  stop : Nat
  deriving DecidableEq, Repr

/-- `for line in handle` on a binary handle: split after every `\n`, keeping it -/
def splitLinesKeep : Str → List Str
  | [] => []
  | c :: cs =>
    if c = '\n' then [c] :: splitLinesKeep cs
    else match splitLinesKeep cs with
      | [] => [[c]]
      | h :: t => (c :: h) :: t

def isComment (l : Str) : Bool := startsWith ['#'] l

/-- loop of `GVFIndex.iterate_pointer` from line `ls` on, with `line_end` and the pointer
under construction (`cur_key` is always `pointer.key`).  `keyOf` = parse the record of a
line and take its `transcript_id`. -/
def iterPtrGo (keyOf : Str → Except Err Str) : List Str → Nat → Option Ptr →
    Except Err (List Ptr)
  | [], _, none => .ok []
  | [], _, some p => .ok [p]
  | l :: ls, lineEnd, cur =>
    let lineStart := lineEnd
    let lineEnd := lineEnd + l.length
    if isComment l then iterPtrGo keyOf ls lineEnd cur
    else match keyOf l with
      | .error e => .error e
      | .ok key =>
        match cur with
        | none => iterPtrGo keyOf ls lineEnd (some ⟨key, lineStart, lineEnd⟩)
        | some p =>
          if p.key = key then iterPtrGo keyOf ls lineEnd (some { p with stop := lineEnd })
          else match iterPtrGo keyOf ls lineEnd (some ⟨key, lineStart, lineEnd⟩) with
            | .ok ps => .ok (p :: ps)
            | .error e => .error e

/-- `list(GVFIndex.iterate_pointer(handle, is_circ_rna))` on the bytes `content` -/
def iteratePointer (keyOf : Str → Except Err Str) (content : Str) : Except Err (List Ptr) :=
  iterPtrGo keyOf (splitLinesKeep content) 0 none

/-- `handle.seek(start); handle.read(end - start)` -/
def slice (content : Str) (p : Ptr) : Str := (content.drop p.start).take (p.stop - p.start)

/-- the lines `GVFPointer.__iter__` hands to the record parser -/
def loadLines (content : Str) (p : Ptr) : List Str := splitOn '\n' (rstrip (slice content p))

/-- `GVFPointer.load()` -/
def loadPtr {R : Type} (parse : Str → Except Err R) (content : Str) (p : Ptr) :
    Except Err (List R) :=
  mapE parse (loadLines content p)

/-- linear scan (`seqvar.io.iterate` / `circ.io.parse`): the non-comment lines -/
def scanLines (content : Str) : List Str := (splitLinesKeep content).filter (!isComment ·)

/-- `GVFPointer.to_line` -/
def Ptr.toLine (p : Ptr) : Str :=
  joinWith '\t' [p.key, natToStr p.start, natToStr (p.stop - p.start)]

def checksumPrefix : Str := ['C','H','E','C','K','S','U','M','=']

/-- the `.idx` text `index_gvf` writes: checksum line, then one line per pointer -/
def writeIdx (sum : Str) (ps : List Ptr) : Str :=
  (['#', ' '] ++ checksumPrefix ++ sum ++ ['\n']) ++ (ps.map fun p => p.toLine ++ ['\n']).flatten

/-- `index_gvf` (content of the `.idx` it produces for the GVF bytes `gvf`) -/
def indexGvf (H : Str → Str) (keyOf : Str → Except Err Str) (gvf : Str) : Except Err Str :=
  match iteratePointer keyOf gvf with
  | .ok ps => .ok (writeIdx (H gvf) ps)
  | .error e => .error e

/-- one line of `GVFPointer.parse` -/
def parsePtrLine (line : Str) : Except Err Ptr :=
  match splitOn '\t' (rstrip line) with
  | [k, s, l] =>
    match parseInt s, parseInt l with
    | .ok s, .ok l => .ok ⟨k, s.toNat, (s + l).toNat⟩
    | .error e, _ => .error e
    | _, .error e => .error e
  | _ => .error .value

/-- `list(GVFPointer.parse(index_handle, …))` -/
def parseIdx (idx : Str) : Except Err (List Ptr) :=
  mapE parsePtrLine ((splitLinesKeep idx).filter (!isComment ·))

inductive IdxReject where
  | missingChecksum   -- ValueError('Cannot find checksum value from the idx file.')
  | mismatch          -- ValueError("GVF checksum don't match.")
  deriving DecidableEq, Repr

/-- the loop of `validate_gvf_index` that finds `sum_expect` -/
def findChecksum : List Str → Option Str
  | [] => none
  | l :: ls =>
    if isComment l then
      let l' := lstripP (fun c => c = '#' || c = ' ') (rstrip l)
      if startsWith checksumPrefix l' then (splitOn '=' l')[1]?
      else findChecksum ls
    else none

/-- `VariantRecordPoolOnDisk.validate_gvf_index` -/
def validate (H : Str → Str) (gvf idx : Str) : Except IdxReject Unit :=
  match findChecksum (splitLinesKeep idx) with
  | none => .error .missingChecksum
  | some s => if H gvf = s then .ok () else .error .mismatch

inductive OpenErr where
  | reject (r : IdxReject)
  | py (e : Err)
  deriving DecidableEq, Repr

/-- one iteration of `VariantRecordPoolOnDiskOpener.open`: the pointers registered for a
GVF file, from its `.idx` when there is one (after validation), else generated -/
def openFile (H : Str → Str) (keyOf : Str → Except Err Str) (gvf : Str) (idx : Option Str) :
    Except OpenErr (List Ptr) :=
  match idx with
  | some i =>
    match validate H gvf i with
    | .error r => .error (.reject r)
    | .ok () => match parseIdx i with
      | .ok ps => .ok ps
      | .error e => .error (.py e)
  | none => match iteratePointer keyOf gvf with
    | .ok ps => .ok ps
    | .error e => .error (.py e)

/-- an opened pool: per file (in `gvf_files` order) its bytes and its pointers;
`pool.pointers[k]` is the concatenation over the files of the pointers with key `k` -/
abbrev Pool := List (Str × List Ptr)

def openPool (H : Str → Str) (keyOf : Str → Except Err Str) :
    List (Str × Option Str) → Except OpenErr Pool
  | [] => .ok []
  | (gvf, idx) :: fs =>
    match openFile H keyOf gvf idx with
    | .error e => .error e
    | .ok ps => match openPool H keyOf fs with
      | .ok pool => .ok ((gvf, ps) :: pool)
      | .error e => .error e

/-- `key in pool` -/
def Pool.contains (pool : Pool) (k : Str) : Bool :=
  pool.any fun f => f.2.any fun p => p.key = k

/-- the text lines reached by `for pointer in self.pointers[key]: pointer.load()` -/
def Pool.lines (pool : Pool) (k : Str) : List Str :=
  pool.flatMap fun f => (f.2.filter (·.key = k)).flatMap (loadLines f.1)

/-- the records loop of `VariantRecordPoolOnDisk.__getitem__` (before `set()`) -/
def Pool.records {R : Type} (parse : Str → Except Err R) (pool : Pool) (k : Str) :
    Except Err (List R) :=
  flatMapE (fun f => flatMapE (loadPtr parse f.1) (f.2.filter (·.key = k))) pool

/-- the line's record has transcript id `k` -/
def keyIs (keyOf : Str → Except Err Str) (k : Str) (l : Str) : Bool :=
  match keyOf l with
  | .ok k' => k' = k
  | .error _ => false

/-- linear scan of the files: all records whose transcript id is `k`, in file order -/
def scanRecords {R : Type} (parse : Str → Except Err R) (keyOf : Str → Except Err Str)
    (files : List Str) (k : Str) : Except Err (List R) :=
  mapE parse (files.flatMap fun c => (scanLines c).filter (keyIs keyOf k))

/-- `record.transcript_id` of the parsed line, as `iterate_pointer` computes it (variant GVF) -/
def varKey (C : Consts) (l : Str) : Except Err Str :=
  match parseLine C l with
  | .ok r => r.transcriptId
  | .error e => .error e

/-- the same for a circRNA GVF -/
def circKey (rk : Str) (l : Str) : Except Err Str :=
  match circParseLine rk l with
  | .ok c => .ok c.txId
  | .error e => .error e

/-! ## Layer S for files -/

/-- one physical line: ends with its only `\n` -/
def isLine (l : Str) : Bool := l.getLast? == some '\n' && !(l.dropLast.contains '\n')

/-- a record line of a GVF body: a physical line that is not a comment, not blank, and whose
record parses to a transcript id -/
def goodLine (keyOf : Str → Except Err Str) (l : Str) : Bool :=
  isLine l && !isComment l && rstrip l != [] &&
    match keyOf l with
    | .ok _ => true
    | .error _ => false

/-- a GVF file as `write` produces it: comment lines, then record lines -/
structure GvfFile where
  header : List Str
  body : List Str

def GvfFile.content (f : GvfFile) : Str := (f.header ++ f.body).flatten

def GvfFile.wf (keyOf : Str → Except Err Str) (f : GvfFile) : Bool :=
  f.header.all (fun l => isLine l && isComment l) && f.body.all (goodLine keyOf)

/-- a value of the circRNA INFO column: stays inside its `KEY=value;` cell -/
def cellOK (t : Str) : Bool := !t.contains '\t' && !t.contains ';' && !t.contains '='

/-- the five keys the circRNA reader and writer agree on -/
def circFixedKeys : List Str := [kOFFSET, kLENGTH, kINTRON, kTRANSCRIPT_ID, kGENE_SYMBOL]

/-- a well-formed circRNA record, for a writer that emits the genomic position under key `k` -/
def WFcirc (k : Str) (c : Circ) : Bool :=
  noTab c.geneId && noTab c.id && c.fragments != [] && c.fragments.all (fun f => decide (f.1 ≤ f.2)) &&
  cellOK c.txId && cellOK c.geneName && cellOK c.genomicPosition && cellOK k &&
  noTrailSpace c.genomicPosition && !circFixedKeys.contains k

/-- a checksum text that survives its `# CHECKSUM=...` line (any hex digest does) -/
def sumOK (s : Str) : Bool := !s.contains '\n' && !s.contains '=' && noTrailSpace s

/-- a pointer whose `.idx` line can be read back -/
def ptrOK (p : Ptr) : Bool :=
  !p.key.contains '\t' && !p.key.contains '\n' && p.key.head? != some '#' &&
    decide (p.start ≤ p.stop)

end MoPepGen.Gvf
