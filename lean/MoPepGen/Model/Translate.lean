/-
Layer G, function level, THIRD stage: `ThreeFrameTVG.translate`
(moPepGen/svgraph/ThreeFrameTVG.py) with `TVGNode.translate`, `PVGNode.fix_selenocysteines`,
`PeptideVariantGraph.add_stop`, `TVGNode.get_reference_next`, `PVGNode.split_node` (as called at
the end of `translate`: the fake stop for an annotated CDS end that is not a stop codon).

Input = the transcript variant graph as it stands when `translate` is entered (after
`fit_into_codons`): nodes with DNA sequence, typed out-edges in the iteration order of the
Python `set`, reading-frame index, the variants they carry with node-local locations, the matched
reference locations (`seq.locations`, needed by `fix_selenocysteines` and by `get_query_index`),
level, `branch`, `orf`; and the graph-level fields `reading_frames`, `has_known_orf`, `seq.orf`,
`sect_variants`, `mrna_end_nf`, `is_circ_rna()`.

Output = the peptide variant graph `translate` returns.  Python nodes are objects without names;
the model NAMES the `PVGNode` that `visited` holds for TVG node `o` by the index `o + 2`
(0 = the root, 1 = `PeptideVariantGraph.stop`), the nodes the final split creates are appended
behind.  `raise` → `Except`.

Not carried by the model: the flags `is_stop_altering` / `is_silent` that
`TVGNode.check_stop_altering` sets on the variant records (nothing else in `translate` reads
them), `PVGNode.orf`, and the reference part of the amino-acid locations after
`fix_selenocysteines` has used them.

Scope (decidable, `linearInput`): a linear transcript (`is_circ_rna()` false), every node on
level 0 and every matched location pointing into the level-0 graph (no subgraphs).  The
functions below follow the code also outside this scope wherever the code is a function of the
dumped fields.
-/
import MoPepGen.Model.Graph
namespace MoPepGen.Translate
open MoPepGen MoPepGen.Spec MoPepGen.Graph

/-! ### input -/

/-- `MatchedLocation` of a TVG node's sequence (DNA coordinates): `query` = range inside the
node, `ref` = range on the transcript; `lvl0` = `loc.ref.seqname in subgraphs.data and
subgraphs[loc.ref.seqname].level == 0` -/
structure DLoc where
  qStart : Nat
  qEnd : Nat
  /-- `loc.query.reading_frame_index`; 3 = `None` -/
  qRf : Nat
  rStart : Nat
  rEnd : Nat
  lvl0 : Bool := true
  deriving Repr, Inhabited, DecidableEq

/-- `VariantRecordWithCoordinate` on a TVG node: ids of the GVF records, node-local location -/
structure DVar where
  ids : List Nat
  start : Nat
  stop : Nat
  deriving Repr, Inhabited, DecidableEq

/-- `TVGEdge.type` -/
inductive EType where
  | reference | variantStart | variantEnd
  deriving Repr, Inhabited, DecidableEq

structure DNode where
  seq : List Char
  /-- `seq is None` (the root and the three frame roots) -/
  isNull : Bool := false
  /-- `out_edges` in the iteration order of the set: (index of `out_node`, type) -/
  out : List (Nat × EType)
  /-- `reading_frame_index`; 3 = `None` -/
  rf : Nat
  vars : List DVar := []
  locs : List DLoc := []
  level : Nat := 0
  branch : Bool := false
  /-- `node.orf[1]` -/
  orfEnd : Option Nat := none
  deriving Repr, Inhabited

structure TGraphIn where
  nodes : Array DNode
  /-- `self.reading_frames` (node indices) -/
  frames : List Nat
  hasKnownOrf : Bool
  /-- `self.seq.orf` -/
  orf : Option (Nat × Nat)
  /-- `self.sect_variants`: the locations of the annotated Sec codons, in list order -/
  sect : List (Nat × Nat) := []
  mrnaEndNF : Bool := false
  /-- `self.is_circ_rna()` -/
  isCirc : Bool := false
  deriving Repr, Inhabited

/-- `ThreeFrameTVG.should_clip_trailing_nodes` -/
def TGraphIn.clip (g : TGraphIn) : Bool := g.isCirc || g.mrnaEndNF

/-- a linear transcript without subgraphs: the scope in which the driver compares this model with the
real `translate` (the theorems themselves assume `isCirc = false` only) -/
def linearInput (g : TGraphIn) : Bool :=
  !g.isCirc && g.nodes.all fun n => n.level == 0 && n.locs.all (·.lvl0)

/-! ### output -/

/-- `MatchedLocation` of the translated node (amino-acid coordinates, `TVGNode.translate`) -/
structure ALoc where
  qStart : Nat
  qEnd : Nat
  qStartOff : Nat
  qEndOff : Nat
  qRf : Nat
  rStart : Int
  rEnd : Int
  rStartOff : Int
  rEndOff : Int
  lvl0 : Bool
  deriving Repr, Inhabited, DecidableEq

/-- `VariantRecordWithCoordinate` in protein coordinates -/
structure PVar where
  ids : List Nat
  start : Nat
  stop : Nat
  startOff : Nat
  endOff : Nat
  deriving Repr, Inhabited, DecidableEq

structure PNode where
  /-- false = no such Python object (the slot of a TVG node the search never reached) -/
  present : Bool := true
  seq : List Char
  /-- `seq is None` (the root) -/
  isNull : Bool := false
  /-- `out_nodes` (a set: no duplicates), in insertion order -/
  out : List Nat := []
  rf : Nat
  vars : List PVar := []
  truncated : Bool := false
  /-- `selenocysteines`: node-local positions -/
  secs : List Nat := []
  level : Nat := 0
  deriving Repr, Inhabited

structure PGraph where
  nodes : Array PNode
  /-- `pgraph.reading_frames` -/
  frames : List (Option Nat)
  /-- `pgraph.known_orf` -/
  knownOrf : Option (Nat × Nat)
  deriving Repr, Inhabited

def rootIx : Nat := 0
/-- `PeptideVariantGraph.stop` -/
def stopIx : Nat := 1
/-- the name of `visited[o]` -/
def pix (o : Nat) : Nat := o + 2

def absent : PNode := { present := false, seq := [], rf := 3 }

/-! ### `TVGNode.translate` -/

/-- sequence part: `self.seq[:len - len % 3].translate()` for a node without out-edges,
`self.seq.translate()` otherwise (Biopython drops a trailing partial codon) -/
def nodeAA (n : DNode) : List Char :=
  if n.out.isEmpty then translate (n.seq.take (n.seq.length - n.seq.length % 3))
  else translate n.seq

/-- `math.ceil(x / 3)` -/
def ceilDiv3 (x : Nat) : Nat := (x + 2) / 3

/-- one matched location in amino-acid coordinates (the loop over `self.seq.locations`) -/
def aaLoc (l : DLoc) : ALoc :=
  let qs := l.qStart / 3
  let qe := ceilDiv3 l.qEnd
  let qso := l.qStart - qs * 3
  let qeo := qe * 3 - l.qEnd
  let dnaRefCodonStart : Int := (l.rStart : Int) - ((l.qStart : Int) - (qs * 3 : Nat))
  let rs : Int := dnaRefCodonStart / 3        -- `math.floor` (Int `/` rounds down for a positive divisor)
  let dnaRefCodonEnd : Int := (l.rEnd : Int) + (((qe * 3 : Nat) : Int) - (l.qEnd : Int))
  let re : Int := rs + ((qe : Int) - (qs : Int))      -- `ref_start + len(query)`
  { qStart := qs, qEnd := qe, qStartOff := qso, qEndOff := qeo, qRf := l.qRf,
    rStart := rs, rEnd := re, rStartOff := dnaRefCodonStart - rs * 3,
    rEndOff := dnaRefCodonEnd - re * 3, lvl0 := l.lvl0 }

/-- `VariantRecordWithCoordinate.to_protein_coordinates` -/
def toProteinCoordinates (v : DVar) : PVar :=
  let s := v.start / 3
  let e := ceilDiv3 v.stop
  { ids := v.ids, start := s, stop := e, startOff := v.start - s * 3, endOff := e * 3 - v.stop }

/-! ### `PVGNode.fix_selenocysteines` -/

def ALoc.len (l : ALoc) : Nat := l.qEnd - l.qStart
/-- `MatchedLocation.get_ref_codon_start` -/
def ALoc.refCodonStart (l : ALoc) : Int := l.rStart * 3 + l.rStartOff
/-- `MatchedLocation.get_ref_codon_end` -/
def ALoc.refCodonEnd (l : ALoc) : Int := l.rEnd * 3 + l.rEndOff
/-- `MatchedLocation.get_ref_dna_start` -/
def ALoc.refDnaStart (l : ALoc) : Int := l.refCodonStart + l.qStartOff

/-- the whole-codon window of a location on the transcript: `ref_codon_start`, `ref_codon_end`
with the start / end offset guards -/
def ALoc.window (l : ALoc) : Int × Int :=
  (if l.qStartOff > 0 then l.refCodonStart + 3 else l.refCodonStart,
   if l.qEndOff > 0 then l.refCodonEnd - 3 else l.refCodonEnd)

/-- the `while loc and sect` loop: two cursors over the locations and the Sec records; returns
the positions `k` collected in `sects`.  (`MatchedLocation.__len__` makes an empty location
falsy: the loop ends there.)  Every iteration advances one cursor, so `fuel` = the number of
locations plus the number of Sec records never runs out before a list does
(`Lemmas/TranslateSec.lean`, `secLoopAux_fuel`). -/
def secLoopAux : Nat → List ALoc → List (Nat × Nat) → List Nat
  | 0, _, _ => []
  | _ + 1, [], _ => []
  | _ + 1, _ :: _, [] => []
  | fuel + 1, loc :: ls, sect :: ss =>
    if loc.len == 0 then []
    else if !loc.lvl0 then secLoopAux fuel ls (sect :: ss)
    else if loc.qRf != sect.1 % 3 then
      if loc.refDnaStart > (sect.1 : Int) then secLoopAux fuel (loc :: ls) ss
      else secLoopAux fuel ls (sect :: ss)
    else
      let w := loc.window
      if w.1 ≥ w.2 then secLoopAux fuel ls (sect :: ss)
      else if w.1 ≤ (sect.1 : Int) && w.2 ≥ (sect.2 : Int) then    -- `dna_loc.is_superset`
        (loc.qStart + (Int.tdiv ((sect.1 : Int) - loc.refCodonStart) 3).toNat) :: secLoopAux fuel (loc :: ls) ss
      else if w.1 > (sect.1 : Int) || (w.1 == (sect.1 : Int) && w.2 > (sect.2 : Int)) then   -- `dna_loc > sect.location`
        secLoopAux fuel (loc :: ls) ss
      else secLoopAux fuel ls (sect :: ss)

def secLoop (locs : List ALoc) (sects : List (Nat × Nat)) : List Nat :=
  secLoopAux (locs.length + sects.length) locs sects

/-- the rebuilding loop `for i, sect in enumerate(sects)`: `prev` = the previous `k` -/
def rebuildSec (seq : List Char) : Option Nat → List Nat → List Char
  | none, [] => seq                       -- `if not sects: return`
  | some p, [] => seq.drop (p + 1)        -- behind the last one: `seq[k+1:]`
  | none, k :: ks => seq.take k ++ 'U' :: rebuildSec seq (some k) ks
  | some p, k :: ks => slice seq (p + 1) k ++ 'U' :: rebuildSec seq (some k) ks

/-- `fix_selenocysteines`: (new sequence, `selenocysteines`); `self.seq.seq[k]` raises IndexError
for a position outside the sequence -/
def fixSelenocysteines (locs : List ALoc) (sect : List (Nat × Nat)) (seq : List Char) :
    Except String (List Char × List Nat) :=
  let ks := secLoop locs sect
  if ks.any (fun k => seq.length ≤ k) then .error "IndexError:fix_selenocysteines"
  else .ok (rebuildSec seq none ks, ks)

/-! ### the body of the edge loop of `ThreeFrameTVG.translate` -/

/-- `DNASeqRecordWithCoordinates.get_query_index` (`none` = -1) -/
def queryIndex : List DLoc → Nat → Option Nat
  | [], _ => none
  | l :: ls, r => if l.rStart ≤ r && r < l.rEnd then some (l.qStart + r - l.rStart) else queryIndex ls r

/-- `orf = known_orf if has_known_orf else out_node.orf`; the part read later: `orf[1]`
(`has_known_orf` with `seq.orf is None` has raised before the loop) -/
def orfEndOf (g : TGraphIn) (n : DNode) : Option Nat :=
  if g.hasKnownOrf then g.orf.map (·.2) else n.orfEnd

/-- the new `PVGNode` for `out_node`: `TVGNode.translate`, then (unless circRNA)
`fix_selenocysteines`, then the empty-sequence case of a node without successors outside
`should_clip_trailing_nodes` (`new_pnode.seq.seq = Seq('*')`) -/
def mkNode (g : TGraphIn) (n : DNode) : Except String PNode :=
  if n.isNull then .error "TypeError:null-node"
  else
    match (if g.isCirc then .ok (nodeAA n, []) else fixSelenocysteines (n.locs.map aaLoc) g.sect (nodeAA n)) with
    | .error e => .error e
    | .ok (aa, secs) =>
      let aa := if aa.isEmpty && n.out.isEmpty && !g.clip then ['*'] else aa
      .ok { seq := aa, rf := n.rf, vars := n.vars.map toProteinCoordinates, secs := secs, level := n.level }

/-- `terminal_nodes.append((new_pnode, pnode_orf_end))`: the annotated CDS end lies inside the
node, in frame, at least one codon before its end, is not a stop codon and no variant of the
node covers the position (`orf_end_query in v.location`: the DNA index is compared with the
PROTEIN coordinates of the variants — as in the code) -/
def terminalSite (orfEnd : Option Nat) (n : DNode) (pn : PNode) : Except String (Option Nat) :=
  match orfEnd with
  | none => .ok none
  | some 0 => .ok none
  | some e =>
    if n.level != 0 then .ok none
    else match queryIndex n.locs e with
      | none => .ok none
      | some q =>
        if 0 < q && q + 3 ≤ n.seq.length && q % 3 == 0 then
          let k := q / 3
          let stopLost := pn.vars.any fun v => v.start ≤ q && q < v.stop
          match pn.seq[k]? with
          | none => .error "IndexError:orf-end"
          | some c => .ok (if c != '*' && !stopLost then some k else none)
        else .ok none

/-! ### the search -/

structure St where
  /-- slot 0 = root, 1 = stop, `o + 2` = `visited[o]` -/
  nodes : Array PNode
  /-- head = the next `queue.pop()` -/
  queue : List (Nat × Nat)
  terminal : List (Nat × Nat)
  deriving Repr, Inhabited

/-- `PVGNode.add_out_edge` (`out_nodes` is a set) -/
def addEdge (nodes : Array PNode) (p q : Nat) : Array PNode :=
  nodes.modify p fun n => if n.out.contains q then n else { n with out := n.out ++ [q] }

def setTruncated (nodes : Array PNode) (p : Nat) : Array PNode :=
  nodes.modify p fun n => { n with truncated := true }

def isVisited (st : St) (o : Nat) : Bool := (st.nodes[pix o]?.map (·.present)).getD false

/-- one iteration of `for edge in dnode.out_edges` (`nOut = len(dnode.out_edges)`).  A new
node that is EMPTY and has no successor makes, under `should_clip_trailing_nodes`, a parent with a
single out-edge `truncated` (outside `clip` such a node reads `*`, see `mkNode`; under `clip`
the sequence tested by the code is the final one). -/
def visitEdge (g : TGraphIn) (nOut : Nat) (p : Nat) (st : St) (o : Nat) : Except String St :=
  match g.nodes[o]? with
  | none => .error "dangling-edge"
  | some n =>
    if isVisited st o then .ok { st with nodes := addEdge st.nodes p (pix o) }
    else
      match mkNode g n with
      | .error e => .error e
      | .ok pn =>
        match terminalSite (orfEndOf g n) n pn with
        | .error e => .error e
        | .ok site =>
          let nodes := if pn.seq.isEmpty && n.out.isEmpty && g.clip && nOut == 1
            then setTruncated st.nodes p else st.nodes
          let terminal := match site with
            | some k => st.terminal ++ [(pix o, k)]
            | none => st.terminal
          .ok { nodes := addEdge (nodes.setIfInBounds (pix o) pn) p (pix o),
                queue := st.queue ++ [(o, pix o)], terminal := terminal }

/-- `for edge in dnode.out_edges:` -/
def visitEdges (g : TGraphIn) (nOut : Nat) (p : Nat) : St → List (Nat × EType) → Except String St
  | st, [] => .ok st
  | st, e :: es =>
    match visitEdge g nOut p st e.1 with
    | .error err => .error err
    | .ok st' => visitEdges g nOut p st' es

/-- one `queue.pop()`: a node without out-edges gets the stop node (`add_stop`) and, under
`should_clip_trailing_nodes`, `truncated`; otherwise the edge loop -/
def processItem (g : TGraphIn) (st : St) (d p : Nat) : Except String St :=
  match g.nodes[d]? with
  | none => .error "dangling-edge"
  | some dn =>
    if dn.out.isEmpty then
      let nodes := addEdge st.nodes p stopIx
      .ok { st with nodes := if g.clip then setTruncated nodes p else nodes }
    else visitEdges g dn.out.length p st dn.out

/-- `while queue:` — every node is put on the queue at most once, so
`g.nodes.size + g.frames.length + 1` iterations suffice (`Lemmas/TranslateFuel.lean`,
`translateCore_fuel_stable`: more fuel never changes the result); running out of fuel is an error -/
def bfs (g : TGraphIn) : Nat → St → Except String St
  | 0, st => if st.queue.isEmpty then .ok st else .error "fuel"
  | fuel + 1, st =>
    match st.queue with
    | [] => .ok st
    | (d, p) :: q =>
      match processItem g { st with queue := q } d p with
      | .error e => .error e
      | .ok st' => bfs g fuel st'

/-- the state before the loop: `root`, `stop`, nothing visited;
`queue = deque([(dnode, root) for dnode in self.reading_frames])`, `pop()` takes from the right -/
def initSt (g : TGraphIn) : St :=
  { nodes := #[{ seq := [], isNull := true, rf := 3 }, { seq := ['*'], rf := 3 }] ++
      Array.replicate g.nodes.size absent,
    queue := g.frames.reverse.map fun d => (d, rootIx),
    terminal := [] }

/-- the `while queue` loop of `translate`: the graph before the fake stops are split off, and
`terminal_nodes` (`has_known_orf` with `seq.orf is None` raises before the loop) -/
def translateCore (g : TGraphIn) : Except String St :=
  if g.hasKnownOrf && g.orf.isNone then .error "AttributeError:seq.orf"
  else bfs g (g.nodes.size + g.frames.length + 1) (initSt g)

/-! ### `pgraph.reading_frames` -/

/-- `TVGNode.get_reference_next` -/
def referenceNext (g : TGraphIn) (d : Nat) : Except String (Option Nat) :=
  match g.nodes[d]? with
  | none => .error "dangling-frame"
  | some dn =>
    match dn.out with
    | [] => .ok none
    | [e] => .ok (some e.1)
    | es =>
      let r := es.foldl (fun (acc : Option Nat) e =>
        if e.2 == .reference || e.2 == .variantEnd then
          match acc with
          | none => some e.1
          | some r => if !((g.nodes[r]?.map (·.branch)).getD false) then some e.1 else some r
        else acc) none
      match r with
      | none => .error "ValueError:no-reference-edge"
      | some r => .ok (some r)

def readingFrames (g : TGraphIn) : List Nat → Except String (List (Option Nat))
  | [] => .ok []
  | d :: ds =>
    match referenceNext g d with
    | .error e => .error e
    | .ok r =>
      match readingFrames g ds with
      | .error e => .error e
      | .ok rs => .ok (r.map pix :: rs)

/-! ### the fake stop (`PVGNode.split_node` with `cleavage=False`) -/

/-- `variant[:index]` for a variant that starts before `index` and ends behind it -/
def PVar.leftPart (v : PVar) (index : Nat) : PVar :=
  { v with stop := index, startOff := if v.start == 0 then v.startOff else 0, endOff := 0 }

/-- `variant.shift(-index)` -/
def PVar.shiftLeft (v : PVar) (index : Nat) : PVar :=
  { v with start := v.start - index, stop := v.stop - index }

def splitVarsLeft (vs : List PVar) (index : Nat) : List PVar :=
  vs.filterMap fun v =>
    if v.start < index then (if v.stop ≤ index then some v else some (v.leftPart index)) else none

def splitVarsRight (vs : List PVar) (index : Nat) : List PVar :=
  vs.filterMap fun v => if v.stop > index then some (v.shiftLeft index) else none

/-- `split_node(index)`: the node keeps the left part and gets the new node (appended at the
end of the array) as its only successor; the new node takes the right part, the out-edges and
`truncated`.  Returns the index of the new node. -/
def splitNode (nodes : Array PNode) (t index : Nat) : Array PNode × Nat :=
  match nodes[t]? with
  | none => (nodes, t)
  | some n =>
    let r := nodes.size
    let right : PNode :=
      { seq := n.seq.drop index, out := n.out, rf := n.rf, vars := splitVarsRight n.vars index,
        truncated := n.truncated, secs := (n.secs.filter (fun s => !(s < index))).map (· - index),
        level := n.level }
    let left : PNode :=
      { n with seq := n.seq.take index, out := [r], vars := splitVarsLeft n.vars index,
               truncated := false, secs := n.secs.filter (· < index) }
    ((nodes.setIfInBounds t left).push right, r)

/-- one `(terminal_node, stop_site)` of the final loop -/
def splitTerminal (nodes : Array PNode) (t k : Nat) : Array PNode :=
  let (nodes, r) := splitNode nodes t k
  let rseq := (nodes[r]?.map (·.seq)).getD []
  if rseq.length > 1 && rseq.head? == some '*' then (splitNode nodes r 1).1
  else
    let f := nodes.size
    let rf := (nodes[t]?.map (·.rf)).getD 3
    addEdge (nodes.push { seq := ['*'], rf := rf }) t f

/-! ### `ThreeFrameTVG.translate` -/

/-- the final loop `for terminal_node, stop_site in terminal_nodes` (only with a known ORF) -/
def splitTerminals (g : TGraphIn) (st : St) : Array PNode :=
  if g.hasKnownOrf then st.terminal.foldl (fun ns tk => splitTerminal ns tk.1 tk.2) st.nodes
  else st.nodes

def translateGraph (g : TGraphIn) : Except String PGraph :=
  match translateCore g with
  | .error e => .error e
  | .ok st =>
    match readingFrames g g.frames with
    | .error e => .error e
    | .ok frames =>
      .ok { nodes := splitTerminals g st, frames := frames,
            knownOrf := if g.hasKnownOrf then g.orf else none }

/-! ### the graphs as Layer G graphs (`Model/Graph.lean`) -/

def TGraphIn.toGraph (g : TGraphIn) : Graph :=
  g.nodes.map fun n =>
    { seq := n.seq, vars := n.vars.flatMap (·.ids), out := n.out.map (·.1), rf := n.rf }

/-- a node array as a Layer G graph; the shared stop node is the end sentinel -/
def nodesGraph (ns : Array PNode) : Graph :=
  ns.mapIdx fun i n =>
    { seq := n.seq, vars := n.vars.flatMap (·.ids), out := n.out, rf := n.rf, isStop := i == stopIx }

def PGraph.toGraph (pg : PGraph) : Graph := nodesGraph pg.nodes

end MoPepGen.Translate
