/-
Layer M for moPepGen/aa/VariantPeptideIdentifier.py (header grammar:
`parse_variant_peptide_id`, the four `__str__`) and the entry-level helpers of
moPepGen/aa/VariantPeptideLabel.py (`is_fusion`, `is_circ_rna`,
`is_splice_altering`, `get_transcript_ids`).

A FASTA header is `entries` separated by `' '`; an entry is `fields` separated by
`'|'`.  The model works on the split form (`Entry = List Field`,
`Field = List Char`); the two `str.split` / `str.join` calls are performed by the
driver (`String.splitOn` / `intercalate`); `splitOnC` / `joinC` below are their list versions.
-/
import MoPepGen.Generated.Labels
namespace MoPepGen

abbrev Field := List Char
abbrev Entry := List Field
abbrev Header := List Entry

/-- Python exceptions that the modelled code can raise -/
inductive PErr where
  | valueError | indexError | keyError | typeError | sourceNotFound
  deriving DecidableEq, Repr

instance instDecEqExceptLabel {ε α} [DecidableEq ε] [DecidableEq α] : DecidableEq (Except ε α) := fun a b =>
  match a, b with
  | .ok x, .ok y => if h : x = y then isTrue (by rw [h]) else isFalse (by intro h'; cases h'; exact h rfl)
  | .error x, .error y =>
    if h : x = y then isTrue (by rw [h]) else isFalse (by intro h'; cases h'; exact h rfl)
  | .ok _, .error _ => isFalse (by intro h; cases h)
  | .error _, .ok _ => isFalse (by intro h; cases h)

def PErr.name : PErr → String
  | .valueError => "ValueError"
  | .indexError => "IndexError"
  | .keyError => "KeyError"
  | .typeError => "TypeError"
  | .sourceNotFound => "VariantSourceNotFoundError"

/-- `field.startswith(p)` -/
def pfx (p : List Char) (f : Field) : Bool := p.isPrefixOf f

/-! ### `int(str)` on ASCII text -/

def isPyWs (c : Char) : Bool :=
  c == ' ' || c == '\t' || c == '\n' || c == '\r' || c == '\x0b' || c == '\x0c'

/-- digits with single underscores between digits -/
def pyDigits (acc : Nat) (prevDigit : Bool) : List Char → Option Nat
  | [] => if prevDigit then some acc else none
  | c :: cs =>
    if c.isDigit then pyDigits (acc * 10 + (c.toNat - 48)) true cs
    else if c == '_' && prevDigit then pyDigits acc false cs
    else none

/-- M: `int(s)` for an ASCII string; `none` = ValueError -/
def pyInt (f : Field) : Option Int :=
  let s := ((f.dropWhile isPyWs).reverse.dropWhile isPyWs).reverse
  match s with
  | '+' :: r => (pyDigits 0 false r).map Int.ofNat
  | '-' :: r => (pyDigits 0 false r).map fun n => - Int.ofNat n
  | r => (pyDigits 0 false r).map Int.ofNat

/-- `str(n)` for an int -/
def intStr (n : Int) : Field := (toString n).toList

/-! ### identifiers -/

inductive Kind where
  | base | circ | fusion | novel
  deriving DecidableEq, Repr

/-- The four identifier classes in one record.
`v1`: base/circ `variant_ids`, fusion `first_variants`;
`v2`: fusion `second_variants`;
`v0`: fusion `peptide_variants`, novel ORF `codon_reassigns`. -/
structure Ident where
  kind : Kind
  backbone : Field
  geneId : Option Field
  v1 : List Field
  v2 : List Field
  v0 : List Field
  orf : Option Field
  index : Option Int
  deriving DecidableEq, Repr

/-- loop state of step 1 of `parse_variant_peptide_id` -/
structure PState where
  ty : Option Kind := none          -- only `fusion` / `circ` are set in step 1
  backbone : Field := []
  k0 : List Field := []             -- var_ids[0]
  k1 : List Field := []             -- var_ids[1]
  k2 : List Field := []             -- var_ids[2]
  alt : List Field := []
  orf : Option Field := none

def pfxOrf : List Char := ['O', 'R', 'F']

/-- one iteration of the `for i, field in enumerate(fields)` loop -/
def stepField (st : PState) (i : Nat) (f : Field) : Except PErr PState :=
  if pfx Generated.pfxFusion f then
    if i != 0 then .error .valueError
    else .ok { st with backbone := f, ty := some .fusion }
  else if pfx Generated.pfxCi f || pfx Generated.pfxCirc f then
    if i != 0 then .error .valueError
    else .ok { st with backbone := f, ty := some .circ }
  else if pfx pfxOrf f then .ok { st with orf := some f }
  else if st.ty == some .fusion then
    if pfx ['1', '-'] f then .ok { st with k1 := st.k1 ++ [f.drop 2] }
    else if pfx ['2', '-'] f then .ok { st with k2 := st.k2 ++ [f.drop 2] }
    else .ok { st with k0 := st.k0 ++ [f] }
  else if Generated.pfxAltTranslation.any (pfx · f) then .ok { st with alt := st.alt ++ [f] }
  else if Generated.pfxCtbv.any (pfx · f) then .ok { st with k1 := st.k1 ++ [f] }
  else .ok st

def stepFields (st : PState) (i : Nat) : List Field → Except PErr PState
  | [] => .ok st
  | f :: fs =>
    match stepField st i f with
    | .error e => .error e
    | .ok st' => stepFields st' (i + 1) fs

/-- `index = int(fields[-1]); fields.pop()` / `index = None` -/
def splitIndex (e : Entry) : Entry × Option Int :=
  match e.getLast? with
  | none => (e, none)
  | some l =>
    match pyInt l with
    | some n => (e.dropLast, some n)
    | none => (e, none)

/-- M: one iteration of the outer loop of `parse_variant_peptide_id`
(one header entry, already split on `'|'`). -/
def parseEntry (e : Entry) : Except PErr Ident :=
  let (fields, index) := splitIndex e
  match stepFields {} 0 fields with
  | .error err => .error err
  | .ok st =>
    match st.ty with
    | some .fusion =>
      .ok ⟨.fusion, st.backbone, none, st.k1, st.k2, st.k0, st.orf, index⟩
    | some _ =>
      .ok ⟨.circ, st.backbone, none, st.k1 ++ st.alt, [], [], st.orf, index⟩
    | none =>
      match fields with
      | [] => .error .indexError
      | f0 :: rest =>
        if st.k1.isEmpty && st.orf.isSome then
          .ok ⟨.novel, f0, rest.head?, [], [], st.alt, st.orf, index⟩
        else
          .ok ⟨.base, f0, none, st.k1 ++ st.alt, [], [], st.orf, index⟩

/-- `[x] if x` (Python truthiness of an optional string) -/
def optField : Option Field → List Field
  | some (c :: cs) => [c :: cs]
  | _ => []

/-- `[str(index)] if index` -/
def optIndex : Option Int → List Field
  | some n => if n == 0 then [] else [intStr n]
  | none => []

/-- M: the four `__str__` methods (result still split on `'|'`) -/
def Ident.str (d : Ident) : Entry :=
  match d.kind with
  | .base => [d.backbone] ++ optField d.geneId ++ d.v1 ++ optField d.orf ++ optIndex d.index
  | .novel => [d.backbone] ++ optField d.geneId ++ d.v0 ++ optField d.orf ++ optIndex d.index
  | .circ => [d.backbone] ++ optField d.orf ++ d.v1 ++ optIndex d.index
  | .fusion => [d.backbone] ++ optField d.orf ++ d.v1.map (['1', '-'] ++ ·)
      ++ d.v2.map (['2', '-'] ++ ·) ++ d.v0 ++ optIndex d.index

/-- normal form of an entry: `str(parse(entry))` -/
def normEntry (e : Entry) : Except PErr Entry := (parseEntry e).map Ident.str

/-! ### splitting helpers (Python `str.split(sep)`, `str.split(sep, n)`) -/

/-- `s.split(c)` -/
def splitOnC (c : Char) : List Char → List (List Char)
  | [] => [[]]
  | x :: xs =>
    if x == c then [] :: splitOnC c xs
    else match splitOnC c xs with
      | [] => [[x]]
      | h :: t => (x :: h) :: t

/-- `sep.join(parts)` for a one-character separator -/
def joinC (c : Char) : List (List Char) → List Char
  | [] => []
  | [x] => x
  | x :: y :: r => x ++ c :: joinC c (y :: r)

/-- `y in x` for strings -/
def isInfix (y x : List Char) : Bool :=
  match x with
  | [] => y.isEmpty
  | c :: cs => y.isPrefixOf (c :: cs) || isInfix y cs

/-! ### entry-level queries of `VariantPeptideInfo` -/

/-- M: `BaseVariantPeptideIdentifier.is_alternative_splicing`
(`any(x.split('-', 1)[0] in alt_splice_types for x in self.variant_ids)` — after the `fix:`
that replaced the substring test `y in x`) -/
def Ident.isAltSplicing (d : Ident) : Bool :=
  d.v1.any fun x => Generated.altSpliceTypes.contains ((splitOnC '-' x).headD [])

/-- M: `is_splice_altering` -/
def Ident.isSpliceAltering (d : Ident) : Bool := d.kind == .base && d.isAltSplicing

/-- M: `FusionVariantPeptideIdentifier.first_tx_id / second_tx_id`:
`_, first, second = fusion_id.split('-')`, then `.split(':')[0]` -/
def fusionTxIds (fid : Field) : Except PErr (List Field) :=
  match splitOnC '-' fid with
  | [_, a, b] => .ok [(splitOnC ':' a).headD [], (splitOnC ':' b).headD []]
  | _ => .error .valueError

/-- M: `circ_rna_id.split('-', 2)[1]` -/
def circTxId (cid : Field) : Except PErr Field :=
  match splitOnC '-' cid with
  | _ :: a :: _ => .ok a
  | _ => .error .indexError

/-- M: `get_transcript_ids` (on an already parsed identifier) -/
def Ident.txIds (d : Ident) : Except PErr (List Field) :=
  match d.kind with
  | .circ => (circTxId d.backbone).map fun a => [a]
  | .fusion => fusionTxIds d.backbone
  | .base => .ok [d.backbone]
  | .novel => .ok [d.backbone]

end MoPepGen
