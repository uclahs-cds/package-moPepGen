/-!
# Pointer-dictionary cache (import-free)

Model of `GenePointerDict.__getitem__` / `TranscriptPointerDict.__getitem__`
(`moPepGen/gtf/GTFPointer.py`): a bounded cache of loaded models.

State: `keys` = the deque `_cached_keys` (head = left end, `appendleft` = cons, `pop` = remove
last), `map` = the dict `_cache`.  `load k` stands for `self.get_pointer(k).load()` (seek +
read + parse of the byte range of `k`); `none` = it raises (`KeyError` for an unknown key,
or a parse error).  The file is not modified while the annotation is open, so `load` is a
function of the key (trusted assumption, see the harness).
-/
namespace MoPepGen

structure CacheState (K V : Type) where
  keys : List K
  map : K → Option V

/-- outcome of one `__getitem__` -/
inductive CacheRes (V : Type) where
  /-- value returned -/
  | ok (v : V)
  /-- `self._cache.pop(key_pop)` raised `KeyError` (evicting a key that was never stored) -/
  | evictKeyError
  /-- `get_pointer(k).load()` raised -/
  | loadError
deriving DecidableEq, Repr

variable {K V : Type} [DecidableEq K]

def CacheState.empty : CacheState K V := { keys := [], map := fun _ => none }

def mapSet (m : K → Option V) (k : K) (v : Option V) : K → Option V :=
  fun x => if x = k then v else m x

/-- `__getitem__(k)` as it stood before the repair 1ee503c, statement by statement:
```
if k in self._cache: return self._cache[k]
self._cached_keys.appendleft(k)
if len(self._cached_keys) > SIZE:
    key_pop = self._cached_keys.pop(); self._cache.pop(key_pop)     # may raise KeyError
val = self.get_pointer(k).load()                                     # may raise
self._cache[k] = val
return val
```
A raise leaves the mutations made so far in place. -/
def CacheState.get (size : Nat) (load : K → Option V) (c : CacheState K V) (k : K) :
    CacheState K V × CacheRes V :=
  match c.map k with
  | some v => (c, .ok v)
  | none =>
    let keys1 := k :: c.keys
    if keys1.length > size then
      -- `keys1` is non-empty
      let keyPop := keys1.getLast?
      let keys2 := keys1.dropLast
      match keyPop with
      | none => ({ keys := keys2, map := c.map }, .evictKeyError)   -- unreachable
      | some kp =>
        match c.map kp with
        | none => ({ keys := keys2, map := c.map }, .evictKeyError)
        | some _ =>
          let map2 := mapSet c.map kp none
          match load k with
          | none => ({ keys := keys2, map := map2 }, .loadError)
          | some v => ({ keys := keys2, map := mapSet map2 k (some v) }, .ok v)
    else
      match load k with
      | none => ({ keys := keys1, map := c.map }, .loadError)
      | some v => ({ keys := keys1, map := mapSet c.map k (some v) }, .ok v)

/-- run an access history from a state, collecting the outcomes -/
def CacheState.run (size : Nat) (load : K → Option V) :
    CacheState K V → List K → CacheState K V × List (CacheRes V)
  | c, [] => (c, [])
  | c, k :: ks =>
    let (c1, r) := c.get size load k
    let (c2, rs) := CacheState.run size load c1 ks
    (c2, r :: rs)

/-- The access order since the repair 1ee503c (load first, then record the key): what /repo
does now and what the driver compares it with. -/
def CacheState.getFixed (size : Nat) (load : K → Option V) (c : CacheState K V) (k : K) :
    CacheState K V × CacheRes V :=
  match c.map k with
  | some v => (c, .ok v)
  | none =>
    match load k with
    | none => (c, .loadError)
    | some v =>
      let keys1 := k :: c.keys
      if keys1.length > size then
        match keys1.getLast? with
        | none => ({ keys := keys1.dropLast, map := mapSet c.map k (some v) }, .ok v)
        | some kp => ({ keys := keys1.dropLast, map := mapSet (mapSet c.map kp none) k (some v) }, .ok v)
      else ({ keys := keys1, map := mapSet c.map k (some v) }, .ok v)

def CacheState.runFixed (size : Nat) (load : K → Option V) :
    CacheState K V → List K → CacheState K V × List (CacheRes V)
  | c, [] => (c, [])
  | c, k :: ks =>
    let (c1, r) := c.getFixed size load k
    let (c2, rs) := CacheState.runFixed size load c1 ks
    (c2, r :: rs)

end MoPepGen
