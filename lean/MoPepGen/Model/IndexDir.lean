/-!
# Model of the moPepGen index directory (property C12)

Layer M, import-free.  Follows `/repo/moPepGen/index.py`, `cli/generate_index.py`,
`cli/update_index.py`, `cli/common.py:load_references` (index branch), `version.py`
and `params.py:CleavageParams` function by function.

* the directory is `State`: `md` = content of `metadata.json` (absent = no file),
  `files` = every other file (name ↦ blob);
* a reference data set (genome FASTA + GTF + proteome FASTA given to `generateIndex`)
  is an opaque id `r : Nat`; pickles / GTF copies made from it are `Blob.data r`;
* the content of a canonical pool is the abstract parameter
  `poolRaw annoRef protRef rawArgs` — what `create_unique_peptide_pool` returns for the
  annotation / proteome objects in hand and the *raw* command-line arguments
  (before the repair 7667327 the code passed `args.cleavage_exception` unnormalised; it now passes the
  resolved `cleavage_params.exception`);
* `raise` → an `Outcome` constructor (`reject…` for the rejections the property names,
  `crash…` for every other exception), mutation → returned `State`.
-/
namespace MoPepGen.IndexDir

/-! ## cleavage parameters (`params.py`) -/

/-- The six cleavage arguments after the CLI's `int()` / `float()` conversions.
`minMw` is in 1/1000 Da, so Python's `500 == 500.0` is equality here. `exc = none` is
Python `None`. -/
structure Params where
  enzyme : String
  exc : Option String
  misc : Int
  minMw : Int
  minLen : Int
  maxLen : Int
deriving DecidableEq, Repr, Inhabited

/-- `CleavageParams.__init__` followed by `jsonfy(graph_params=False)`: the value
that is stored in `metadata.json` and compared by `get_canonical_pool`.
`exception == 'auto'` becomes `'trypsin_exception'` for trypsin and `None` otherwise. -/
def norm (p : Params) : Params :=
  if p.exc = some "auto" then
    { p with exc := if p.enzyme = "trypsin" then some "trypsin_exception" else none }
  else p

/-! ## versions (`version.py`) -/

/-- `MetaVersion` fields; `""` also stands for JSON `null`. -/
structure Version where
  py : String
  bio : String
  mpg : String
deriving DecidableEq, Repr, Inhabited

/-- `MetaVersion.__init__`: `self.x = x or <current>` -/
def fillVersion (cur v : Version) : Version :=
  { py := if v.py = "" then cur.py else v.py,
    bio := if v.bio = "" then cur.bio else v.bio,
    mpg := if v.mpg = "" then cur.mpg else v.mpg }

/-- `int(x)` on a version component: ASCII digits only (the harness never produces
signs, blanks or underscores, which Python's `int` would also accept). `none` = ValueError -/
def parseNat? (s : String) : Option Nat :=
  if s.isEmpty || !s.all Char.isDigit then none
  else some (s.foldl (fun n c => 10 * n + (c.toNat - 48)) 0)

/-- `MetaVersion.get_semver`: `tuple(int(x) for x in version.split('-')[0].split('.'))` -/
def getSemver (v : String) : Option (List Nat) :=
  (((v.splitOn "-").headD "").splitOn ".").mapM parseNat?

/-- Python tuple comparison `a <= b` (lexicographic, a proper prefix is smaller) -/
def lexLe : List Nat → List Nat → Bool
  | [], _ => true
  | _ :: _, [] => false
  | a :: as, b :: bs => a < b || (a == b && lexLe as bs)

/-- `MetaVersion.is_valid` evaluated on the current version (`self`), with Python's
short-circuit `and`; `none` = `ValueError` out of `get_semver`. -/
def isValid (cur : Version) (minimal : String) (v : Version) : Option Bool :=
  if cur.py ≠ v.py then some false
  else if cur.bio ≠ v.bio then some false
  else match getSemver v.mpg with
    | none => none
    | some that => match getSemver minimal with
      | none => none
      | some m => some (lexLe m that)

/-! ## files -/

/-- file names inside the index directory (`IndexDir.__init__`,
`GenomicAnnotationOnDisk.get_index_files`, `register_canonical_pool`);
`pool i` is `f"canonical_peptides_{i:03}.pkl"` (rendered by `FName.render`). -/
inductive FName where
  | genome | proteome | anno | geneIdx | txIdx | codingTx
  | pool (i : Nat)
deriving DecidableEq, Repr, Inhabited

def pad3 (i : Nat) : String :=
  (if i < 10 then "00" else if i < 100 then "0" else "") ++ toString i

def FName.render : FName → String
  | .genome => "genome.pkl"
  | .proteome => "proteome.pkl"
  | .anno => "annotation.gtf"
  | .geneIdx => "annotation_gene.idx"
  | .txIdx => "annotation_tx.idx"
  | .codingTx => "coding_transcripts.pkl"
  | .pool i => "canonical_peptides_" ++ pad3 i ++ ".pkl"

/-- file contents: data derived from reference set `r`, a pickled peptide pool, or
(only `annotation.gtf` under `--gtf-symlink`) a symbolic link to the GTF of reference set
`target`, whose current content is the GTF of `content` (`target = content` unless a later
copy wrote through the link) -/
inductive Blob (α : Type) where
  | data (r : Nat)
  | pool (x : α)
  | link (target content : Nat)
deriving DecidableEq, Repr, Inhabited

/-- the reference set whose data is read when the file is opened -/
def Blob.ref {α} : Blob α → Option Nat
  | .data r => some r
  | .pool _ => none
  | .link _ c => some c

abbrev Files (α : Type) := List (FName × Blob α)

def fget {α} : Files α → FName → Option (Blob α)
  | [], _ => none
  | (m, b) :: fs, n => if m = n then some b else fget fs n

/-- `os.remove` (when the file exists) -/
def fdel {α} : Files α → FName → Files α
  | [], _ => []
  | (m, b) :: fs, n => if m = n then fdel fs n else (m, b) :: fdel fs n

/-- `open(name, 'wb')` + dump: create or overwrite -/
def fset {α} (fs : Files α) (n : FName) (b : Blob α) : Files α := (n, b) :: fdel fs n

/-! ## metadata (`index.py`) -/

/-- `CanonicalPoolMetadata` -/
structure Entry where
  filename : FName
  index : Nat
  key : Params
deriving DecidableEq, Repr, Inhabited

/-- `IndexMetadata`; `source` is the GTF flavour detected from reference set `r` -/
structure Meta where
  version : Version
  pools : List Entry
  source : Option Nat
deriving DecidableEq, Repr, Inhabited

/-- the directory: `metadata.json` (if present) and all other files -/
structure State (α : Type) where
  md : Option Meta
  files : Files α

def State.empty {α} : State α := { md := none, files := [] }

/-- what the environment supplies: current runtime versions, `MINIMAL_VERSION`, and the
peptide pool computed from (annotation of ref `a`, proteome of ref `b`, raw arguments) -/
structure Env (α : Type) where
  cur : Version
  minimal : String
  poolRaw : Nat → Nat → Params → α

/-- values handed back by `load_references(index_dir=…, load_proteome=True)` -/
structure Loaded (α : Type) where
  pool : Blob α
  genome : Blob α
  anno : Blob α
  source : Option Nat
  proteome : Blob α
deriving DecidableEq, Repr

inductive Outcome (α : Type) where
  | done
  | loaded (x : Loaded α)
  | rejectExists        -- `sys.exit(1)`: directory / pool already exists
  | rejectNoPool        -- ValueError 'No canonical peptide pool match…'
  | rejectBadVersion    -- err.InvalidIndexError
  | crashFileExists     -- os.symlink onto an existing annotation.gtf
  | crashSameFile       -- shutil.copy2 of a GTF onto the symlink that points to it
  | crashFileNotFound
  | crashValueError
  | crashOther
deriving DecidableEq, Repr

/-- `IndexMetadata.get_canonical_pool`: first entry whose jsonified parameters equal
the jsonified (already normalised) request -/
def getPool (pools : List Entry) (p : Params) : Option Entry :=
  pools.find? (fun en => decide (en.key = norm p))

/-- `max(it.index for it in pools)` -/
def maxIndex : List Entry → Nat
  | [] => 0
  | en :: es => max en.index (maxIndex es)

/-- `IndexMetadata.register_canonical_pool`; `none` = ValueError 'already exists' -/
def register (m : Meta) (p : Params) : Option (Meta × Entry) :=
  if (getPool m.pools p).isSome then none
  else
    let index := if m.pools.isEmpty then 1 else maxIndex m.pools + 1
    let en : Entry := { filename := .pool index, index := index, key := norm p }
    some ({ m with pools := m.pools ++ [en] }, en)

/-- `IndexDir.__init__`: `load_metadata` when `metadata.json` exists (every entry goes
through `CleavageParams(**…)`, the version through `MetaVersion(**…)`), else `init_metadata` -/
def openDir {α} (e : Env α) (s : State α) : Meta :=
  match s.md with
  | some m => { version := fillVersion e.cur m.version,
                pools := m.pools.map (fun en => { en with key := norm en.key }),
                source := m.source }
  | none => { version := e.cur, pools := [], source := none }

/-- `IndexDir.save_canonical_peptides`; `none` = ValueError from `register` -/
def saveCanonical {α} (m : Meta) (fs : Files α) (x : α) (p : Params) (override : Bool) :
    Option (Meta × Files α) :=
  match getPool m.pools p with
  | some en =>
    if !override then
      match register m p with
      | none => none
      | some (m', en') => some (m', fset fs en'.filename (.pool x))
    else some (m, fset fs en.filename (.pool x))
  | none =>
    match register m p with
    | none => none
    | some (m', en') => some (m', fset fs en'.filename (.pool x))

/-- `IndexDir.wipe_canonical_peptides`: `os.remove` each listed file in order;
`.error fs'` = FileNotFoundError at the first missing one (earlier ones are gone) -/
def wipe {α} : List Entry → Files α → Except (Files α) (Files α)
  | [], fs => .ok fs
  | en :: es, fs =>
    match fget fs en.filename with
    | none => .error fs
    | some _ => wipe es (fdel fs en.filename)

/-- `IndexDir.load_annotation`: opens `annotation.gtf` (FileNotFoundError) then
`load_index` (ValueError when an `.idx` file is missing) -/
def loadAnno {α} (fs : Files α) : Except (Outcome α) (Blob α) :=
  match fget fs .anno with
  | none => .error .crashFileNotFound
  | some a =>
    if (fget fs .geneIdx).isNone || (fget fs .txIdx).isNone then .error .crashValueError
    else .ok a

/-- `any(index_dir.path.iterdir())` -/
def dirNonEmpty {α} (s : State α) : Bool := s.md.isSome || !s.files.isEmpty

/-- `IndexDir.create_gtf_copy` for an uncompressed `.gtf`: `os.symlink` refuses an existing
name (FileExistsError); `shutil.copy2` follows an existing symlink: SameFileError when it
points to the file being copied, otherwise the link target is overwritten. Returns the new
content of `annotation.gtf`. -/
def gtfCopy {α} (old : Option (Blob α)) (r : Nat) (symlink : Bool) :
    Except (Outcome α) (Blob α) :=
  match old with
  | none => .ok (if symlink then .link r r else .data r)
  | some b =>
    if symlink then .error .crashFileExists
    else match b with
      | .link t _ => if t = r then .error .crashSameFile else .ok (.link t r)
      | _ => .ok (.data r)

/-- body of `generate_index` after the exists/force gate; the in-memory metadata is
`init_metadata()` (either freshly constructed or re-initialised after the wipe) -/
def genBody {α} (e : Env α) (s : State α) (r : Nat) (p : Params) (symlink : Bool) :
    State α × Outcome α :=
  let m0 : Meta := { version := e.cur, pools := [], source := none }
  let f1 := fset (fset s.files .genome (.data r)) .proteome (.data r)
  -- save_annotation → create_gtf_copy
  match gtfCopy (fget f1 .anno) r symlink with
  | .error o => ({ s with files := f1 }, o)
  | .ok a =>
    let f2 := fset (fset (fset f1 .anno a) .geneIdx (.data r)) .txIdx (.data r)
    match saveCanonical m0 f2 (e.poolRaw r r p) p false with
    | none => ({ s with files := f2 }, .crashValueError)
    | some (m1, f3) =>
      let f4 := fset f3 .codingTx (.data r)
      ({ md := some { m1 with source := some r }, files := f4 }, .done)

/-- `cli.generate_index` -/
def gen {α} (e : Env α) (s : State α) (r : Nat) (p : Params) (force symlink : Bool) :
    State α × Outcome α :=
  let m := openDir e s
  if dirNonEmpty s then
    if force then
      match wipe m.pools s.files with
      | .error fs' => ({ s with files := fs' }, .crashFileNotFound)
      | .ok fs' => genBody e { s with files := fs' } r p symlink
    else (s, .rejectExists)
  else genBody e s r p symlink

/-- `cli.update_index` -/
def upd {α} (e : Env α) (s : State α) (p : Params) (force : Bool) : State α × Outcome α :=
  let m := openDir e s
  match isValid e.cur e.minimal m.version with
  | none => (s, .crashValueError)
  | some false => (s, .rejectBadVersion)
  | some true =>
    let poolExists := (getPool m.pools p).isSome
    if poolExists && !force then (s, .rejectExists)
    else
      match loadAnno s.files with
      | .error o => (s, o)
      | .ok a =>
        match fget s.files .proteome with
        | none => (s, .crashFileNotFound)
        | some pr =>
          match a.ref, pr.ref with
          | some ra, some rp =>
            match saveCanonical m s.files (e.poolRaw ra rp p) p force with
            | none => (s, .crashValueError)
            | some (m', fs') =>
              if !poolExists then ({ md := some m', files := fs' }, .done)
              else ({ s with files := fs' }, .done)
          | _, _ => (s, .crashOther)

/-- `cli.common.load_references(args with index_dir, load_genome=True,
load_canonical_peptides=True, load_proteome=True, cleavage_params=CleavageParams(p…))` -/
def load {α} (e : Env α) (s : State α) (p : Params) : Outcome α :=
  let m := openDir e s
  match isValid e.cur e.minimal m.version with
  | none => .crashValueError
  | some false => .rejectBadVersion
  | some true =>
    match getPool m.pools p with
    | none => .rejectNoPool
    | some en =>
      match fget s.files en.filename with
      | none => .crashFileNotFound
      | some b =>
        match fget s.files .genome with
        | none => .crashFileNotFound
        | some g =>
          match loadAnno s.files with
          | .error o => o
          | .ok a =>
            match fget s.files .proteome with
            | none => .crashFileNotFound
            | some pr => .loaded { pool := b, genome := g, anno := a, source := m.source,
                                   proteome := pr }

/-- `IndexDir(path).load_coding_tx()`; `none` = FileNotFoundError -/
def loadCodingTx {α} (s : State α) : Option (Blob α) := fget s.files .codingTx

/-- an edit of the `version` object inside `metadata.json` (no-op without the file) -/
def tamper {α} (s : State α) (v : Version) : State α :=
  match s.md with
  | none => s
  | some m => { s with md := some { m with version := v } }

inductive Op where
  | gen (r : Nat) (p : Params) (force symlink : Bool)
  | upd (p : Params) (force : Bool)
  | load (p : Params)
  | tamper (v : Version)
deriving DecidableEq, Repr

def step {α} (e : Env α) (s : State α) : Op → State α × Outcome α
  | .gen r p f l => gen e s r p f l
  | .upd p f => upd e s p f
  | .load p => (s, load e s p)
  | .tamper v => (tamper s v, .done)

/-- state after a history of invocations on an initially empty / absent directory -/
def run {α} (e : Env α) (s : State α) : List Op → State α
  | [] => s
  | o :: os => run e (step e s o).1 os

/-- outcomes of the successive invocations -/
def outcomes {α} (e : Env α) (s : State α) : List Op → List (Outcome α)
  | [] => []
  | o :: os => (step e s o).2 :: outcomes e (step e s o).1 os

end MoPepGen.IndexDir
