import MoPepGen.Model.Coord
/-!
# parseVEP / parseREDItools (import-free model, C14)

Layer M — models, function by function and branch by branch, of

* `moPepGen/parser/VEPParser.py`      : `VEPRecord.convert_to_variant_record`
* `moPepGen/parser/REDItoolsParser.py`: `REDItoolsRecord.get_valid_subs`,
  `REDItoolsRecord.convert_to_variant_records`

and Layer S — the genomic event a VEP row denotes (`rowEvent`), its application to the
chromosome (`applyEvent`), the application of a GVF record to a gene sequence (`applyGvf`).

Coordinates, genes, transcripts and sequences are those of `Model/Coord.lean` (C11).
The text parsers (`VEPParser.parse`, `REDItoolsParser.parse`) are not modelled: the
correspondence harness drives them through the CLI functions and compares the records.
-/
namespace MoPepGen

/-! ## Layer S : genomic events -/

/-- replace the 0-based half-open chromosome interval `[s, e)` by `repl` (bases of the `+`
strand).  Deletion: `repl = []`; insertion between two bases: `s = e`. -/
structure GEvent where
  s : Nat
  e : Nat
  repl : List Char
deriving DecidableEq, Repr, Inhabited

/-- the mutated chromosome -/
def applyEvent (chrom : List Char) (ev : GEvent) : List Char :=
  chrom.take ev.s ++ ev.repl ++ chrom.drop ev.e

/-- the gene interval after the event (same start, end shifted by the length change); only
meaningful for events inside the gene -/
def geneAfter (g : Gene) (ev : GEvent) : Gene :=
  { g with loc := ⟨g.loc.start, g.loc.stop + ev.repl.length - (ev.e - ev.s)⟩ }

/-- one row of VEP tab output, as far as `convert_to_variant_record` reads it:
`Location` = `chr:s` (then `e = s`) or `chr:s-e` (1-based, inclusive), `Allele`
(`none` = `-`). -/
structure VepRow where
  s : Nat
  e : Nat
  allele : Option (List Char)
deriving DecidableEq, Repr, Inhabited

/-- The genomic event denoted by a VEP row (VEP output conventions):
* allele `-`                      : deletion of the bases `s..e`;
* two-base span, allele given     : insertion of the allele between base `s` and base `s+1`;
* anything else                   : the bases `s..e` are replaced by the allele (SNV, one-base
  span insertion spelled with the reference base as first or last allele base, substitution,
  deletion spelled with the remaining bases). -/
def rowEvent (row : VepRow) : GEvent :=
  match row.allele with
  | none => ⟨row.s - 1, row.e, []⟩
  | some al => if row.e = row.s + 1 then ⟨row.s, row.s, al⟩ else ⟨row.s - 1, row.e, al⟩

/-- GVF variant type as computed by `convert_to_variant_record` -/
inductive VType where
  | snv | indel | mnv
deriving DecidableEq, Repr, Inhabited

/-- the part of a GVF record the property speaks about: gene interval `[start, stop)`, REF,
ALT (and the type, which is compared by the correspondence only) -/
structure GvfRec where
  start : Nat
  stop : Nat
  ref : List Char
  alt : List Char
  type : VType
deriving DecidableEq, Repr, Inhabited

/-- apply a GVF record to a gene sequence: `seq[start:stop]` replaced by ALT -/
def applyGvf (seq : List Char) (r : GvfRec) : List Char :=
  seq.take r.start ++ r.alt ++ seq.drop r.stop

/-- Python slice `seq[a:b]` for `0 ≤ a`, `0 ≤ b` (truncating) -/
def pySlice (seq : List Char) (a b : Nat) : List Char := (seq.drop a).take (b - a)

/-! ## Layer M : `VEPRecord.convert_to_variant_record` -/

/-- outcomes other than a well-placed record -/
inductive VepErr where
  /-- `ValueError` of `coordinate_genomic_to_gene` (position outside the gene) -/
  | outOfGene
  /-- `TranscriptionStartSiteMutationError` -/
  | startSite
  /-- `TranscriptionStopSiteMutationError` -/
  | stopSite
  /-- `ValueError("Don't know how to process this variant")` -/
  | unanchorable
  /-- `ValueError(ERROR_REF_LENGTH_NOT_MATCH_WITH_LOCATION)` from `VariantRecord.__init__`
  (a slice truncated at the end of the gene sequence) -/
  | refLen
  /-- `IndexError` (`seq.seq[i]` beyond the sequence; only when the gene runs off the chromosome) -/
  | indexError
  /-- NOT an exception: Python's `alt_start -= 1` went to `-1`, `seq.seq[-1]` is the LAST base
  of the gene and a record is returned at `[-1, 0)` with that base as REF (`ref`, `alt` kept) -/
  | negAnchor (ref alt : List Char)
deriving DecidableEq, Repr, Inhabited

/-- `_type` : `SNV` if both have length 1, `INDEL` if `len(ref) == 1` (the second disjunct of
the Python repeats the first), else `MNV` — so deletions are typed `MNV`. -/
def vepType (ref alt : List Char) : VType :=
  if ref.length = 1 ∧ alt.length = 1 then .snv
  else if ref.length = 1 ∨ ref.length = 1 then .indel
  else .mnv

/-- `seqvar.VariantRecord(location=FeatureLocation(start, end), ref, alt, _type, …)`:
`len(location) != len(ref)` is a `ValueError` -/
def mkRec (a b : Nat) (ref alt : List Char) : Except VepErr GvfRec :=
  if b - a ≠ ref.length then .error .refLen
  else .ok ⟨a, b, ref, alt, vepType ref alt⟩

/-- gene coordinates of the row and of the transcript: `(alt_start, alt_end, tx_start_genetic,
tx_end_genetic)` after the strand swap and `alt_end += 1`.  `tx_model.transcript.location` is
the span of the exons (`spanStart`, `spanStop`).  Location `chr:0` gives genomic index `-1`,
outside every gene. -/
def vepLocate (g : Gene) (t : Transcript) (row : VepRow) :
    Except VepErr (Nat × Nat × Nat × Nat) :=
  if row.s = 0 ∨ row.e = 0 then .error .outOfGene else
  match genomicToGene g (row.s - 1), genomicToGene g (row.e - 1) with
  | .ok a0, .ok b0 =>
    match g.strand with
    | .plus =>
      match genomicToGene g t.spanStart, genomicToGene g (t.spanStop - 1) with
      | .ok ts, .ok te => .ok (a0, b0 + 1, ts, te + 1)
      | _, _ => .error .outOfGene
    | .minus =>
      match genomicToGene g (t.spanStop - 1), genomicToGene g t.spanStart with
      | .ok ts, .ok te => .ok (b0, a0 + 1, ts, te + 1)
      | _, _ => .error .outOfGene
  | _, _ => .error .outOfGene

/-- the allele in gene orientation (`Seq(allele).reverse_complement()` on the minus strand) -/
def strandAllele : Strand → List Char → List Char
  | .plus, al => al
  | .minus, al => revComp al

/-- the strand-independent tail of `convert_to_variant_record`: from the gene interval
`[a, b)` (`alt_start`, `alt_end`), `tx_start_genetic` and the allele in gene orientation to
the anchored record.  `seq` is the gene sequence.  The end-inclusion re-anchoring below is the one
of the code before the repair d45e6f8, which added the test `alt_start > tx_start_genetic`
(`VEPParser.py:178`); on a row with `a = txS` model and code differ, and the harness accepts either. -/
def vepAnchor (seq : List Char) (a b txS : Nat) (allele : Option (List Char)) :
    Except VepErr GvfRec :=
  match allele with
  | none =>
    -- deletion
    if a = txS then
      -- at the transcript start (only reachable under cds_start_NF): anchored at the END
      mkRec a (b + 1) (pySlice seq a (b + 1)) (pySlice seq b (b + 1))
    else
      match seq[a - 1]? with
      | none => .error .indexError
      | some c => mkRec (a - 1) b (pySlice seq (a - 1) b) [c]
  | some al =>
    if b - a = 1 then
      if al.length > 1 then
        -- one-base span insertion
        match seq[a]? with
        | none => .error .indexError
        | some ref =>
          if some ref = al.getLast? then
            -- end-inclusion spelling: re-anchor one base upstream
            if a = 0 then
              match seq.getLast? with
              | none => .error .indexError
              | some l => .error (.negAnchor [l] (l :: al.dropLast))
            else
              match seq[a - 1]? with
              | none => .error .indexError
              | some r2 => mkRec (a - 1) a [r2] (r2 :: al.dropLast)
          else if some ref = al.head? then
            mkRec a b [ref] al
          else .error .unanchorable
      else
        -- SNV
        match seq[a]? with
        | none => .error .indexError
        | some ref => mkRec a b [ref] al
    else if b - a = 2 then
      -- insertion between the two bases of the span
      match seq[a]? with
      | none => .error .indexError
      | some ref => mkRec a (b - 1) [ref] (ref :: al)
    else
      mkRec a b (pySlice seq a b) al

/-- `VEPRecord.convert_to_variant_record(anno, genome)`; `nf` = `tx_model.is_cds_start_nf()`,
`seq` = `gene_model.get_gene_sequence(genome[chrom])`. -/
def vepConvert (g : Gene) (t : Transcript) (nf : Bool) (seq : List Char) (row : VepRow) :
    Except VepErr GvfRec :=
  match vepLocate g t row with
  | .error e => .error e
  | .ok (a, b, txS, txE) =>
    if a < txS ∨ (a = txS ∧ nf = false) then .error .startSite
    else if b > txE then .error .stopSite
    else vepAnchor seq a b txS (row.allele.map (strandAllele g.strand))

/-! ## Layer M : REDItools -/

/-- one row of the annotated REDItools table, as far as the converter reads it -/
structure RediSite where
  /-- 1-based genomic position -/
  pos : Nat
  /-- `BaseCount[A,C,G,T]` -/
  nA : Nat
  nC : Nat
  nG : Nat
  nT : Nat
  /-- `AllSubs` -/
  subs : List (Char × Char)
  /-- `gCoverage-q`: `none` when the field is not an integer (e.g. `-`) -/
  gcov : Option Int
deriving DecidableEq, Repr, Inhabited

/-- thresholds of `parseREDItools`; `--min-frequency-alt` as the exact rational `fnum / fden` -/
structure RediParams where
  minAlt : Int
  fnum : Nat
  fden : Nat
  minRna : Int
  minDna : Int
deriving DecidableEq, Repr, Inhabited

def RediSite.total (s : RediSite) : Nat := s.nA + s.nC + s.nG + s.nT

/-- `base_count[base_count_order[alt]]` (`KeyError` for a letter outside `ACGT`) -/
def RediSite.count (s : RediSite) (c : Char) : Option Nat :=
  if c = 'A' then some s.nA else if c = 'C' then some s.nC
  else if c = 'G' then some s.nG else if c = 'T' then some s.nT else none

inductive RediErr where
  | keyError
  | zeroDivision
  /-- `ValueError` of `coordinate_genomic_to_gene` -/
  | outOfGene
deriving DecidableEq, Repr, Inhabited

/-- the loop over `all_subs` in `get_valid_subs` -/
def rediSubLoop (p : RediParams) (s : RediSite) :
    List (Char × Char) → Except RediErr (List (Char × Char))
  | [] => .ok []
  | sub :: rest =>
    match s.count sub.2 with
    | none => .error .keyError
    | some n =>
      if (n : Int) < p.minAlt then rediSubLoop p s rest
      else if s.total = 0 then .error .zeroDivision
      -- read_count / total_count < min_frequency_alt, exactly: n / total < fnum / fden
      else if n * p.fden < p.fnum * s.total then rediSubLoop p s rest
      else match rediSubLoop p s rest with
        | .ok l => .ok (sub :: l)
        | .error e => .error e

/-- `if self.g_coverage_q != -1: if self.g_coverage_q is None or self.g_coverage_q <
min_coverage_dna: return []` -/
def gcovFails (gcov : Option Int) (minDna : Int) : Bool :=
  match gcov with
  | none => true
  | some c => decide (c ≠ -1) && decide (c < minDna)

/-- `REDItoolsRecord.get_valid_subs` -/
def rediValidSubs (p : RediParams) (s : RediSite) : Except RediErr (List (Char × Char)) :=
  if (s.total : Int) < p.minRna then .ok []
  else if gcovFails s.gcov p.minDna then .ok []
  else rediSubLoop p s s.subs

/-- a record of parseREDItools: index of the listed transcript, gene position, REF, ALT -/
structure RediRec where
  tx : Nat
  pos : Nat
  ref : Char
  alt : Char
deriving DecidableEq, Repr, Inhabited

/-- loop of `convert_to_variant_records` over the listed transcripts (`feature == 'transcript'`),
as written before the repair accbcc2 (the code now is `rediLoopFixed`): only the `ValueError`
whose message is `ERROR_INDEX_IN_INTRON` skips the
transcript; the out-of-range `ValueError` is swallowed by the `except` and execution falls
through.  `i` is the index of the head of the list. -/
def rediLoop (p : RediParams) (s : RediSite) :
    List (Gene × Transcript) → Nat → Except RediErr (List RediRec)
  | [], _ => .ok []
  | (g, t) :: rest, i =>
    if txIndex t (s.pos - 1) = .error .intron then rediLoop p s rest (i + 1)
    else
      match genomicToGene g (s.pos - 1) with
      | .error _ => .error .outOfGene
      | .ok q =>
        match rediValidSubs p s with
        | .error e => .error e
        | .ok subs =>
          match rediLoop p s rest (i + 1) with
          | .error e => .error e
          | .ok l => .ok (subs.map (fun sub => ⟨i, q, sub.1, sub.2⟩) ++ l)

/-- `REDItoolsRecord.convert_to_variant_records` as written before the repair accbcc2 -/
def rediConvert (p : RediParams) (s : RediSite) (listed : List (Gene × Transcript)) :
    Except RediErr (List RediRec) :=
  rediLoop p s listed 0

/-- the repaired loop: every `ValueError` of `get_transcript_index` (intron AND out of the
transcript's range) skips the transcript -/
def rediLoopFixed (p : RediParams) (s : RediSite) :
    List (Gene × Transcript) → Nat → Except RediErr (List RediRec)
  | [], _ => .ok []
  | (g, t) :: rest, i =>
    match txIndex t (s.pos - 1) with
    | .error _ => rediLoopFixed p s rest (i + 1)
    | .ok _ =>
      match genomicToGene g (s.pos - 1) with
      | .error _ => .error .outOfGene
      | .ok q =>
        match rediValidSubs p s with
        | .error e => .error e
        | .ok subs =>
          match rediLoopFixed p s rest (i + 1) with
          | .error e => .error e
          | .ok l => .ok (subs.map (fun sub => ⟨i, q, sub.1, sub.2⟩) ++ l)

def rediConvertFixed (p : RediParams) (s : RediSite) (listed : List (Gene × Transcript)) :
    Except RediErr (List RediRec) :=
  rediLoopFixed p s listed 0

end MoPepGen
