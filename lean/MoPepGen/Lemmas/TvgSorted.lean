/-
`sorted(variants)` in `create_variant_graph` (`Model/Tvg.lean`: `pySorted`, CPython's `list.sort`
for fewer than 64 elements = one `count_run` + `binarysort`) keeps membership (`mem_pySorted`; that
it is a permutation is not proved) and returns the records in ascending order of start: for any
comparison `lt` that agrees with a key (`lt a b → key a ≤ key b`, `¬ lt a b → key b ≤ key a`) the
result is ascending in the key (`pySorted_asc`), and `VariantRecord.__lt__` agrees with
`location.start` (`recLt_agrees`).
-/
import MoPepGen.Model.Tvg
namespace MoPepGen.Tvg
open MoPepGen MoPepGen.Spec

theorem mem_binInsertAll {α : Type} [Inhabited α] (lt : α → α → Bool) (x : α) :
    ∀ (rest sorted : List α), x ∈ binInsertAll lt sorted rest ↔ x ∈ sorted ∨ x ∈ rest := by
  intro rest
  induction rest with
  | nil => intro sorted; simp [binInsertAll]
  | cons p rest ih =>
    intro sorted
    rw [binInsertAll, ih]
    generalize bisect lt p sorted (sorted.length + 1) 0 sorted.length = l
    conv => rhs; rw [← List.take_append_drop l sorted]
    simp only [List.mem_append, List.mem_cons, or_assoc, or_left_comm]

theorem mem_pySorted {α : Type} [Inhabited α] {lt : α → α → Bool} {xs out : List α}
    (h : pySorted lt xs = .ok out) (x : α) : x ∈ out ↔ x ∈ xs := by
  unfold pySorted at h
  split at h
  · cases h; rfl
  · cases h; rfl
  · rename_i a b rest
    split at h
    · cases h
    · cases h
      rw [mem_binInsertAll]
      generalize (1 + if lt b a = true then runMore (fun prev z => lt z prev) a (b :: rest)
        else runMore (fun prev z => !lt z prev) a (b :: rest)) = n
      conv => rhs; rw [← List.take_append_drop n (a :: b :: rest), List.mem_append]
      split <;> simp only [List.mem_reverse]

/-- ascending in the key (weakly) -/
def AscBy {α : Type} (K : α → Nat) (l : List α) : Prop := l.Pairwise fun a b => K a ≤ K b

/-- the comparison agrees with the key -/
def LtAgrees {α : Type} (lt : α → α → Bool) (K : α → Nat) : Prop :=
  ∀ a b, (lt a b = true → K a ≤ K b) ∧ (lt a b = false → K b ≤ K a)

theorem ascBy_split {α : Type} {K : α → Nat} {a : List α} (h : AscBy K a) (p : Nat) (hp : p < a.length) :
    (∀ x ∈ a.take (p + 1), K x ≤ K a[p]) ∧ (∀ x ∈ a.drop p, K a[p] ≤ K x) := by
  have e : a = a.take p ++ a[p] :: a.drop (p + 1) := by
    rw [← List.drop_eq_getElem_cons hp, List.take_append_drop]
  have h' : AscBy K (a.take p ++ a[p] :: a.drop (p + 1)) := by rw [← e]; exact h
  simp only [AscBy, List.pairwise_append, List.pairwise_cons] at h'
  obtain ⟨_, ⟨h2, _⟩, h3⟩ := h'
  constructor
  · intro x hx
    rw [List.take_succ_eq_append_getElem hp] at hx
    rcases List.mem_append.mp hx with hx | hx
    · exact h3 x hx a[p] (List.mem_cons.mpr (Or.inl rfl))
    · cases List.mem_singleton.mp hx; exact Nat.le_refl _
  · intro x hx
    rw [List.drop_eq_getElem_cons hp] at hx
    rcases List.mem_cons.mp hx with rfl | hx
    · exact Nat.le_refl _
    · exact h2 x hx

/-- the binary search of `binarysort` on an ascending list: everything before the returned
position is `≤ pivot`, everything from it on is `≥ pivot` -/
theorem bisect_spec {α : Type} [Inhabited α] {lt : α → α → Bool} {K : α → Nat} (hlt : LtAgrees lt K)
    (pivot : α) {a : List α} (ha : AscBy K a) :
    ∀ (fuel l r : Nat), l ≤ r → r ≤ a.length → r - l ≤ fuel →
      (∀ x ∈ a.take l, K x ≤ K pivot) → (∀ x ∈ a.drop r, K pivot ≤ K x) →
      (∀ x ∈ a.take (bisect lt pivot a fuel l r), K x ≤ K pivot) ∧
        (∀ x ∈ a.drop (bisect lt pivot a fuel l r), K pivot ≤ K x) := by
  intro fuel
  induction fuel with
  | zero =>
    intro l r hlr _ hf h1 h2
    obtain rfl : l = r := Nat.le_antisymm hlr (Nat.le_of_sub_eq_zero (Nat.le_zero.mp hf))
    exact ⟨h1, h2⟩
  | succ n ih =>
    intro l r hlr hr hf h1 h2
    rw [bisect]
    by_cases hl : l < r
    · rw [if_pos hl]
      -- the probe `p` lies in `[l, r)`
      have hd : (r - l) / 2 < r - l := Nat.div_lt_self (Nat.sub_pos_of_lt hl) (by decide)
      generalize (r - l) / 2 = q at hd ⊢
      obtain ⟨p, hp, hlp, hpr⟩ : ∃ p, p = l + q ∧ l ≤ p ∧ p < r := ⟨_, rfl, Nat.le_add_right l q, by omega⟩
      rw [← hp]
      dsimp only
      have hpa : p < a.length := Nat.lt_of_lt_of_le hpr hr
      obtain ⟨s1, s2⟩ := ascBy_split ha p hpa
      rw [show a.getD p default = a[p] by simp [List.getD_eq_getElem?_getD, List.getElem?_eq_getElem hpa]]
      cases hc : lt pivot a[p]
      · rw [if_neg Bool.false_ne_true]
        exact ih (p + 1) r hpr hr (by omega) (fun x hx => Nat.le_trans (s1 x hx) ((hlt pivot a[p]).2 hc)) h2
      · rw [if_pos rfl]
        exact ih l p hlp (Nat.le_of_lt hpa) (by omega) h1 fun x hx =>
          Nat.le_trans ((hlt pivot a[p]).1 hc) (s2 x hx)
    · rw [if_neg hl]
      obtain rfl : l = r := Nat.le_antisymm hlr (Nat.not_lt.mp hl)
      exact ⟨h1, h2⟩

theorem binInsertAll_asc {α : Type} [Inhabited α] {lt : α → α → Bool} {K : α → Nat}
    (hlt : LtAgrees lt K) :
    ∀ (rest sorted : List α), AscBy K sorted → AscBy K (binInsertAll lt sorted rest) := by
  intro rest
  induction rest with
  | nil => intro sorted h; exact h
  | cons pivot rest ih =>
    intro sorted h
    rw [binInsertAll]
    apply ih
    obtain ⟨b1, b2⟩ := bisect_spec hlt pivot h (sorted.length + 1) 0 sorted.length (Nat.zero_le _)
      (Nat.le_refl _) (Nat.le_succ _) (fun _ hx => by cases hx) (fun _ hx => by simp at hx)
    generalize bisect lt pivot sorted (sorted.length + 1) 0 sorted.length = p at b1 b2
    have h' : AscBy K (sorted.take p ++ sorted.drop p) := by rw [List.take_append_drop]; exact h
    simp only [AscBy, List.pairwise_append, List.pairwise_cons] at h' ⊢
    obtain ⟨h1, h2, h3⟩ := h'
    refine ⟨h1, ⟨b2, h2⟩, ?_⟩
    intro x hx y hy
    rcases List.mem_cons.mp hy with rfl | hy
    · exact b1 x hx
    · exact h3 x hx y hy

/-- the leading run that `count_run` finds is a chain of the relation the test implies -/
theorem run_pairwise {α : Type} {p : α → α → Bool} {R : α → α → Prop}
    (hp : ∀ a b, p a b = true → R a b) (htr : ∀ a b c, R a b → R b c → R a c) :
    ∀ (l : List α) (x : α), ((x :: l).take (1 + runMore p x l)).Pairwise R := by
  intro l
  induction l with
  | nil => intro x; simp [runMore]
  | cons z l ih =>
    intro x
    simp only [runMore]
    split
    · rename_i hxz
      have hz := ih z
      rw [Nat.add_comm 1] at hz ⊢
      rw [List.take_succ_cons]
      refine List.pairwise_cons.mpr ⟨?_, hz⟩
      intro y hy
      rw [List.take_succ_cons] at hy hz
      rcases List.mem_cons.mp hy with rfl | hy
      · exact hp _ _ hxz
      · exact htr _ _ _ (hp _ _ hxz) ((List.pairwise_cons.mp hz).1 y hy)
    · simp

/-- **`sorted` returns an ascending list** (in any key the comparison agrees with) -/
theorem pySorted_asc {α : Type} [Inhabited α] {lt : α → α → Bool} {K : α → Nat}
    (hlt : LtAgrees lt K) {xs out : List α} (h : pySorted lt xs = .ok out) : AscBy K out := by
  unfold pySorted at h
  split at h
  · cases h; exact List.Pairwise.nil
  · cases h; exact List.pairwise_singleton _ _
  · rename_i x y rest
    split at h
    · cases h
    · cases h
      apply binInsertAll_asc hlt
      cases hd : lt y x
      · simp only [Bool.false_eq_true, if_false]
        exact run_pairwise (R := fun a b => K a ≤ K b)
          (fun a b hab => (hlt b a).2 (by simpa using hab))
          (fun a b c h1 h2 => Nat.le_trans h1 h2) (y :: rest) x
      · -- strictly descending run, reversed
        simp only [if_true, AscBy, List.pairwise_reverse]
        exact run_pairwise (R := fun a b => K b ≤ K a) (fun a b hab => ((hlt b a).1 hab))
          (fun a b c h1 h2 => Nat.le_trans h2 h1) (y :: rest) x

/-- `VariantRecord.__lt__` agrees with `location.start` -/
theorem recLt_agrees : LtAgrees recLt (·.start) := by
  intro a b
  simp only [recLt, recEq, recGt, locGt, locEq, Bool.not_eq_true', Bool.or_eq_false_iff,
    Bool.and_eq_false_iff, Bool.not_eq_false', Bool.or_eq_true, Bool.and_eq_true,
    decide_eq_true_eq, decide_eq_false_iff_not, beq_iff_eq, beq_eq_false_iff_ne]
  constructor
  · rintro ⟨_, h, _⟩
    omega
  · rintro (⟨⟨⟨⟨h, _⟩, _⟩, _⟩, _⟩ | (h | h) | ⟨⟨h, _⟩, _⟩) <;> omega

end MoPepGen.Tvg
