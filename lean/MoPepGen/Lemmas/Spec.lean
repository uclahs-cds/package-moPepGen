import MoPepGen.Spec.CallVariant
/-! Lemmas about the definitional layer (`Spec/CallVariant.lean`): the sub-collections behind
`haplotypes` and their growth with the record list; membership in `productForms` / `peptidesOf`
without the list operations; `startCodons` as one pass over the sequence; what the header-entry
predicates `witness…` select. -/
namespace MoPepGen.Spec

/-- For the test vectors: the kernel evaluates `"…".toList` on a literal through the UTF-8 encoding
of `String`, which costs more than the rest of a small evaluation; `String.toList_ofList` turns
each literal of the goal into the list of its characters in one step. -/
macro "char_lists" : tactic => `(tactic| repeat rw [String.toList_ofList])

theorem mem_sublists {α : Type} (l xs : List α) : l ∈ sublists xs ↔ l.Sublist xs := by
  induction xs generalizing l with
  | nil => simp [sublists]
  | cons x xs ih =>
    simp only [sublists, List.mem_append, List.mem_map]
    constructor
    · rintro (h | ⟨l', hl', rfl⟩)
      · exact ((ih l).mp h).cons x
      · exact ((ih l').mp hl').cons_cons x
    · intro h
      cases h with
      | cons _ h => exact Or.inl ((ih l).mpr h)
      | cons_cons _ h => exact Or.inr ⟨_, (ih _).mpr h, rfl⟩

theorem flatMap_sublist {α β : Type} {l l' : List α} {f g : α → List β} (h : l.Sublist l')
    (hfg : ∀ a, (f a).Sublist (g a)) : (l.flatMap f).Sublist (l'.flatMap g) := by
  induction h with
  | slnil => simp
  | cons a _ ih =>
    simp only [List.flatMap_cons]
    exact ih.trans (List.sublist_append_right _ _)
  | cons_cons a _ ih =>
    simp only [List.flatMap_cons]
    exact (hfg a).append ih

theorem mergedPairs_sublist {us us' : List Var} (h : us.Sublist us') :
    (mergedPairs us).Sublist (mergedPairs us') := by
  unfold mergedPairs
  exact flatMap_sublist h fun a => (h.filter _).map _

theorem recordPool_sublist (t : TxIn) {vs vs' : List Var} (h : vs.Sublist vs') :
    (recordPool t vs).Sublist (recordPool t vs') := by
  unfold recordPool
  have hu := h.filterMap (usable t)
  exact hu.append (mergedPairs_sublist hu)

theorem mem_haplotypes {t : TxIn} {vs h : List Var} :
    h ∈ haplotypes t vs ↔
      ∃ s, s.Sublist (recordPool t vs) ∧ h = sortByStart s ∧ h ≠ [] ∧ separated h = true := by
  simp only [haplotypes, List.mem_filter, List.mem_map, mem_sublists, Bool.and_eq_true,
    Bool.not_eq_true', List.isEmpty_eq_false_iff]
  constructor
  · rintro ⟨⟨s, hs, rfl⟩, hok⟩
    exact ⟨s, hs, rfl, hok⟩
  · rintro ⟨s, hs, rfl, hok⟩
    exact ⟨⟨s, hs, rfl⟩, hok⟩

theorem haplotypes_mono (t : TxIn) {vs vs' : List Var} (h : vs.Sublist vs') (hp : List Var)
    (hm : hp ∈ haplotypes t vs) : hp ∈ haplotypes t vs' := by
  obtain ⟨s, hs, hrest⟩ := mem_haplotypes.mp hm
  exact mem_haplotypes.mpr ⟨s, hs.trans (recordPool_sublist t h), hrest⟩

theorem mem_ite_append {α : Type} {c : Prop} [Decidable c] {l m : List α} {x : α} :
    x ∈ (if c then l ++ m else l) ↔ x ∈ l ∨ c ∧ x ∈ m := by
  by_cases hc : c
  · rw [if_pos hc, List.mem_append, and_iff_right hc]
  · rw [if_neg hc]; exact ⟨Or.inl, fun h => h.elim id fun h => absurd h.1 hc⟩

theorem mem_productForms {g : Cfg} {prot : Pep} {nf closed endNF : Bool} {p : Pep} :
    p ∈ productForms g prot nf closed endNF ↔
      (∃ b, (b ∈ rawProducts g.cleave prot nf (endNF && !closed) ∨
              g.sect = true ∧ ∃ r ∈ rawProducts g.cleave prot nf (endNF && !closed), b ∈ sectForms r) ∧
            (p = b ∨ g.w2f = true ∧ p ∈ w2fImages b)) ∧
        pepOk g.cleave p = true := by
  simp only [productForms, List.mem_filter]
  refine and_congr_left fun _ => ?_
  generalize rawProducts g.cleave prot nf (endNF && !closed) = raw
  have hbase : ∀ b, b ∈ raw ++ (if g.sect = true then raw.flatMap sectForms else []) ↔
      (b ∈ raw ∨ g.sect = true ∧ ∃ r ∈ raw, b ∈ sectForms r) := by
    intro b
    rw [List.mem_append, List.mem_ite_nil_right, List.mem_flatMap]
  rw [mem_ite_append, List.mem_flatMap]
  simp only [hbase]
  constructor
  · rintro (h | ⟨hw, b, hb, hp⟩)
    · exact ⟨p, h, Or.inl rfl⟩
    · exact ⟨b, hb, Or.inr ⟨hw, hp⟩⟩
  · rintro ⟨b, hb, rfl | ⟨hw, hp⟩⟩
    · exact Or.inl hb
    · exact Or.inr ⟨hw, b, hb, hp⟩

theorem pepOk_of_mem_productForms {g : Cfg} {prot : Pep} {nf closed endNF : Bool} {p : Pep}
    (h : p ∈ productForms g prot nf closed endNF) : pepOk g.cleave p = true :=
  (List.mem_filter.mp h).2

theorem mem_peptidesOf {g : Cfg} {t : TxIn} {seq : List Char} {sec : List Nat} {endNF : Bool}
    {p : Pep} : p ∈ peptidesOf g t seq sec endNF ↔
      ∃ s ∈ orfStarts t seq,
        p ∈ productForms g (proteinFrom seq sec s).1 false (proteinFrom seq sec s).2 endNF := by
  simp only [peptidesOf, List.mem_flatMap]

/-! ### `startCodons` in one pass

`startCodons` tests every position through three indexed reads, which on a concrete sequence costs
the kernel work quadratic in its length; the test vectors on non-coding transcripts rewrite it
into this scan first. -/

/-- the positions of `ATG` in `l`, counted from `off` for the head of `l` -/
def startCodonsFrom (off : Nat) : List Char → List Nat
  | [] => []
  | c :: rest =>
    if c == 'A' && rest[0]? == some 'T' && rest[1]? == some 'G' then
      off :: startCodonsFrom (off + 1) rest
    else startCodonsFrom (off + 1) rest

theorem startCodonsFrom_eq (l : List Char) : ∀ off, startCodonsFrom off l =
    ((List.range l.length).filter fun i =>
      l[i]? == some 'A' && l[i+1]? == some 'T' && l[i+2]? == some 'G').map (· + off) := by
  induction l with
  | nil => intro off; rfl
  | cons c rest ih =>
    intro off
    rw [startCodonsFrom, ih, List.length_cons, List.range_succ_eq_map, List.filter_cons,
      List.filter_map]
    simp only [apply_ite (List.map _), List.map_cons, List.map_map, Function.comp_def,
      List.getElem?_cons_succ, List.getElem?_cons_zero, Nat.zero_add, Option.some_beq_some,
      Nat.succ_add]
    rfl

theorem startCodons_eq_scan (seq : List Char) : startCodons seq = startCodonsFrom 0 seq := by
  rw [startCodonsFrom_eq]
  simp only [Nat.add_zero, List.map_id', startCodons]

/-- `hh` and `hcover` are the first two steps of `witness` / `witnessCirc` (the records an entry
names, and the test that they carry every named id) -/
theorem named_records_spec {t : TxIn} {vs : List Var} {ids : List Nat} {h : List Var}
    (hh : h = (sortByStart (vs.filterMap (usable t))).filter fun v => v.ids.all ids.contains)
    (hcover : ids.all (fun i => h.any (·.ids.contains i)) = true) :
    (∀ v ∈ h, ∃ w ∈ vs, usable t w = some v) ∧ (∀ v ∈ h, ∀ i ∈ v.ids, i ∈ ids) ∧
      ∀ i ∈ ids, ∃ v ∈ h, i ∈ v.ids := by
  refine ⟨fun v hv => ?_, fun v hv i hi => ?_, fun i hi => ?_⟩
  · obtain ⟨hv, _⟩ := List.mem_filter.mp (hh ▸ hv)
    exact List.mem_filterMap.mp ((mem_sortByStart_iff v _).mp hv)
  · obtain ⟨_, hall⟩ := List.mem_filter.mp (hh ▸ hv)
    exact List.contains_iff_mem.mp (List.all_eq_true.mp hall i hi)
  · obtain ⟨v, hv, hiv⟩ := List.any_eq_true.mp (List.all_eq_true.mp hcover i hi)
    exact ⟨v, hv, List.contains_iff_mem.mp hiv⟩

theorem named_ids_usable {t : TxIn} {vs : List Var} {ids : List Nat} {h : List Var}
    (hin : ∀ v ∈ h, ∃ w ∈ vs, usable t w = some v) (hcov : ∀ i ∈ ids, ∃ v ∈ h, i ∈ v.ids) :
    ∀ i ∈ ids, ∃ w ∈ vs, ∃ v, usable t w = some v ∧ i ∈ v.ids := by
  intro i hi
  obtain ⟨v, hv, hiv⟩ := hcov i hi
  obtain ⟨w, hw, hu⟩ := hin v hv
  exact ⟨w, hw, v, hu, hiv⟩

/-- for the fold that ends `witnessCompletion` / `witnessCircCompletion` -/
theorem exists_mem_of_foldl_none_eq_some {α β γ : Type} {cands : List α} {f : α → β}
    {step : Option γ → β → Option γ} {e : γ}
    (h : (cands.map f).foldl step none = some e) : ∃ c, c ∈ cands := by
  cases cands with
  | nil => cases h
  | cons c _ => exact ⟨c, List.mem_cons_self⟩

end MoPepGen.Spec
