import MoPepGen.Model.FusionSpec
import MoPepGen.Lemmas.Coord
/-!
Slices of a sequence (`chromSlice`), reverse complement and exon concatenation; then, in namespace
`Fusion`, the genomic positions of a transcript or gene listed in 5'→3' order (`txPositions`,
`genePositions`).  Both strands are treated at once: the `k`-th position of the list is the
position the coordinate loops return for index `k` (`txToGenomic_getElem?`,
`genePositions_getElem?`), and the sequence is the list of bases read at these positions
(`txSeq_eq_readBases`, `geneSeq_eq_readBases`).
-/
namespace MoPepGen

theorem chromSlice_length {chrom : List Char} {e : Iv} (h : e.stop ≤ chrom.length) :
    (chromSlice chrom e).length = e.stop - e.start := by
  rw [chromSlice, List.length_take, List.length_drop]
  exact Nat.min_eq_left (Nat.sub_le_sub_right h _)

theorem chromSlice_getElem? {chrom : List Char} {e : Iv} {i : Nat} (h : i < e.stop - e.start) :
    (chromSlice chrom e)[i]? = chrom[e.start + i]? := by
  simp only [chromSlice, List.getElem?_take, List.getElem?_drop, h, if_true]

theorem chromSlice_chromSlice (c : List Char) {s e a b : Nat} (h1 : s ≤ a) (h2 : b ≤ e) :
    chromSlice (chromSlice c ⟨s, e⟩) ⟨a - s, b - s⟩ = chromSlice c ⟨a, b⟩ := by
  unfold chromSlice
  dsimp only
  rw [List.drop_take, List.drop_drop, List.take_take, Nat.add_sub_cancel' h1,
    Nat.sub_sub_sub_cancel_right h1, Nat.sub_sub_sub_cancel_right h1,
    Nat.min_eq_left (Nat.sub_le_sub_right h2 a)]

theorem complement_complement (c : Char) : complement (complement c) = c := by
  by_cases h1 : c = 'A'; · subst h1; rfl
  by_cases h2 : c = 'T'; · subst h2; rfl
  by_cases h3 : c = 'C'; · subst h3; rfl
  by_cases h4 : c = 'G'; · subst h4; rfl
  by_cases h5 : c = 'a'; · subst h5; rfl
  by_cases h6 : c = 't'; · subst h6; rfl
  by_cases h7 : c = 'c'; · subst h7; rfl
  by_cases h8 : c = 'g'; · subst h8; rfl
  have : complement c = c := by
    unfold complement
    split <;> first | contradiction | rfl
  rw [this, this]

theorem revComp_revComp (s : List Char) : revComp (revComp s) = s := by
  unfold revComp
  rw [List.map_reverse, List.reverse_reverse, List.map_map]
  have : (complement ∘ complement) = id := by funext c; simp [complement_complement]
  rw [this, List.map_id]

theorem revComp_length (s : List Char) : (revComp s).length = s.length := by
  simp [revComp]

theorem revComp_append (a b : List Char) : revComp (a ++ b) = revComp b ++ revComp a := by
  simp [revComp]

theorem revComp_take (s : List Char) (n : Nat) :
    revComp (s.take n) = (revComp s).drop (s.length - n) := by
  unfold revComp
  rw [List.map_take, List.reverse_take, List.length_map]

theorem revComp_drop (s : List Char) (n : Nat) :
    revComp (s.drop n) = (revComp s).take (s.length - n) := by
  unfold revComp
  rw [List.map_drop, List.reverse_drop, List.length_map]

theorem chromSlice_revComp (s : List Char) {p q : Nat} (hp : p ≤ q) :
    chromSlice (revComp s) ⟨s.length - q, s.length - p⟩ = revComp (chromSlice s ⟨p, q⟩) := by
  unfold chromSlice
  dsimp only
  rw [revComp_take, revComp_drop, List.length_drop, List.drop_take,
    Nat.sub_sub_sub_cancel_right hp]

theorem revComp_getElem? {s : List Char} {i : Nat} (h : i < s.length) :
    (revComp s)[i]? = (s[s.length - 1 - i]?).map complement := by
  unfold revComp
  rw [List.getElem?_reverse (by simpa using h)]
  simp [List.getElem?_map]

theorem exonConcat_length {chrom : List Char} {es : List Iv} (h : OnChrom chrom.length es) :
    (exonConcat chrom es).length = exonsLen es := by
  induction es with
  | nil => rfl
  | cons e es ih =>
    simp only [exonConcat, exonsLen, List.length_append, Iv.len]
    rw [chromSlice_length (h e List.mem_cons_self),
      ih (fun x hx => h x (List.mem_cons_of_mem _ hx))]

theorem exonConcat_append (chrom : List Char) (a b : List Iv) :
    exonConcat chrom (a ++ b) = exonConcat chrom a ++ exonConcat chrom b := by
  induction a with
  | nil => rfl
  | cons e es ih => simp [exonConcat, ih]

/-- concatenation of reverse-complemented slices, for a list in descending order -/
def minusConcat (chrom : List Char) : List Iv → List Char
  | [] => []
  | e :: es => revComp (chromSlice chrom e) ++ minusConcat chrom es

theorem minusConcat_append (chrom : List Char) (a b : List Iv) :
    minusConcat chrom (a ++ b) = minusConcat chrom a ++ minusConcat chrom b := by
  induction a with
  | nil => rfl
  | cons e es ih => simp [minusConcat, ih]

theorem revComp_exonConcat (chrom : List Char) (es : List Iv) :
    revComp (exonConcat chrom es) = minusConcat chrom es.reverse := by
  induction es with
  | nil => rfl
  | cons e es ih =>
    simp only [exonConcat, revComp_append, List.reverse_cons, minusConcat_append, ih,
      minusConcat, List.append_nil]

namespace Fusion
open FusionSpec

def ascRange (e : Iv) : List Nat := List.range' e.start (e.stop - e.start)

/-- all exonic positions, ascending -/
def ascPositions (es : List Iv) : List Nat := es.flatMap ascRange

/-- positions in the order of the strand -/
def orient (s : Strand) (l : List Nat) : List Nat :=
  match s with
  | .plus => l
  | .minus => l.reverse

/-- exonic positions of a transcript in transcript order -/
def txPositions (t : Transcript) : List Nat := orient t.strand (ascPositions t.exons)
/-- positions of a gene in gene order -/
def genePositions (g : Gene) : List Nat := orient g.strand (ascRange g.loc)

theorem mem_ascRange {e : Iv} {q : Nat} : q ∈ ascRange e ↔ e.start ≤ q ∧ q < e.stop := by
  simp only [ascRange, List.mem_range'_1]; omega

theorem length_ascRange (e : Iv) : (ascRange e).length = e.stop - e.start := List.length_range'

theorem ascRange_getElem? {e : Iv} {i : Nat} (h : i < e.stop - e.start) :
    (ascRange e)[i]? = some (e.start + i) := by
  rw [ascRange, List.getElem?_range' h, Nat.one_mul]

theorem mem_ascPositions {es : List Iv} {q : Nat} :
    q ∈ ascPositions es ↔ ∃ e ∈ es, e.start ≤ q ∧ q < e.stop := by
  simp only [ascPositions, List.mem_flatMap, mem_ascRange]

theorem mem_orient {s : Strand} {l : List Nat} {q : Nat} : q ∈ orient s l ↔ q ∈ l := by
  cases s
  · exact Iff.rfl
  · exact List.mem_reverse

theorem length_orient (s : Strand) (l : List Nat) : (orient s l).length = l.length := by
  cases s
  · rfl
  · exact List.length_reverse

theorem length_ascPositions (es : List Iv) : (ascPositions es).length = exonsLen es := by
  induction es with
  | nil => rfl
  | cons e es ih =>
    rw [ascPositions, List.flatMap_cons, List.length_append, length_ascRange, ← ascPositions, ih]
    rfl

theorem length_txPositions (t : Transcript) : (txPositions t).length = t.len :=
  (length_orient _ _).trans (length_ascPositions _)

theorem orient_ascRange_getElem? (s : Strand) {e : Iv} {i : Nat} (h : i < e.len) :
    (orient s (ascRange e))[i]? = some (s.pos e i) := by
  cases s
  · exact (ascRange_getElem? h).trans (congrArg some (Nat.add_comm _ _))
  · show (ascRange e).reverse[i]? = some (e.stop - 1 - i)
    rw [List.getElem?_reverse (by rwa [length_ascRange]), length_ascRange,
      ascRange_getElem? (Nat.lt_of_le_of_lt (Nat.sub_le ..) (Nat.sub_one_lt (Nat.ne_zero_of_lt h))),
      Strand.start_add_len_sub h]

theorem mem_txPositions {t : Transcript} {q : Nat} : q ∈ txPositions t ↔ isExonic t q = true := by
  rw [txPositions, mem_orient, mem_ascPositions, isExonic_iff]

theorem mem_genePositions {g : Gene} {q : Nat} :
    q ∈ genePositions g ↔ g.loc.start ≤ q ∧ q < g.loc.stop := by
  rw [genePositions, mem_orient, mem_ascRange]

theorem chromSlice_eq_map {chrom : List Char} {e : Iv} (h : e.stop ≤ chrom.length) :
    chromSlice chrom e = (ascRange e).map (chrom.getD · 'N') := by
  apply List.ext_getElem?
  intro i
  by_cases hi : i < e.stop - e.start
  · have hlt : e.start + i < chrom.length := by omega
    rw [chromSlice_getElem? hi, List.getElem?_map, ascRange_getElem? hi, Option.map_some,
      List.getD_eq_getElem?_getD, List.getElem?_eq_getElem hlt, Option.getD_some]
  · rw [List.getElem?_eq_none (by rw [chromSlice_length h]; omega),
      List.getElem?_eq_none (by rw [List.length_map, length_ascRange]; omega)]

theorem exonConcat_eq_map {chrom : List Char} {es : List Iv} (hc : OnChrom chrom.length es) :
    exonConcat chrom es = (ascPositions es).map (chrom.getD · 'N') := by
  induction es with
  | nil => rfl
  | cons e es ih =>
    rw [exonConcat, ascPositions, List.flatMap_cons, List.map_append,
      chromSlice_eq_map (hc e List.mem_cons_self),
      ih (fun x hx => hc x (List.mem_cons_of_mem _ hx)), ascPositions]

theorem revComp_map_getD (chrom : List Char) (ps : List Nat) :
    revComp (ps.map (chrom.getD · 'N')) = ps.reverse.map (fun q => complement (chrom.getD q 'N')) := by
  rw [revComp, List.map_map, List.map_reverse]
  rfl

/-- a position on the chromosome is read as its base, in the orientation of the strand -/
theorem readBases_getElem? {chrom : List Char} (s : Strand) {ps : List Nat} {k p : Nat}
    (h : ps[k]? = some p) (hp : p < chrom.length) :
    ∃ c, chrom[p]? = some c ∧ (readBases chrom s ps)[k]? = some (strandBase s c) :=
  ⟨chrom[p], List.getElem?_eq_getElem hp, by
    rw [readBases, List.getElem?_map, h, Option.map_some, List.getD_eq_getElem?_getD,
      List.getElem?_eq_getElem hp, Option.getD_some]⟩

theorem txSeq_eq_readBases {chrom : List Char} {t : Transcript} (hne : t.exons ≠ [])
    (hc : OnChrom chrom.length t.exons) :
    txSeq chrom t = .ok (readBases chrom t.strand (txPositions t)) := by
  rw [txSeq, if_neg hne, txPositions, exonConcat_eq_map hc]
  cases t.strand
  · rfl
  · exact congrArg Except.ok (revComp_map_getD _ _)

theorem geneSeq_eq_readBases {chrom : List Char} {g : Gene} (hc : g.loc.stop ≤ chrom.length) :
    geneSeq chrom g = readBases chrom g.strand (genePositions g) := by
  rw [geneSeq, genePositions, chromSlice_eq_map hc]
  cases g.strand
  · rfl
  · exact revComp_map_getD _ _

theorem toGenomic_getElem? (s : Strand) {es : List Iv} {k p : Nat}
    (h : s.toGenomic k es = .ok p) :
    (es.flatMap fun e => orient s (ascRange e))[k]? = some p := by
  induction es generalizing k with
  | nil => cases s <;> cases h
  | cons e es ih =>
    have hlen : (orient s (ascRange e)).length = e.len :=
      (length_orient s _).trans (length_ascRange e)
    rw [List.flatMap_cons]
    by_cases hi : k < e.len
    · rw [Strand.toGenomic_cons_lt s hi] at h
      cases h
      rw [List.getElem?_append_left (by rwa [hlen]), orient_ascRange_getElem? s hi]
    · have hi := Nat.le_of_not_lt hi
      rw [Strand.toGenomic_cons_ge s hi] at h
      rw [List.getElem?_append_right (by rwa [hlen]), hlen]
      exact ih h

theorem txPositions_eq_flatMap (t : Transcript) :
    txPositions t = t.walk.flatMap fun e => orient t.strand (ascRange e) := by
  unfold txPositions Transcript.walk ascPositions
  cases t.strand
  · rfl
  · exact List.reverse_flatMap ..

theorem txToGenomic_getElem? {t : Transcript} {k p : Nat} (h : txToGenomic t k = .ok p) :
    (txPositions t)[k]? = some p := by
  rw [txToGenomic_eq] at h
  split at h
  · cases h
  · rw [txPositions_eq_flatMap]
    exact toGenomic_getElem? _ h

theorem txIndex_getElem? {t : Transcript} (hw : t.WF) {k p : Nat} (h : txIndex t p = .ok k) :
    (txPositions t)[k]? = some p :=
  txToGenomic_getElem? ((txIndex_eq_ok_iff hw).mp h)

theorem genePositions_getElem? {g : Gene} {i : Nat} (hi : i < g.len) :
    ∃ p : Nat, geneToGenomic g i = (p : Int) ∧ (genePositions g)[i]? = some p :=
  ⟨_, geneToGenomic_eq hi, orient_ascRange_getElem? g.strand hi⟩

end Fusion

end MoPepGen
