import MoPepGen.Model.Rmats
import MoPepGen.Model.RmatsSpec
import MoPepGen.Lemmas.Coord
import MoPepGen.Lemmas.Seq
/-!
Lemmas for C16 below the alignment step.  A transcript cut at a genomic position `P` between two
parts `A | B` of its exon list: `basesBefore` at `cut g P` is the length of the part that comes
first in the transcript (`headPart`), so `take` / `drop` at that index give the sequences of the
two parts, on either strand.  From this: what a record of each kind does to a transcript cut into
genomic parts (`apply_*`), and the four edits of a sorted exon list that the record of a genomic
region stands for (`delete_exon`, `delete_in_exon`, `insert_between`, `substitute_exon`).
Then the gene coordinates of a region as the code computes them, the RI exon walk, well-formed
transcripts cut around one exon, and junction novelty.
-/
namespace MoPepGen.Rmats
open MoPepGen

def InGene (g : Gene) (es : List Iv) : Prop :=
  ∀ e ∈ es, g.loc.start ≤ e.start ∧ e.start ≤ e.stop ∧ e.stop ≤ g.loc.stop

theorem InGene.append {g : Gene} {a b : List Iv} (ha : InGene g a) (hb : InGene g b) :
    InGene g (a ++ b) := List.forall_mem_append.mpr ⟨ha, hb⟩

theorem InGene.left {g : Gene} {a b : List Iv} (h : InGene g (a ++ b)) : InGene g a :=
  (List.forall_mem_append.mp h).1
theorem InGene.right {g : Gene} {a b : List Iv} (h : InGene g (a ++ b)) : InGene g b :=
  (List.forall_mem_append.mp h).2

theorem InGene.cons {g : Gene} {a b : Nat} {es : List Iv} (h0 : g.loc.start ≤ a) (h1 : a ≤ b)
    (h2 : b ≤ g.loc.stop) (h : InGene g es) : InGene g (⟨a, b⟩ :: es) :=
  List.forall_mem_cons.mpr ⟨⟨h0, h1, h2⟩, h⟩

theorem InGene.head {g : Gene} {pre rest : List Iv} {X : Iv} (h : InGene g (pre ++ X :: rest)) :
    g.loc.start ≤ X.start ∧ X.start ≤ X.stop ∧ X.stop ≤ g.loc.stop :=
  h X List.mem_append_cons_self

theorem InGene.shift {g : Gene} {pre rest : List Iv} {X : Iv} (h : InGene g (pre ++ X :: rest)) :
    InGene g (pre ++ [X] ++ rest) := List.append_cons .. ▸ h

theorem InGene.nil (g : Gene) : InGene g [] := fun _ h => nomatch h

theorem InGene.onChrom {g : Gene} {es : List Iv} {n : Nat} (h : InGene g es)
    (hc : g.loc.stop ≤ n) : OnChrom n es := fun e he => Nat.le_trans (h e he).2.2 hc

/-- the gene coordinate at which the genomic cut `P` falls: bases with genomic position `< P`
(plus) / `≥ P` (minus) are the ones upstream of it -/
def cut (g : Gene) (P : Nat) : Nat :=
  match g.strand with
  | .plus => P - g.loc.start
  | .minus => g.loc.stop - P

/-- which side of a genomic split `A | B` comes first in the transcript -/
def headPart (s : Strand) (A B : List Iv) : List Iv := match s with | .plus => A | .minus => B
def tailPart (s : Strand) (A B : List Iv) : List Iv := match s with | .plus => B | .minus => A

theorem sub_sub_sub_cancel_left {a b c : Nat} (h1 : c ≤ b) (h2 : b ≤ a) :
    a - c - (a - b) = b - c := by
  rw [← Nat.sub_add_sub_cancel h2 h1, Nat.add_sub_cancel_left]

/-! `omega` is slow on `min`, so the facts about `min q t - min q s` (the bases of one exon before
gene position `q`) are proved by hand. -/

theorem min_sub_min_of_le {q s t : Nat} (h1 : s ≤ t) (h2 : t ≤ q) :
    min q t - min q s = t - s := by
  rw [Nat.min_eq_right h2, Nat.min_eq_right (Nat.le_trans h1 h2)]

theorem min_sub_min_of_ge {q s t : Nat} (h1 : q ≤ s) (h2 : s ≤ t) : min q t - min q s = 0 := by
  rw [Nat.min_eq_left h1, Nat.min_eq_left (Nat.le_trans h1 h2), Nat.sub_self]

theorem min_mono (q : Nat) {a b : Nat} (h : a ≤ b) : min q a ≤ min q b :=
  Nat.le_min.mpr ⟨Nat.min_le_left .., Nat.le_trans (Nat.min_le_right ..) h⟩

theorem min_sub_min_split (q : Nat) {a b c : Nat} (h1 : a ≤ b) (h2 : b ≤ c) :
    min q c - min q a = (min q b - min q a) + (min q c - min q b) := by
  rw [Nat.add_comm, Nat.sub_add_sub_cancel (min_mono q h2) (min_mono q h1)]

theorem geneIv_start_eq_cut (g : Gene) (a b : Nat) :
    (geneIv g ⟨a, b⟩).start = cut g (match g.strand with | .plus => a | .minus => b) := by
  unfold geneIv cut
  cases g.strand <;> rfl

theorem basesBefore_append (g : Gene) (a b : List Iv) (q : Nat) :
    basesBefore g (a ++ b) q = basesBefore g a q + basesBefore g b q := by
  induction a with
  | nil => exact (Nat.zero_add _).symm
  | cons e es ih => simp only [List.cons_append, basesBefore, ih, Nat.add_assoc]

theorem basesBefore_below {g : Gene} {L : List Iv} {P : Nat}
    (hg : InGene g L) (h : ∀ e ∈ L, e.stop ≤ P) :
    basesBefore g L (cut g P) = match g.strand with | .plus => exonsLen L | .minus => 0 := by
  induction L with
  | nil => cases g.strand <;> rfl
  | cons e es ih =>
    obtain ⟨h0, h1, _⟩ := hg e List.mem_cons_self
    have h2 := h e List.mem_cons_self
    rw [basesBefore, ih (fun x hx => hg x (List.mem_cons_of_mem _ hx))
      (fun x hx => h x (List.mem_cons_of_mem _ hx))]
    unfold cut geneIv
    cases g.strand
    · simp only [exonsLen, Iv.len]
      rw [min_sub_min_of_le (Nat.sub_le_sub_right h1 _) (Nat.sub_le_sub_right h2 _),
        Nat.sub_sub_sub_cancel_right h0]
    · simp only
      rw [min_sub_min_of_ge (Nat.sub_le_sub_left h2 _) (Nat.sub_le_sub_left h1 _)]

theorem basesBefore_above {g : Gene} {L : List Iv} {P : Nat}
    (hg : InGene g L) (h : ∀ e ∈ L, P ≤ e.start) :
    basesBefore g L (cut g P) = match g.strand with | .plus => 0 | .minus => exonsLen L := by
  induction L with
  | nil => cases g.strand <;> rfl
  | cons e es ih =>
    obtain ⟨_, h1, h0⟩ := hg e List.mem_cons_self
    have h2 := h e List.mem_cons_self
    rw [basesBefore, ih (fun x hx => hg x (List.mem_cons_of_mem _ hx))
      (fun x hx => h x (List.mem_cons_of_mem _ hx))]
    unfold cut geneIv
    cases g.strand
    · simp only
      rw [min_sub_min_of_ge (Nat.sub_le_sub_right h2 _) (Nat.sub_le_sub_right h1 _)]
    · simp only [exonsLen, Iv.len]
      rw [min_sub_min_of_le (Nat.sub_le_sub_left h1 _) (Nat.sub_le_sub_left h2 _),
        sub_sub_sub_cancel_left h1 h0]

theorem basesBefore_split (g : Gene) (pre post : List Iv) {a b c : Nat} (h1 : a ≤ b)
    (h2 : b ≤ c) (q : Nat) :
    basesBefore g (pre ++ ⟨a, c⟩ :: post) q
      = basesBefore g (pre ++ ⟨a, b⟩ :: ⟨b, c⟩ :: post) q := by
  simp only [basesBefore_append, basesBefore, geneIv]
  cases g.strand
  · simp only
    rw [min_sub_min_split q (Nat.sub_le_sub_right h1 _) (Nat.sub_le_sub_right h2 _), Nat.add_assoc]
  · simp only
    rw [min_sub_min_split q (Nat.sub_le_sub_left h2 _) (Nat.sub_le_sub_left h1 _),
      Nat.add_comm (min _ _ - _), Nat.add_assoc]

theorem seqOfExons_length {chrom : List Char} (s : Strand) {L : List Iv}
    (h : OnChrom chrom.length L) : (seqOfExons chrom s L).length = exonsLen L := by
  cases s with
  | plus => exact exonConcat_length h
  | minus => exact (revComp_length _).trans (exonConcat_length h)

theorem seqOfExons_split (chrom : List Char) (s : Strand) (A B : List Iv) :
    seqOfExons chrom s (A ++ B)
      = seqOfExons chrom s (headPart s A B) ++ seqOfExons chrom s (tailPart s A B) := by
  cases s with
  | plus => exact exonConcat_append chrom A B
  | minus => exact (congrArg revComp (exonConcat_append chrom A B)).trans (revComp_append _ _)

theorem seqOfExons_insert (chrom : List Char) (s : Strand) (A B : List Iv) (D : Iv) :
    seqOfExons chrom s (A ++ D :: B)
      = seqOfExons chrom s (headPart s A B) ++ seqOfExons chrom s [D]
        ++ seqOfExons chrom s (tailPart s A B) := by
  cases s <;>
    simp only [seqOfExons, headPart, tailPart, exonConcat_append, exonConcat, revComp_append,
      List.append_nil, List.append_assoc]

section
variable {chrom : List Char} {g : Gene} {A B : List Iv} {P : Nat}
  (hA : InGene g A) (hB : InGene g B) (hAP : ∀ e ∈ A, e.stop ≤ P) (hPB : ∀ e ∈ B, P ≤ e.start)
include hA hB hAP hPB

theorem basesBefore_cut : basesBefore g (A ++ B) (cut g P) = exonsLen (headPart g.strand A B) := by
  rw [basesBefore_append, basesBefore_below hA hAP, basesBefore_above hB hPB]
  cases g.strand
  · exact Nat.add_zero _
  · exact Nat.zero_add _

variable (hc : g.loc.stop ≤ chrom.length)
include hc

theorem cut_length :
    basesBefore g (A ++ B) (cut g P)
      = (seqOfExons chrom g.strand (headPart g.strand A B)).length := by
  rw [basesBefore_cut hA hB hAP hPB, seqOfExons_length]
  unfold headPart
  cases g.strand
  · exact hA.onChrom hc
  · exact hB.onChrom hc

theorem take_cut :
    (seqOfExons chrom g.strand (A ++ B)).take (basesBefore g (A ++ B) (cut g P))
      = seqOfExons chrom g.strand (headPart g.strand A B) := by
  rw [cut_length hA hB hAP hPB hc, seqOfExons_split, List.take_left]

theorem drop_cut :
    (seqOfExons chrom g.strand (A ++ B)).drop (basesBefore g (A ++ B) (cut g P))
      = seqOfExons chrom g.strand (tailPart g.strand A B) := by
  rw [cut_length hA hB hAP hPB hc, seqOfExons_split, List.drop_left]

end


theorem donor_slice {chrom : List Char} {g : Gene} {D : Iv}
    (h1 : g.loc.start ≤ D.start) (h2 : D.start ≤ D.stop) (h3 : D.stop ≤ g.loc.stop)
    (hc : g.loc.stop ≤ chrom.length) :
    slice (geneSeq chrom g) (geneIv g D).start (geneIv g D).stop
      = seqOfExons chrom g.strand [D] := by
  unfold geneSeq geneIv seqOfExons
  cases g.strand
  · simp only [exonConcat, List.append_nil]
    exact chromSlice_chromSlice chrom h1 h3
  · simp only [exonConcat, List.append_nil]
    rw [← chromSlice_chromSlice chrom h1 h3, ← chromSlice_revComp _ (Nat.sub_le_sub_right h2 _),
      chromSlice_length hc, Nat.sub_sub_sub_cancel_right (Nat.le_trans h1 h2),
      Nat.sub_sub_sub_cancel_right h1]
    rfl


theorem chromSlice_merge (chrom : List Char) {a b c : Nat} (h1 : a ≤ b) (h2 : b ≤ c) :
    chromSlice chrom ⟨a, b⟩ ++ chromSlice chrom ⟨b, c⟩ = chromSlice chrom ⟨a, c⟩ := by
  simp only [chromSlice]
  rw [← Nat.sub_add_sub_cancel h2 h1, Nat.add_comm, List.take_add, List.drop_drop,
    Nat.add_sub_cancel' h1]

theorem seqOfExons_congr {chrom : List Char} {A B : List Iv}
    (h : exonConcat chrom A = exonConcat chrom B) (s : Strand) :
    seqOfExons chrom s A = seqOfExons chrom s B := by
  unfold seqOfExons
  rw [h]

theorem seqOfExons_merge2 (chrom : List Char) (s : Strand) (pre post : List Iv) {X Y : Iv}
    (h1 : X.start ≤ X.stop) (h : X.stop = Y.start) (h2 : Y.start ≤ Y.stop) :
    seqOfExons chrom s (pre ++ X :: Y :: post)
      = seqOfExons chrom s (pre ++ ⟨X.start, Y.stop⟩ :: post) := by
  refine seqOfExons_congr ?_ s
  simp only [exonConcat_append, exonConcat]
  rw [← chromSlice_merge chrom (Nat.le_trans h1 (Nat.le_of_eq h)) h2, List.append_assoc]
  simp only [chromSlice, h]

theorem seqOfExons_drop_empty (chrom : List Char) (s : Strand) (A B : List Iv) (x : Nat) :
    seqOfExons chrom s (A ++ ⟨x, x⟩ :: B) = seqOfExons chrom s (A ++ B) := by
  refine seqOfExons_congr ?_ s
  simp only [exonConcat_append, exonConcat, chromSlice, Nat.sub_self, List.take_zero,
    List.nil_append]


theorem take_drop_region {chrom : List Char} {g : Gene} {A M B : List Iv} {Ps Pe : Nat}
    (hA : InGene g A) (hM : InGene g M) (hB : InGene g B) (hc : g.loc.stop ≤ chrom.length)
    (hA1 : ∀ e ∈ A, e.stop ≤ Ps) (hM1 : ∀ e ∈ M, Ps ≤ e.start) (hM2 : ∀ e ∈ M, e.stop ≤ Pe)
    (hB1 : ∀ e ∈ B, Pe ≤ e.start) (hse : Ps ≤ Pe) :
    (seqOfExons chrom g.strand (A ++ M ++ B)).take
        (basesBefore g (A ++ M ++ B) (geneIv g ⟨Ps, Pe⟩).start)
      = seqOfExons chrom g.strand (headPart g.strand A B)
    ∧ (seqOfExons chrom g.strand (A ++ M ++ B)).drop
        (basesBefore g (A ++ M ++ B) (geneIv g ⟨Ps, Pe⟩).stop)
      = seqOfExons chrom g.strand (tailPart g.strand A B) := by
  have hMB : ∀ e ∈ M ++ B, Ps ≤ e.start := fun e he =>
    (List.mem_append.mp he).elim (hM1 e) (fun h => Nat.le_trans hse (hB1 e h))
  have hAM : ∀ e ∈ A ++ M, e.stop ≤ Pe := fun e he =>
    (List.mem_append.mp he).elim (fun h => Nat.le_trans (hA1 e h) hse) (hM2 e)
  have c1 := take_cut hA (hM.append hB) hA1 hMB hc
  have c2 := drop_cut hA (hM.append hB) hA1 hMB hc
  have c3 := take_cut (hA.append hM) hB hAM hB1 hc
  have c4 := drop_cut (hA.append hM) hB hAM hB1 hc
  rw [← List.append_assoc] at c1 c2
  revert c1 c2 c3 c4
  unfold geneIv cut
  cases g.strand
  · exact fun c1 _ _ c4 => ⟨c1, c4⟩
  · exact fun _ c2 c3 _ => ⟨c3, c2⟩

theorem apply_deletion {chrom : List Char} {g : Gene} {A M B : List Iv} {Ps Pe : Nat}
    {r : ASRec} (hA : InGene g A) (hM : InGene g M) (hB : InGene g B)
    (hc : g.loc.stop ≤ chrom.length)
    (hA1 : ∀ e ∈ A, e.stop ≤ Ps) (hM1 : ∀ e ∈ M, Ps ≤ e.start) (hM2 : ∀ e ∈ M, e.stop ≤ Pe)
    (hB1 : ∀ e ∈ B, Pe ≤ e.start) (hse : Ps ≤ Pe)
    (hk : r.kind = .deletion) (hr1 : r.start = (geneIv g ⟨Ps, Pe⟩).start)
    (hr2 : r.stop = (geneIv g ⟨Ps, Pe⟩).stop) :
    applyAS g (A ++ M ++ B) (seqOfExons chrom g.strand (A ++ M ++ B)) (geneSeq chrom g) r
      = seqOfExons chrom g.strand (A ++ B) := by
  obtain ⟨c1, c2⟩ := take_drop_region (chrom := chrom) hA hM hB hc hA1 hM1 hM2 hB1 hse
  simp only [applyAS, hk, hr1, hr2]
  rw [c1, c2, seqOfExons_split]

/-- `hr1`: `r.start` is the gene coordinate of the last transcript base before the cut `P` -/
theorem apply_insertion {chrom : List Char} {g : Gene} {A B : List Iv} {P : Nat} {D : Iv}
    {r : ASRec} (hA : InGene g A) (hB : InGene g B) (hD : InGene g [D])
    (hc : g.loc.stop ≤ chrom.length)
    (hA1 : ∀ e ∈ A, e.stop ≤ P) (hB1 : ∀ e ∈ B, P ≤ e.start)
    (hk : r.kind = .insertion) (hr1 : r.start + 1 = cut g P)
    (hr2 : r.donorStart = (geneIv g D).start) (hr3 : r.donorStop = (geneIv g D).stop) :
    applyAS g (A ++ B) (seqOfExons chrom g.strand (A ++ B)) (geneSeq chrom g) r
      = seqOfExons chrom g.strand (A ++ D :: B) := by
  have hd := hD D List.mem_cons_self
  simp only [applyAS, hk, hr1, hr2, hr3]
  rw [take_cut hA hB hA1 hB1 hc, drop_cut hA hB hA1 hB1 hc, donor_slice hd.1 hd.2.1 hd.2.2 hc,
    seqOfExons_insert]

theorem apply_substitution {chrom : List Char} {g : Gene} {A M B : List Iv} {Ps Pe : Nat}
    {D : Iv} {r : ASRec} (hA : InGene g A) (hM : InGene g M) (hB : InGene g B)
    (hD : InGene g [D]) (hc : g.loc.stop ≤ chrom.length)
    (hA1 : ∀ e ∈ A, e.stop ≤ Ps) (hM1 : ∀ e ∈ M, Ps ≤ e.start) (hM2 : ∀ e ∈ M, e.stop ≤ Pe)
    (hB1 : ∀ e ∈ B, Pe ≤ e.start) (hse : Ps ≤ Pe)
    (hk : r.kind = .substitution) (hr1 : r.start = (geneIv g ⟨Ps, Pe⟩).start)
    (hr2 : r.stop = (geneIv g ⟨Ps, Pe⟩).stop)
    (hr3 : r.donorStart = (geneIv g D).start) (hr4 : r.donorStop = (geneIv g D).stop) :
    applyAS g (A ++ M ++ B) (seqOfExons chrom g.strand (A ++ M ++ B)) (geneSeq chrom g) r
      = seqOfExons chrom g.strand (A ++ D :: B) := by
  have hd := hD D List.mem_cons_self
  obtain ⟨c1, c2⟩ := take_drop_region (chrom := chrom) hA hM hB hc hA1 hM1 hM2 hB1 hse
  simp only [applyAS, hk, hr1, hr2, hr3, hr4]
  rw [c1, c2, donor_slice hd.1 hd.2.1 hd.2.2 hc, seqOfExons_insert]


/-- the Deletion record of the genomic region `x` -/
def delRec (g : Gene) (x : Iv) : ASRec :=
  ⟨.deletion, (geneIv g x).start, (geneIv g x).stop, 0, 0⟩

/-- the Insertion record of the genomic donor `D` at the genomic cut `P` -/
def insRec (g : Gene) (P : Nat) (D : Iv) : ASRec :=
  ⟨.insertion, cut g P - 1, cut g P, (geneIv g D).start, (geneIv g D).stop⟩

/-- the Substitution record of the genomic region `x` by the genomic donor `D` -/
def subRec (g : Gene) (x D : Iv) : ASRec :=
  ⟨.substitution, (geneIv g x).start, (geneIv g x).stop, (geneIv g D).start, (geneIv g D).stop⟩

theorem below_snoc {pre : List Iv} {P : Iv} {c : Nat} (hp : ∀ e ∈ pre, e.stop ≤ P.start)
    (hP : P.start ≤ P.stop) (hc : P.stop ≤ c) : ∀ e ∈ pre ++ [P], e.stop ≤ c :=
  List.forall_mem_append.mpr ⟨fun e he => Nat.le_trans (Nat.le_trans (hp e he) hP) hc,
    List.forall_mem_singleton.mpr hc⟩

theorem above_cons {post : List Iv} {Q : Iv} {c : Nat} (hq : ∀ e ∈ post, Q.stop ≤ e.start)
    (hQ : Q.start ≤ Q.stop) (hc : c ≤ Q.start) : ∀ e ∈ Q :: post, c ≤ e.start :=
  List.forall_mem_cons.mpr ⟨hc, fun e he => Nat.le_trans (Nat.le_trans hc hQ) (hq e he)⟩

theorem applyAS_congr {g : Gene} {es es' : List Iv}
    (h : ∀ q, basesBefore g es q = basesBefore g es' q)
    (X G : List Char) (r : ASRec) : applyAS g es X G r = applyAS g es' X G r := by
  unfold applyAS
  cases r.kind <;> simp only [h]

theorem applyAS_split (chrom : List Char) (g : Gene) (pre post : List Iv) {a b c : Nat}
    (h1 : a ≤ b) (h2 : b ≤ c) (r : ASRec) :
    applyAS g (pre ++ ⟨a, c⟩ :: post) (seqOfExons chrom g.strand (pre ++ ⟨a, c⟩ :: post))
        (geneSeq chrom g) r
      = applyAS g (pre ++ ⟨a, b⟩ :: ⟨b, c⟩ :: post)
          (seqOfExons chrom g.strand (pre ++ ⟨a, b⟩ :: ⟨b, c⟩ :: post)) (geneSeq chrom g)
          r := by
  rw [applyAS_congr (basesBefore_split g pre post h1 h2),
    seqOfExons_merge2 chrom _ pre post (X := ⟨a, b⟩) (Y := ⟨b, c⟩) h1 rfl h2]

section
variable {chrom : List Char} {g : Gene} {es A B : List Iv}

theorem delete_exon {M : Iv}
    (he : es = A ++ M :: B) (hin : InGene g es) (hc : g.loc.stop ≤ chrom.length)
    (hA : ∀ e ∈ A, e.stop ≤ M.start) (hB : ∀ e ∈ B, M.stop ≤ e.start) :
    applyAS g es (seqOfExons chrom g.strand es) (geneSeq chrom g) (delRec g M)
      = seqOfExons chrom g.strand (A ++ B) := by
  subst he
  rw [List.append_cons] at hin ⊢
  exact apply_deletion hin.left.left hin.left.right hin.right hc hA
    (List.forall_mem_singleton.mpr (Nat.le_refl _)) (List.forall_mem_singleton.mpr (Nat.le_refl _))
    hB (hin.left.right M List.mem_cons_self).2.1 rfl rfl rfl

theorem delete_in_exon {X : Iv} {s e : Nat}
    (he : es = A ++ X :: B) (hin : InGene g es) (hc : g.loc.stop ≤ chrom.length)
    (hA : ∀ x ∈ A, x.stop ≤ X.start) (hB : ∀ x ∈ B, X.stop ≤ x.start)
    (h1 : X.start ≤ s) (h2 : s ≤ e) (h3 : e ≤ X.stop) :
    applyAS g es (seqOfExons chrom g.strand es) (geneSeq chrom g) (delRec g ⟨s, e⟩)
      = seqOfExons chrom g.strand (A ++ ⟨X.start, s⟩ :: ⟨e, X.stop⟩ :: B) := by
  subst he
  obtain ⟨hX0, _, hX1⟩ := hin.head
  have hs0 := Nat.le_trans hX0 h1
  have he1 := Nat.le_trans h3 hX1
  have hin' : InGene g (A ++ ⟨X.start, s⟩ :: ⟨s, e⟩ :: ⟨e, X.stop⟩ :: B) :=
    hin.left.append (.cons hX0 h1 (Nat.le_trans h2 he1) (.cons hs0 h2 he1
      (.cons (Nat.le_trans hs0 h2) h3 hX1 fun x hx => hin.right x (List.mem_cons_of_mem _ hx))))
  rw [show X = ⟨X.start, X.stop⟩ from rfl, applyAS_split chrom g A B (Nat.le_trans h1 h2) h3,
    applyAS_split chrom g A _ h1 h2, delete_exon (List.append_cons A ⟨X.start, s⟩ _) hin' hc
      (below_snoc hA h1 (Nat.le_refl _)) (above_cons (Q := ⟨e, X.stop⟩) hB h3 (Nat.le_refl _)),
    List.append_assoc]
  rfl

/-- the cut is the one both Insertion constructors and the RI code use: the end of `P` on `+`,
the start of `Q` on `-` -/
theorem insert_between {pre post : List Iv} {P Q D : Iv}
    (he : es = pre ++ P :: Q :: post) (hin : InGene g es) (hc : g.loc.stop ≤ chrom.length)
    (hp : ∀ e ∈ pre, e.stop ≤ P.start) (hP : P.start < P.stop) (hPD : P.stop ≤ D.start)
    (hD : D.start ≤ D.stop) (hDQ : D.stop ≤ Q.start) (hQ : Q.start < Q.stop)
    (hq : ∀ e ∈ post, Q.stop ≤ e.start) :
    applyAS g es (seqOfExons chrom g.strand es) (geneSeq chrom g)
        (insRec g (match g.strand with | .plus => P.stop | .minus => Q.start) D)
      = seqOfExons chrom g.strand (pre ++ P :: D :: Q :: post) := by
  subst he
  have hPin := hin.head
  have hQin := hin.shift.head
  rw [List.append_cons] at hin ⊢
  rw [List.append_cons pre P (D :: _)]
  have hPQ : P.stop ≤ Q.start := Nat.le_trans hPD (Nat.le_trans hD hDQ)
  refine apply_insertion (P := match g.strand with | .plus => P.stop | .minus => Q.start)
    hin.left hin.right
    (.cons (Nat.le_trans hPin.1 (Nat.le_trans hPin.2.1 hPD)) hD
      (Nat.le_trans hDQ (Nat.le_trans hQin.2.1 hQin.2.2)) (.nil g)) hc
    (below_snoc hp (Nat.le_of_lt hP) ?_) (above_cons hq (Nat.le_of_lt hQ) ?_) rfl
    (Nat.sub_add_cancel ?_) rfl rfl
  · cases g.strand
    · exact Nat.le_refl _
    · exact hPQ
  · cases g.strand
    · exact hPQ
    · exact Nat.le_refl _
  · unfold cut
    cases g.strand
    · exact Nat.sub_pos_of_lt (Nat.lt_of_le_of_lt hPin.1 hP)
    · exact Nat.sub_pos_of_lt (Nat.lt_of_lt_of_le hQ hQin.2.2)

theorem substitute_exon {M D : Iv}
    (he : es = A ++ M :: B) (hin : InGene g es) (hD : InGene g [D])
    (hc : g.loc.stop ≤ chrom.length)
    (hA : ∀ e ∈ A, e.stop ≤ M.start) (hB : ∀ e ∈ B, M.stop ≤ e.start) :
    applyAS g es (seqOfExons chrom g.strand es) (geneSeq chrom g) (subRec g M D)
      = seqOfExons chrom g.strand (A ++ D :: B) := by
  subst he
  rw [List.append_cons] at hin ⊢
  exact apply_substitution hin.left.left hin.left.right hin.right hD hc hA
    (List.forall_mem_singleton.mpr (Nat.le_refl _)) (List.forall_mem_singleton.mpr (Nat.le_refl _))
    hB (hin.left.right M List.mem_cons_self).2.1 rfl rfl rfl rfl rfl

end


theorem g2g_ok {g : Gene} {p : Nat} (h1 : g.loc.start ≤ p) (h2 : p < g.loc.stop) :
    g2g g p
      = .ok (match g.strand with | .plus => p - g.loc.start | .minus => g.loc.stop - 1 - p) := by
  unfold g2g genomicToGene liftG
  rw [if_pos ⟨h1, h2⟩]
  cases g.strand <;> rfl

/-- gene coordinates of the first and last base of a genomic region inside the gene, as the code
computes them (both ends by `coordinate_genomic_to_gene`, swapped on `-`) -/
theorem g2g_region {g : Gene} {gs ge : Nat} (h0 : g.loc.start ≤ gs) (h1 : gs < ge)
    (h2 : ge ≤ g.loc.stop) :
    g2g g gs = .ok (match g.strand with
        | .plus => (geneIv g ⟨gs, ge⟩).start | .minus => (geneIv g ⟨gs, ge⟩).stop - 1) ∧
      g2g g (ge - 1) = .ok (match g.strand with
        | .plus => (geneIv g ⟨gs, ge⟩).stop - 1 | .minus => (geneIv g ⟨gs, ge⟩).start) ∧
      (geneIv g ⟨gs, ge⟩).start < (geneIv g ⟨gs, ge⟩).stop := by
  have h3 : gs < g.loc.stop := Nat.lt_of_lt_of_le h1 h2
  have h4 : 0 < ge := Nat.zero_lt_of_lt h1
  rw [g2g_ok h0 h3, g2g_ok (Nat.le_sub_one_of_lt (Nat.lt_of_le_of_lt h0 h1))
    (Nat.lt_of_lt_of_le (Nat.sub_one_lt (Nat.ne_of_gt h4)) h2)]
  unfold geneIv
  cases g.strand
  · exact ⟨rfl, congrArg _ (Nat.sub_right_comm ..), Nat.sub_lt_sub_right h0 h1⟩
  · exact ⟨congrArg _ (Nat.sub_right_comm ..), congrArg _ (Nat.sub_sub_sub_cancel_right h4),
      Nat.sub_lt_sub_left h3 h1⟩


section
variable {ue ds : Nat} {txs : List Transcript}

theorem riWalk_cons_of_ne {e : Iv} (rest : List Iv) (h : e.stop ≠ ue) :
    riWalk ue ds (e :: rest)
      = ((riWalk ue ds rest).1,
          (riWalk ue ds rest).2 + if riRetainedTest ue ds e then 1 else 0) := by
  rw [riWalk.eq_def]
  simp only [if_neg h]

theorem riWalk_cons_of_off {e : Iv} (rest : List Iv)
    (h : e.stop < ue ∨ (ue < e.start ∧ e.start ≤ e.stop)) :
    riWalk ue ds (e :: rest) = riWalk ue ds rest := by
  have ht : riRetainedTest ue ds e = false := by
    simp only [riRetainedTest, Bool.and_eq_false_iff, decide_eq_false_iff_not]; omega
  rw [riWalk_cons_of_ne rest (by omega), ht]
  rfl

theorem riWalk_skip {pre : List Iv} (L : List Iv) (hp : ∀ e ∈ pre, e.stop < ue) :
    riWalk ue ds (pre ++ L) = riWalk ue ds L := by
  induction pre with
  | nil => rfl
  | cons e rest ih =>
    rw [List.cons_append, riWalk_cons_of_off _ (.inl (hp e List.mem_cons_self)),
      ih (fun x hx => hp x (List.mem_cons_of_mem _ hx))]

theorem riWalk_above {L : List Iv}
    (h : ∀ e ∈ L, ue < e.start ∧ e.start ≤ e.stop) : riWalk ue ds L = (false, 0) := by
  induction L with
  | nil => rfl
  | cons e rest ih =>
    rw [riWalk_cons_of_off _ (.inr (h e List.mem_cons_self)),
      ih (fun x hx => h x (List.mem_cons_of_mem _ hx))]

theorem riWalk_spliced_form {pre post : List Iv} {U D : Iv}
    (hp : ∀ e ∈ pre, e.start < e.stop ∧ e.stop < U.start) (hU : U.start < U.stop)
    (hu : U.stop = ue) (hd : D.start = ds) :
    riWalk ue ds (pre ++ U :: D :: post) = (true, 0) := by
  rw [riWalk_skip _ (fun e h => Nat.lt_trans (hp e h).2 (hu ▸ hU)), riWalk.eq_def]
  simp only [if_pos hu, if_pos hd]

theorem riWalk_retained_form {pre post : List Iv} {R : Iv}
    (hp : ∀ e ∈ pre, e.start < e.stop ∧ e.stop < R.start)
    (hq : ∀ e ∈ post, R.stop < e.start ∧ e.start < e.stop)
    (h1 : R.start < ue) (h2 : ue < ds) (h3 : ds < R.stop) :
    riWalk ue ds (pre ++ R :: post) = (false, 1) := by
  have ht : riRetainedTest ue ds R = true := by
    simp only [riRetainedTest, h1, h2, h3, decide_true, Bool.true_and]
  have h4 := Nat.lt_trans h2 h3
  rw [riWalk_skip _ (fun e h => Nat.lt_trans (hp e h).2 h1), riWalk_cons_of_ne _ (Nat.ne_of_gt h4),
    riWalk_above (fun e h => ⟨Nat.lt_trans h4 (hq e h).1, Nat.le_of_lt (hq e h).2⟩), ht]
  rfl

theorem getElem?_cons_sub {α : Type} (x : α) (xs : List α) {i k : Nat} (h : k + 1 ≤ i) :
    (x :: xs)[i - k]? = xs[i - (k + 1)]? := by
  rw [← Nat.sub_add_cancel (Nat.sub_pos_of_lt h), List.getElem?_cons_succ, Nat.sub_add_eq]

theorem mem_riSpliced {k i : Nat}
    (h : i ∈ riSpliced ue ds txs k) :
    k ≤ i ∧ ∃ t, txs[i - k]? = some t ∧ (riWalk ue ds t.exons).1 = true := by
  induction txs generalizing k with
  | nil => cases h
  | cons t ts ih =>
    rcases List.mem_append.mp h with h | h
    · by_cases hw : (riWalk ue ds t.exons).1 = true
      · rw [if_pos hw] at h
        cases List.mem_singleton.mp h
        exact ⟨Nat.le_refl _, t, by rw [Nat.sub_self]; rfl, hw⟩
      · rw [if_neg hw] at h
        cases h
    · obtain ⟨h1, t', h2, h3⟩ := ih h
      exact ⟨Nat.le_of_succ_le h1, t', (getElem?_cons_sub t ts h1).trans h2, h3⟩

theorem mem_riRetained {k i : Nat}
    (h : i ∈ riRetained ue ds txs k) :
    k ≤ i ∧ ∃ t, txs[i - k]? = some t ∧ 0 < (riWalk ue ds t.exons).2 := by
  induction txs generalizing k with
  | nil => cases h
  | cons t ts ih =>
    rcases List.mem_append.mp h with h | h
    · obtain ⟨h1, rfl⟩ := List.mem_replicate.mp h
      exact ⟨Nat.le_refl _, t, by rw [Nat.sub_self]; rfl, Nat.pos_of_ne_zero h1⟩
    · obtain ⟨h1, t', h2, h3⟩ := ih h
      exact ⟨Nat.le_of_succ_le h1, t', (getElem?_cons_sub t ts h1).trans h2, h3⟩

theorem riSpliced_ne_nil {t : Transcript} (ht : t ∈ txs)
    (h : (riWalk ue ds t.exons).1 = true) (k : Nat) : riSpliced ue ds txs k ≠ [] := by
  induction txs generalizing k with
  | nil => cases ht
  | cons x xs ih =>
    rw [riSpliced]
    rcases List.mem_cons.mp ht with rfl | h1
    · rw [if_pos h]
      exact List.cons_ne_nil _ _
    · exact List.append_ne_nil_of_right_ne_nil _ (ih h1 (k + 1))

theorem riRetained_ne_nil {t : Transcript} (ht : t ∈ txs)
    (h : 0 < (riWalk ue ds t.exons).2) (k : Nat) : riRetained ue ds txs k ≠ [] := by
  induction txs generalizing k with
  | nil => cases ht
  | cons x xs ih =>
    rw [riRetained]
    rcases List.mem_cons.mp ht with rfl | h1
    · exact List.append_ne_nil_of_left_ne_nil
        (mt (List.replicate_eq_nil_iff _).mp (Nat.ne_of_gt h)) _
    · exact List.append_ne_nil_of_right_ne_nil _ (ih h1 (k + 1))

end

theorem riIns_mem {s e : Nat} {sp : List Nat} {l : List (Nat × ASRec)}
    (h : riIns s e sp = .ok l) {i : Nat} {r : ASRec} (hm : (i, r) ∈ l) :
    i ∈ sp ∧ 0 < s ∧ r = ⟨.insertion, s - 1, s, s, e⟩ := by
  unfold riIns at h
  by_cases h0 : s = 0
  · rw [if_pos h0] at h
    by_cases h1 : sp = []
    · rw [if_pos h1] at h; cases h; cases hm
    · rw [if_neg h1] at h; cases h
  · rw [if_neg h0] at h
    cases h
    obtain ⟨j, hj, he⟩ := List.mem_map.mp hm
    cases he
    exact ⟨hj, Nat.pos_of_ne_zero h0, rfl⟩

theorem riDel_mem {s e : Nat} {rt : List Nat} {l : List (Nat × ASRec)}
    (h : riDel s e rt = .ok l) {i : Nat} {r : ASRec} (hm : (i, r) ∈ l) :
    i ∈ rt ∧ r = ⟨.deletion, s, e, 0, 0⟩ := by
  unfold riDel at h
  cases hl : mkLoc s e with
  | error x => rw [hl] at h; cases h
  | ok u =>
    rw [hl] at h; cases h
    obtain ⟨j, hj, he⟩ := List.mem_map.mp hm
    cases he
    exact ⟨hj, rfl⟩

theorem guard_mem {α : Type} {c : Prop} [Decidable c] {X : Except Err (List α)} {l : List α}
    {x : α} (h : (if c then X else .ok []) = .ok l) (hx : x ∈ l) : c ∧ X = .ok l := by
  by_cases hc : c
  · exact ⟨hc, (if_pos hc).symm.trans h⟩
  · rw [if_neg hc] at h
    cases h
    cases hx

theorem riConvert_mem {v : RI} {g : Gene} {txs : List Transcript} {mi ms : Nat}
    {out : List (Nat × ASRec)} (h : riConvert v g txs mi ms = .ok out) {i : Nat} {r : ASRec}
    (hm : (i, r) ∈ out) :
    ∃ s e, riCoords v g = .ok (s, e) ∧
      ((i ∈ riSpliced v.ue v.ds txs 0 ∧ v.ijc ≥ mi ∧ riRetained v.ue v.ds txs 0 = [] ∧
          0 < s ∧ r = ⟨.insertion, s - 1, s, s, e⟩) ∨
       (i ∈ riRetained v.ue v.ds txs 0 ∧ v.sjc ≥ ms ∧ riSpliced v.ue v.ds txs 0 = [] ∧
          r = ⟨.deletion, s, e, 0, 0⟩)) := by
  unfold riConvert at h
  cases hc : riCoords v g with
  | error x => rw [hc] at h; cases h
  | ok se =>
    obtain ⟨s, e⟩ := se
    rw [hc] at h
    simp only at h
    cases hi : (if riRetained v.ue v.ds txs 0 = [] ∧ v.ijc ≥ mi
        then riIns s e (riSpliced v.ue v.ds txs 0) else .ok []) with
    | error x => rw [hi] at h; cases h
    | ok ins =>
      cases hd : (if riSpliced v.ue v.ds txs 0 = [] ∧ v.sjc ≥ ms
          then riDel s e (riRetained v.ue v.ds txs 0) else .ok []) with
      | error x => rw [hi, hd] at h; cases h
      | ok del =>
        rw [hi, hd] at h
        cases h
        refine ⟨s, e, rfl, (List.mem_append.mp hm).imp (fun hm => ?_) (fun hm => ?_)⟩
        · obtain ⟨c, hi⟩ := guard_mem hi hm
          exact ⟨(riIns_mem hi hm).1, c.2, c.1, (riIns_mem hi hm).2⟩
        · obtain ⟨c, hd⟩ := guard_mem hd hm
          exact ⟨(riDel_mem hd hm).1, c.2, c.1, (riDel_mem hd hm).2⟩

theorem riCoords_eq {v : RI} {g : Gene} (h1 : g.loc.start ≤ v.ue) (h2 : v.ue < v.ds)
    (h3 : v.ds ≤ g.loc.stop) :
    riCoords v g = .ok ((geneIv g ⟨v.ue, v.ds⟩).start, (geneIv g ⟨v.ue, v.ds⟩).stop) := by
  obtain ⟨hs, he, hlt⟩ := g2g_region h1 h2 h3
  unfold riCoords
  rw [hs, he]
  cases g.strand
  all_goals
    simp only [bind, Except.bind, pure, Except.pure, Nat.sub_add_cancel (Nat.zero_lt_of_lt hlt)]


theorem wf_parts {t : Transcript} (hw : t.WF) {pre post : List Iv} {X : Iv}
    (he : t.exons = pre ++ X :: post) :
    (∀ e ∈ pre, e.start < e.stop ∧ e.stop < X.start) ∧ X.start < X.stop ∧
      (∀ e ∈ post, X.stop < e.start ∧ e.start < e.stop) := by
  obtain ⟨_, hn, hs⟩ := hw
  rw [he] at hn hs
  unfold Separated at hs
  rw [List.pairwise_append] at hs
  obtain ⟨_, h2, h3⟩ := hs
  rw [List.pairwise_cons] at h2
  refine ⟨fun e hm => ⟨hn e (List.mem_append_left _ hm), h3 e hm X List.mem_cons_self⟩,
    hn X List.mem_append_cons_self,
    fun e hm => ⟨h2.1 e hm, hn e (List.mem_append_right _ (List.mem_cons_of_mem _ hm))⟩⟩

theorem wf_pre_post {t : Transcript} (hw : t.WF) {pre post : List Iv} {X : Iv}
    (he : t.exons = pre ++ X :: post) : ∀ a ∈ pre, ∀ b ∈ post, a.stop < b.start := by
  obtain ⟨h1, h2, h3⟩ := wf_parts hw he
  exact fun a ha b hb => Nat.lt_trans (Nat.lt_trans (h1 a ha).2 h2) (h3 b hb).1

theorem inGene_of_within {t : Transcript} {g : Gene} (hw : t.WF) (hg : t.Within g) :
    InGene g t.exons :=
  fun e he => ⟨(hg.2 e he).1, Nat.le_of_lt (hw.2.1 e he), (hg.2 e he).2⟩


theorem hasJunction_cons2 (a b : Nat) (e1 e2 : Iv) (rest : List Iv) :
    hasJunction a b (e1 :: e2 :: rest)
      = if e2.start > b then false
        else if e1.stop = a ∧ e2.start = b then true else hasJunction a b (e2 :: rest) := by
  rw [hasJunction]

theorem hasJunction_cons_lt {a b : Nat} {e1 e2 : Iv} (rest : List Iv) (h : e2.start < b) :
    hasJunction a b (e1 :: e2 :: rest) = hasJunction a b (e2 :: rest) := by
  rw [hasJunction_cons2, if_neg (Nat.lt_asymm h), if_neg (fun c => Nat.ne_of_lt h c.2)]

/-- exons that all start before `b` do not make `has_junction` stop before it reaches `x → y` -/
theorem hasJunction_append {a b : Nat} {A post : List Iv} {x y : Iv}
    (hA : ∀ e ∈ A ++ [x], e.start < b) (hx : x.stop = a) (hy : y.start = b) :
    hasJunction a b (A ++ x :: y :: post) = true := by
  induction A with
  | nil =>
    rw [List.nil_append, hasJunction_cons2, if_neg (hy ▸ Nat.lt_irrefl _), if_pos ⟨hx, hy⟩]
  | cons e rest ih =>
    have ih := ih (fun z hz => hA z (List.mem_cons_of_mem _ hz))
    cases rest with
    | nil =>
      exact (hasJunction_cons_lt _ (hA x (List.mem_cons_of_mem _ List.mem_cons_self))).trans ih
    | cons r rest' =>
      exact (hasJunction_cons_lt _ (hA r (List.mem_cons_of_mem _ List.mem_cons_self))).trans ih

theorem hasJunction_of_form {a b : Nat} {t : Transcript} {pre post : List Iv} {x y : Iv}
    (hw : t.WF) (he : t.exons = pre ++ x :: y :: post) (hx : x.stop = a) (hy : y.start = b) :
    hasJunction a b t.exons = true := by
  have hp := (wf_parts hw (he.trans (List.append_cons ..))).1
  rw [he]
  exact hasJunction_append (fun e h => hy ▸ Nat.lt_trans (hp e h).1 (hp e h).2) hx hy

theorem isNovel_false_of_form {txs : List Transcript} {j : Junction} {t : Transcript}
    (ht : t ∈ txs) (hw : t.WF) (hj : HasJunction j.ue j.ds t.exons) : isNovel txs j = false := by
  obtain ⟨pre, x, y, post, he, hx, hy⟩ := hj
  unfold isNovel
  rw [Bool.not_eq_false', List.any_eq_true]
  exact ⟨t, ht, hasJunction_of_form hw he hx hy⟩

/-- `j.ue ≤ j.ds`: `is_novel` raises on an inverted junction (`isNovelE`) -/
def AllAnnotated (txs : List Transcript) (js : List Junction) : Prop :=
  ∀ j ∈ js, j.ue ≤ j.ds ∧ ∃ t ∈ txs, t.WF ∧ HasJunction j.ue j.ds t.exons

theorem allKnown_of_annotated {txs : List Transcript} {js : List Junction}
    (h : AllAnnotated txs js) : allKnown txs js = .ok true := by
  induction js with
  | nil => rfl
  | cons j js ih =>
    obtain ⟨h1, t, ht, hw, hj⟩ := h j List.mem_cons_self
    unfold allKnown isNovelE
    rw [if_neg (by omega)]
    simp only [bind, Except.bind, isNovel_false_of_form ht hw hj]
    exact ih (fun x hx => h x (List.mem_cons_of_mem _ hx))

end MoPepGen.Rmats
