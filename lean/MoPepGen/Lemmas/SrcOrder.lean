import MoPepGen.Lemmas.Split
/-! For C18 `source_order_total`: source sets are lists read up to `sameSet`; `to_int` is a
function of the set, and injective on sets when the level map is; `__gt__` (`srcGt`) is then a
strict total order; the orders the CLIs build keep their levels distinct. -/
namespace MoPepGen

theorem subsetB_iff (a b : SrcSet) : subsetB a b = true ↔ ∀ x ∈ a, x ∈ b := by
  simp only [subsetB, List.all_eq_true, List.contains_iff_mem]

theorem sameSet_iff (a b : SrcSet) : sameSet a b = true ↔ ∀ x, x ∈ a ↔ x ∈ b := by
  rw [sameSet, Bool.and_eq_true, subsetB_iff, subsetB_iff]
  exact ⟨fun h x => ⟨h.1 x, h.2 x⟩, fun h => ⟨fun x => (h x).mp, fun x => (h x).mpr⟩⟩

theorem sameSet_refl (a : SrcSet) : sameSet a a = true := (sameSet_iff a a).mpr fun _ => Iff.rfl

theorem sameSet_symm {a b : SrcSet} (h : sameSet a b = true) : sameSet b a = true :=
  (sameSet_iff b a).mpr fun x => ((sameSet_iff a b).mp h x).symm

theorem sameSet_trans {a b c : SrcSet} (h1 : sameSet a b = true) (h2 : sameSet b c = true) :
    sameSet a c = true :=
  (sameSet_iff a c).mpr fun x => ((sameSet_iff a b).mp h1 x).trans ((sameSet_iff b c).mp h2 x)

theorem sameSet_comm (a b : SrcSet) : sameSet a b = sameSet b a :=
  Bool.eq_iff_iff.mpr ⟨sameSet_symm, sameSet_symm⟩

theorem sameSet_congr_left {a b : SrcSet} (h : sameSet a b = true) (c : SrcSet) :
    sameSet a c = sameSet b c :=
  Bool.eq_iff_iff.mpr ⟨sameSet_trans (sameSet_symm h), sameSet_trans h⟩

theorem sameSet_congr_right {a b : SrcSet} (h : sameSet a b = true) (c : SrcSet) :
    sameSet c a = sameSet c b := by
  rw [sameSet_comm c a, sameSet_comm c b]; exact sameSet_congr_left h c

theorem sameSet_of_perm {a b : SrcSet} (h : a.Perm b) : sameSet a b = true :=
  (sameSet_iff a b).mpr fun _ => h.mem_iff

theorem sameSet_length {a b : SrcSet} (h : sameSet a b = true) (ha : a.Nodup) (hb : b.Nodup) :
    a.length = b.length :=
  ((List.perm_ext_iff_of_nodup ha hb).mpr ((sameSet_iff a b).mp h)).length_eq

/-- whatever reads a set only through `contains` depends only on the set -/
theorem contains_congr {s s' : SrcSet} (h : sameSet s s' = true) : s.contains = s'.contains := by
  funext x
  rw [Bool.eq_iff_iff, List.contains_iff_mem, List.contains_iff_mem]
  exact (sameSet_iff s s').mp h x

theorem all_congr {s s' : SrcSet} (h : sameSet s s' = true) (p : Src → Bool) :
    s.all p = s'.all p := by
  rw [Bool.eq_iff_iff, List.all_eq_true, List.all_eq_true]
  exact forall_congr' fun x => imp_congr_left ((sameSet_iff s s').mp h x)

theorem mem_insertSorted (x y : Nat) (l : List Nat) : y ∈ insertSorted x l ↔ y = x ∨ y ∈ l := by
  induction l with
  | nil => exact List.mem_cons
  | cons z zs ih =>
    rw [insertSorted]
    split
    · exact List.mem_cons
    · split
      · rename_i h
        rw [beq_iff_eq.mp h, List.mem_cons]
        exact ⟨.inr, fun h' => h'.elim .inl id⟩
      · rw [List.mem_cons, ih, List.mem_cons, or_left_comm]

theorem mem_sortDedup (y : Nat) (l : List Nat) : y ∈ sortDedup l ↔ y ∈ l := by
  induction l with
  | nil => exact Iff.rfl
  | cons x xs ih =>
    show y ∈ insertSorted x (sortDedup xs) ↔ _
    rw [mem_insertSorted, ih, List.mem_cons]

theorem insertSorted_sorted (x : Nat) (l : List Nat) (h : l.Pairwise (· < ·)) :
    (insertSorted x l).Pairwise (· < ·) := by
  induction l with
  | nil => exact List.pairwise_singleton _ _
  | cons z zs ih =>
    have hz := List.pairwise_cons.mp h
    rw [insertSorted]
    split
    · rename_i h1
      refine List.pairwise_cons.mpr ⟨fun a ha => ?_, h⟩
      rcases List.mem_cons.mp ha with rfl | ha
      · exact h1
      · exact Nat.lt_trans h1 (hz.1 a ha)
    · split
      · exact h
      · rename_i h1 h2
        refine List.pairwise_cons.mpr ⟨fun a ha => ?_, ih hz.2⟩
        rcases (mem_insertSorted x a zs).mp ha with rfl | ha
        · exact Nat.lt_of_le_of_ne (Nat.le_of_not_lt h1) fun e => h2 (beq_iff_eq.mpr e.symm)
        · exact hz.1 a ha

theorem sortDedup_sorted (l : List Nat) : (sortDedup l).Pairwise (· < ·) := by
  induction l with
  | nil => exact .nil
  | cons x xs ih => exact insertSorted_sorted x _ ih

theorem sortDedup_ext (l1 l2 : List Nat) (h : ∀ x, x ∈ l1 ↔ x ∈ l2) :
    sortDedup l1 = sortDedup l2 := by
  have h1 := sortDedup_sorted l1
  have h2 := sortDedup_sorted l2
  refine List.Perm.eq_of_pairwise (fun _ _ _ _ hab hba => absurd hab (Nat.lt_asymm hba)) h1 h2
    ((List.perm_ext_iff_of_nodup (h1.imp Nat.ne_of_lt) (h2.imp Nat.ne_of_lt)).mpr fun x => ?_)
  rw [mem_sortDedup, mem_sortDedup]
  exact h x

theorem mapM_option_eq {α β} (f : α → Option β) (s : List α) :
    s.mapM f = if s.all (fun x => (f x).isSome) then some (s.filterMap f) else none := by
  induction s with
  | nil => rfl
  | cons x xs ih =>
    rw [List.mapM_cons, ih, List.all_cons, List.filterMap_cons]
    cases f x with
    | none => rfl
    | some y => cases xs.all (fun x => (f x).isSome) <;> rfl

theorem toInt_eq (o : Order) (s : SrcSet) :
    toInt o s = match o.level? (.many s) with
      | some n => some [n]
      | none =>
        if s.all (fun x => (o.level? (.one x)).isSome)
        then some (sortDedup (s.filterMap fun x => o.level? (.one x))) else none := by
  rw [toInt, mapM_option_eq]
  cases o.level? (.many s) with
  | some _ => rfl
  | none => show Option.map _ _ = _; split <;> rfl

theorem OKey.same_many_congr {a b : SrcSet} (h : sameSet a b = true) (k : OKey) :
    k.same (.many a) = k.same (.many b) := by
  cases k with
  | one x => rfl
  | many s => exact sameSet_congr_right h s

theorem level?_many_congr (o : Order) {a b : SrcSet} (h : sameSet a b = true) :
    o.level? (.many a) = o.level? (.many b) := by
  unfold Order.level?
  rw [funext fun kv : OKey × Nat => OKey.same_many_congr h kv.1]

/-- `to_int` does not depend on the order or the repetitions of the list that stands for the set -/
theorem toInt_congr (o : Order) {a b : SrcSet} (h : sameSet a b = true) : toInt o a = toInt o b := by
  rw [toInt_eq, toInt_eq, level?_many_congr o h, all_congr h,
    sortDedup_ext (a.filterMap _) (b.filterMap fun x => o.level? (.one x)) fun n => by
      simp only [List.mem_filterMap, (sameSet_iff a b).mp h]]

theorem injOn_iff (o : Order) (ks : List OKey) : o.injOn ks = true ↔
    ∀ k1 ∈ ks, ∀ k2 ∈ ks, ∀ n, o.level? k1 = some n → o.level? k2 = some n →
      k1.same k2 = true := by
  unfold Order.injOn
  rw [List.all_eq_true]
  refine forall_congr' fun k1 => forall_congr' fun _ => ?_
  rw [List.all_eq_true]
  refine forall_congr' fun k2 => forall_congr' fun _ => ?_
  cases o.level? k1 with
  | none => exact iff_of_true rfl nofun
  | some n =>
    cases o.level? k2 with
    | none => exact iff_of_true rfl nofun
    | some m =>
      simp only [Bool.or_eq_true, bne_iff_ne, ne_eq, Option.some.injEq]
      exact ⟨fun h _ e1 e2 => h.resolve_left fun hne => hne (e1.trans e2.symm),
        fun h => (Decidable.em (n = m)).elim (fun e => .inr (h n rfl e.symm)) .inl⟩

theorem mem_keysOf (sets : List SrcSet) (k : OKey) :
    k ∈ keysOf sets ↔ ∃ s ∈ sets, k = .many s ∨ ∃ x ∈ s, k = .one x := by
  rw [keysOf, List.mem_append, List.mem_map, List.mem_flatMap]
  constructor
  · rintro (⟨s, hs, e⟩ | ⟨s, hs, hx⟩)
    · exact ⟨s, hs, .inl e.symm⟩
    · obtain ⟨x, hx, e⟩ := List.mem_map.mp hx
      exact ⟨s, hs, .inr ⟨x, hx, e.symm⟩⟩
  · rintro ⟨s, hs, e | ⟨x, hx, e⟩⟩
    · exact .inl ⟨s, hs, e.symm⟩
    · exact .inr ⟨s, hs, List.mem_map.mpr ⟨x, hx, e.symm⟩⟩

theorem toInt_many {o : Order} {s : SrcSet} {n : Nat} (hm : o.level? (.many s) = some n) :
    toInt o s = some [n] := by
  rw [toInt, hm]

theorem toInt_ones {o : Order} {s : SrcSet} {l : List Nat} (hm : o.level? (.many s) = none)
    (h : toInt o s = some l) :
    (∀ x ∈ s, ∃ n ∈ l, o.level? (.one x) = some n) ∧
      ∀ n ∈ l, ∃ x ∈ s, o.level? (.one x) = some n := by
  rw [toInt_eq, hm] at h
  dsimp only at h
  split at h
  · rename_i hall
    cases h
    refine ⟨fun x hx => ?_, fun n hn => List.mem_filterMap.mp ((mem_sortDedup _ _).mp hn)⟩
    obtain ⟨n, hn⟩ := Option.isSome_iff_exists.mp (List.all_eq_true.mp hall x hx)
    exact ⟨n, (mem_sortDedup _ _).mpr (List.mem_filterMap.mpr ⟨x, hx, hn⟩), hn⟩
  · cases h

/-- one inclusion of `toInt_inj_on` -/
theorem toInt_subset (o : Order) (sets : List SrcSet) (hinj : o.injOn (keysOf sets) = true)
    {a b : SrcSet} (ha : a ∈ sets) (hb : b ∈ sets) {l : List Nat}
    (h1 : toInt o a = some l) (h2 : toInt o b = some l) : ∀ x ∈ a, x ∈ b := by
  have inj := (injOn_iff o _).mp hinj
  have many : ∀ {s}, s ∈ sets → .many s ∈ keysOf sets := fun hs =>
    (mem_keysOf _ _).mpr ⟨_, hs, .inl rfl⟩
  have one : ∀ {s x}, s ∈ sets → x ∈ s → .one x ∈ keysOf sets := fun hs hx =>
    (mem_keysOf _ _).mpr ⟨_, hs, .inr ⟨_, hx, rfl⟩⟩
  intro x hx
  cases hma : o.level? (.many a) with
  | some n =>
    cases (toInt_many hma).symm.trans h1
    cases hmb : o.level? (.many b) with
    | some m =>
      cases (toInt_many hmb).symm.trans h2
      exact ((sameSet_iff a b).mp (inj _ (many ha) _ (many hb) n hma hmb) x).mp hx
    | none =>
      obtain ⟨y, hy, e⟩ := (toInt_ones hmb h2).2 n (List.mem_singleton_self n)
      cases inj _ (many ha) _ (one hb hy) n hma e
  | none =>
    obtain ⟨n, hn, e⟩ := (toInt_ones hma h1).1 x hx
    cases hmb : o.level? (.many b) with
    | some m =>
      cases (toInt_many hmb).symm.trans h2
      cases List.mem_singleton.mp hn
      cases inj _ (one ha hx) _ (many hb) n e hmb
    | none =>
      obtain ⟨y, hy, e'⟩ := (toInt_ones hmb h2).2 n hn
      exact beq_iff_eq.mp (inj _ (one ha hx) _ (one hb hy) n e e') ▸ hy

theorem toInt_inj_on (o : Order) (sets : List SrcSet) (hinj : o.injOn (keysOf sets) = true)
    {a b : SrcSet} (ha : a ∈ sets) (hb : b ∈ sets) {l : List Nat}
    (h1 : toInt o a = some l) (h2 : toInt o b = some l) : sameSet a b = true :=
  (sameSet_iff a b).mpr fun x =>
    ⟨toInt_subset o sets hinj ha hb h1 h2 x, toInt_subset o sets hinj hb ha h2 h1 x⟩

theorem toInt_inj (o : Order) (a b : SrcSet) (l : List Nat) (hinj : o.injOn (keysOf [a, b]) = true)
    (ha : toInt o a = some l) (hb : toInt o b = some l) : sameSet a b = true :=
  toInt_inj_on o _ hinj List.mem_cons_self (List.mem_cons_of_mem _ List.mem_cons_self) ha hb

theorem srcGt_true_iff (o : Order) (a b : SrcSet) :
    srcGt o a b = some true ↔
      sameSet a b = false ∧ ∃ x y, toInt o a = some x ∧ toInt o b = some y ∧ intsGt x y = true := by
  unfold srcGt
  cases sameSet a b with
  | true => exact ⟨nofun, nofun⟩
  | false =>
    cases toInt o a with
    | none => exact ⟨nofun, nofun⟩
    | some x =>
      cases toInt o b with
      | none => exact ⟨nofun, nofun⟩
      | some y =>
        exact ⟨fun h => ⟨rfl, x, y, rfl, rfl, Option.some.inj h⟩,
          fun ⟨_, _, _, e1, e2, h⟩ => Option.some.inj e1 ▸ Option.some.inj e2 ▸ congrArg some h⟩

theorem srcGt_congr (o : Order) {a a' b b' : SrcSet} (h : sameSet a a' = true)
    (h' : sameSet b b' = true) : srcGt o a b = srcGt o a' b' := by
  unfold srcGt
  rw [sameSet_congr_left h b, sameSet_congr_right h' a', toInt_congr o h, toInt_congr o h']

theorem srcGt_same (o : Order) (a b : SrcSet) (h : sameSet a b = true) : srcGt o a b = some false := by
  rw [srcGt, if_pos h]

theorem srcGt_asymm (o : Order) (a b : SrcSet) (h : srcGt o a b = some true) :
    srcGt o b a = some false := by
  obtain ⟨hs, x, y, hx, hy, hg⟩ := (srcGt_true_iff o a b).mp h
  rw [srcGt, sameSet_comm b a, hs, hx, hy]
  exact congrArg some (intsGt_asymm x y hg)

theorem srcGt_trans (o : Order) (a b c : SrcSet) (h1 : srcGt o a b = some true)
    (h2 : srcGt o b c = some true) : srcGt o a c = some true := by
  obtain ⟨_, x, y, hx, hy, hg⟩ := (srcGt_true_iff o a b).mp h1
  obtain ⟨_, y', z, hy', hz, hg'⟩ := (srcGt_true_iff o b c).mp h2
  cases hy.symm.trans hy'
  refine (srcGt_true_iff o a c).mpr ⟨?_, x, z, hx, hz, intsGt_trans x y z hg hg'⟩
  -- equal sets would have equal images, against `x > y > z`
  refine Bool.eq_false_iff.mpr fun hs => ?_
  cases (toInt_congr o hs ▸ hx).symm.trans hz
  exact Bool.false_ne_true ((intsGt_asymm x y hg).symm.trans hg')

theorem srcGt_total (o : Order) (a b : SrcSet) (x y : List Nat)
    (hinj : o.injOn (keysOf [a, b]) = true) (hx : toInt o a = some x) (hy : toInt o b = some y)
    (hne : sameSet a b = false) : srcGt o a b = some true ∨ srcGt o b a = some true := by
  have hxy : x ≠ y := fun e =>
    Bool.false_ne_true (hne.symm.trans (toInt_inj o a b x hinj hx (e ▸ hy)))
  rcases intsGt_total x y hxy with h | h
  · exact .inl ((srcGt_true_iff o a b).mpr ⟨hne, x, y, hx, hy, h⟩)
  · exact .inr ((srcGt_true_iff o b a).mpr ⟨sameSet_comm a b ▸ hne, y, x, hy, hx, h⟩)

theorem nodupB_iff (l : List Nat) : nodupB l = true ↔ l.Nodup := by
  induction l with
  | nil => exact iff_of_true rfl .nil
  | cons x xs ih =>
    rw [nodupB, Bool.and_eq_true, ih, List.nodup_cons, Bool.not_eq_true', ← Bool.not_eq_true,
      List.contains_iff_mem]

theorem OKey.same_symm {k1 k2 : OKey} (h : k1.same k2 = true) : k2.same k1 = true := by
  cases k1 <;> cases k2
  · exact beq_iff_eq.mpr (beq_iff_eq.mp h).symm
  · cases h
  · cases h
  · exact sameSet_symm h

theorem OKey.same_trans {k1 k2 k3 : OKey} (h1 : k1.same k2 = true) (h2 : k2.same k3 = true) :
    k1.same k3 = true := by
  cases k1 <;> cases k2
  · cases k3
    · exact beq_iff_eq.mpr ((beq_iff_eq.mp h1).trans (beq_iff_eq.mp h2))
    · cases h2
  · cases h1
  · cases h1
  · cases k3
    · cases h2
    · exact sameSet_trans h1 h2

theorem level?_some (o : Order) (k : OKey) (n : Nat) (h : o.level? k = some n) :
    ∃ kv ∈ o, kv.1.same k = true ∧ kv.2 = n := by
  unfold Order.level? at h
  split at h
  · rename_i kv hf
    exact ⟨kv, List.mem_of_find?_eq_some hf, (List.find?_some hf :), Option.some.inj h⟩
  · cases h

theorem has_iff (o : Order) (k : OKey) : o.has k = true ↔ ∃ kv ∈ o, kv.1.same k = true := by
  rw [← List.find?_isSome, Order.has, Order.level?]
  cases o.find? _ <;> rfl

theorem injOn_of_levelsDistinct (o : Order) (h : o.levelsDistinct = true) (ks : List OKey) :
    o.injOn ks = true := by
  refine (injOn_iff o ks).mpr fun k1 _ k2 _ n e1 e2 => ?_
  obtain ⟨kv, hkv, hs, hl⟩ := level?_some o k1 n e1
  obtain ⟨kv', hkv', hs', hl'⟩ := level?_some o k2 n e2
  -- the two entries carry the same level, so they are one entry
  cases eq_of_nodup_map ((nodupB_iff _).mp h) hkv hkv' (hl.trans hl'.symm)
  exact OKey.same_trans (OKey.same_symm hs) hs'

theorem lt_next (o : Order) : ∀ kv ∈ o, kv.2 < o.next := by
  have key : ∀ (l : Order) (m : Nat), m ≤ l.foldl (fun m kv => max m kv.2) m ∧
      ∀ kv ∈ l, kv.2 ≤ l.foldl (fun m kv => max m kv.2) m := by
    intro l
    induction l with
    | nil => exact fun m => ⟨Nat.le_refl m, fun _ h => nomatch h⟩
    | cons x xs ih =>
      intro m
      obtain ⟨i1, i2⟩ := ih (max m x.2)
      refine ⟨Nat.le_trans (Nat.le_max_left ..) i1, fun kv hkv => ?_⟩
      rcases List.mem_cons.mp hkv with rfl | hkv
      · exact Nat.le_trans (Nat.le_max_right ..) i1
      · exact i2 kv hkv
  intro kv hkv
  cases o with
  | nil => cases hkv
  | cons x xs => exact Nat.lt_succ_of_le ((key (x :: xs) 0).2 kv hkv)

theorem levelsDistinct_append_next (o : Order) (k : OKey) (h : o.levelsDistinct = true) :
    Order.levelsDistinct (o ++ [(k, o.next)]) = true := by
  unfold Order.levelsDistinct at h ⊢
  rw [nodupB_iff] at h ⊢
  rw [List.map_append]
  refine nodup_append_singleton h fun hm => ?_
  obtain ⟨kv, hkv, e⟩ := List.mem_map.mp hm
  exact Nat.lt_irrefl _ (e ▸ lt_next o kv hkv)

theorem appendOrder_levelsDistinct (g : GroupMap) (o : Order) (s : Src)
    (h : o.levelsDistinct = true) : (appendOrder g o s).1.levelsDistinct = true := by
  rw [appendOrder]
  split
  · exact h
  · dsimp only
    split
    · exact h
    · exact levelsDistinct_append_next o _ h

/-- the order component of `append_order_internal_sources` does not depend on `self.sources`: it
is the fold of this step over the internal sources -/
theorem appendInternal_fst (g : GroupMap) (o : Order) (s : SrcSet) :
    (appendInternal g o s).1 = Generated.sourcesInternal.foldl (fun (o : Order) source =>
      if o.has (.one (g.app source)) then o else (appendOrder g o (g.app source)).1) o := by
  unfold appendInternal
  refine (List.foldl_hom Prod.fst fun acc x => ?_).symm
  show _ = (if _ then acc else _).1
  split <;> rfl

theorem appendInternal_levelsDistinct (g : GroupMap) (o : Order) (srcs : SrcSet)
    (h : o.levelsDistinct = true) : (appendInternal g o srcs).1.levelsDistinct = true := by
  rw [appendInternal_fst]
  refine List.foldlRecOn (motive := fun o : Order => o.levelsDistinct = true) _ _ h
    fun o ho x _ => ?_
  split
  · exact ho
  · exact appendOrder_levelsDistinct g o _ ho

/-- the two commands build the same order -/
theorem splitterOrder_eq (g : GroupMap) (o0 : Order) (gvfs : List Gvf) :
    (splitterOrder g o0 gvfs).1 = summarizerOrder g o0 gvfs := by
  unfold splitterOrder summarizerOrder
  rw [appendInternal_fst, appendInternal_fst]
  congr 1
  refine (List.foldl_hom Prod.fst fun acc f => ?_).symm
  show _ = (if _ then acc else _).1
  split
  · rename_i h
    rw [appendOrder, if_pos h]
  · rfl

theorem summarizerOrder_levelsDistinct (g : GroupMap) (o0 : Order) (gvfs : List Gvf)
    (h : o0.levelsDistinct = true) : (summarizerOrder g o0 gvfs).levelsDistinct = true := by
  unfold summarizerOrder
  apply appendInternal_levelsDistinct
  exact List.foldlRecOn (motive := fun o : Order => o.levelsDistinct = true) _ _ h
    fun o ho f _ => appendOrder_levelsDistinct g o _ ho

theorem splitterOrder_levelsDistinct (g : GroupMap) (o0 : Order) (gvfs : List Gvf)
    (h : o0.levelsDistinct = true) : (splitterOrder g o0 gvfs).1.levelsDistinct = true :=
  splitterOrder_eq g o0 gvfs ▸ summarizerOrder_levelsDistinct g o0 gvfs h

end MoPepGen
