import MoPepGen.Model.Pipeline
/-! Facts about the dispatch loop, the wrapper's `try/except` units, the table index and the result
loop of `callVariant` (Model/Pipeline.lean), shared by Props/C04, C06, C07; the invariant `TInv` of
the table, which every step of the result loop keeps. -/
namespace MoPepGen.Pipe

/-- The batches, concatenated, are the pending batch followed by the gathered transcripts, and
none of them is empty.  (`cur ≠ []` with nothing left to read is the one state the loop never
reaches: the pending batch is flushed with the last transcript.) -/
theorem dispatchGo_spec {α : Type} (threads : Nat) (g : List (Option α)) (cur : List α)
    (h : g ≠ [] ∨ cur = []) :
    (dispatchGo threads g cur).flatten = cur ++ g.filterMap id ∧
      ∀ b ∈ dispatchGo threads g cur, b ≠ [] := by
  induction g generalizing cur with
  | nil =>
    cases h.resolve_left fun h => h rfl
    exact ⟨rfl, fun _ hb => nomatch hb⟩
  | cons x rest ih =>
    -- one iteration, `cur'` being the pending batch with `x` added
    have step : ∀ cur' : List α,
        (dispatchGo threads (x :: rest) cur =
          if (decide (threads ≤ cur'.length) || rest.isEmpty) && !cur'.isEmpty then
            cur' :: dispatchGo threads rest [] else dispatchGo threads rest cur') →
        (dispatchGo threads (x :: rest) cur).flatten = cur' ++ rest.filterMap id ∧
          ∀ b ∈ dispatchGo threads (x :: rest) cur, b ≠ [] := by
      intro cur' heq
      rw [heq]
      split
      · rename_i hc
        obtain ⟨h1, h2⟩ := ih [] (Or.inr rfl)
        refine ⟨by rw [List.flatten_cons, h1]; rfl, List.forall_mem_cons.2 ⟨?_, h2⟩⟩
        rw [Bool.and_eq_true, Bool.not_eq_true', List.isEmpty_eq_false_iff] at hc
        exact hc.2
      · rename_i hc
        refine ih cur' ?_
        cases rest with
        | cons _ _ => exact Or.inl (List.cons_ne_nil _ _)
        | nil =>
          -- the last transcript: not flushing means there is nothing to flush
          rw [List.isEmpty_nil, Bool.or_true, Bool.true_and, Bool.not_eq_true', Bool.not_eq_false,
            List.isEmpty_iff] at hc
          exact Or.inr hc
    cases x with
    | none => exact step cur rfl
    | some d =>
      rw [List.filterMap_cons_some (by rfl : id (some d) = some d), List.append_cons]
      exact step (cur ++ [d]) rfl

theorem dispatch_flatten {α : Type} (threads : Nat) (g : List (Option α)) :
    (dispatch threads g).flatten = g.filterMap id :=
  (dispatchGo_spec threads g [] (Or.inr rfl)).1

/-- A sequence of `try/except` units in closed form: without `--skip-failed` the first failing
unit aborts; otherwise the peptides of the succeeding units are merged in order and the flag
records whether all succeeded. -/
theorem stepUnits_eq (skip : Bool) (a : PepMap) (f : Bool) (rs : List UnitRes) :
    stepUnits skip (a, f) rs =
      if rs.any Option.isNone && !skip then none
      else some (rs.foldl (fun a r => addPeptideAnno a (r.getD [])) a,
        f && rs.all Option.isSome) := by
  induction rs generalizing a f with
  | nil => simp only [stepUnits, List.any_nil, Bool.false_and, Bool.false_eq_true, if_false,
      List.foldl_nil, List.all_nil, Bool.and_true]
  | cons r rs ih =>
    cases r with
    | none =>
      cases skip with
      | false => rfl
      | true =>
        simp only [stepUnits, stepUnit, if_true, ih, Bool.not_true, Bool.and_false,
          Bool.false_eq_true, if_false, List.foldl_cons, List.all_cons, Option.isSome_none,
          Bool.false_and, Option.getD_none]
        rfl
    | some m =>
      simp only [stepUnits, stepUnit, ih, List.any_cons, Option.isNone_some, Bool.false_or,
        List.foldl_cons, Option.getD_some, List.all_cons, Option.isSome_some, Bool.true_and]

theorem all_isSome_eq {α : Type} (l : List (Option α)) :
    l.all Option.isSome = !l.any Option.isNone := by
  rw [List.all_eq_not_any_not]
  simp only [Option.not_isSome]

/-- `index[seq]` gets the label; a new sequence goes to the end of the ordered dict -/
theorem indexAdd_keys_eq (idx : List (Pep × List Label)) (s : Pep) (l : Label) :
    (indexAdd idx s l).map (·.1) =
      if s ∈ idx.map (·.1) then idx.map (·.1) else idx.map (·.1) ++ [s] := by
  induction idx with
  | nil => exact (if_neg List.not_mem_nil).symm
  | cons e rest ih =>
    obtain ⟨t, ls⟩ := e
    rw [indexAdd]
    by_cases hts : (t == s) = true
    · rw [if_pos hts]
      show t :: rest.map (·.1) = if s ∈ t :: rest.map (·.1) then _ else _
      rw [if_pos (List.mem_cons.2 (Or.inl (eq_of_beq hts).symm))]
      rfl
    · have hne : s ≠ t := fun h => hts (h ▸ beq_self_eq_true s)
      rw [if_neg hts, List.map_cons, List.map_cons, ih]
      by_cases hm : s ∈ rest.map (·.1)
      · rw [if_pos hm, if_pos (List.mem_cons_of_mem _ hm)]
      · rw [if_neg hm, if_neg fun h => (List.mem_cons.1 h).elim hne hm]
        rfl

theorem indexAdd_keys (idx : List (Pep × List Label)) (s : Pep) (l : Label) (x : Pep) :
    x ∈ (indexAdd idx s l).map (·.1) ↔ x ∈ idx.map (·.1) ∨ x = s := by
  rw [indexAdd_keys_eq]
  split
  · rename_i hm
    exact ⟨Or.inl, fun h => h.elim id fun e => e ▸ hm⟩
  · rw [List.mem_append, List.mem_singleton]

theorem indexAdd_nodup (idx : List (Pep × List Label)) (s : Pep) (l : Label)
    (h : (idx.map (·.1)).Nodup) : ((indexAdd idx s l).map (·.1)).Nodup := by
  rw [indexAdd_keys_eq]
  split
  · exact h
  · rename_i hm
    rw [List.nodup_append]
    exact ⟨h, List.pairwise_singleton _ _, fun a ha b hb => List.mem_singleton.1 hb ▸ fun e => hm (e ▸ ha)⟩

theorem listed_cons (x t : Pep) (k : Label) (ls0 : List Label) (rest : List (Pep × List Label)) :
    (∃ ls, (x, ls) ∈ (t, ls0) :: rest ∧ k ∈ ls) ↔
      (x = t ∧ k ∈ ls0) ∨ ∃ ls, (x, ls) ∈ rest ∧ k ∈ ls := by
  constructor
  · rintro ⟨ls, hm, hk⟩
    rcases List.mem_cons.1 hm with e | hm
    · cases e; exact Or.inl ⟨rfl, hk⟩
    · exact Or.inr ⟨ls, hm, hk⟩
  · rintro (⟨rfl, hk⟩ | ⟨ls, hm, hk⟩)
    · exact ⟨ls0, List.mem_cons_self, hk⟩
    · exact ⟨ls, List.mem_cons_of_mem _ hm, hk⟩

theorem indexAdd_pairs (idx : List (Pep × List Label)) (s : Pep) (l : Label) (x : Pep)
    (k : Label) :
    (∃ ls, (x, ls) ∈ indexAdd idx s l ∧ k ∈ ls) ↔
      (∃ ls, (x, ls) ∈ idx ∧ k ∈ ls) ∨ (x = s ∧ k = l) := by
  induction idx with
  | nil => rw [indexAdd, listed_cons, List.mem_singleton, or_comm]
  | cons e rest ih =>
    obtain ⟨t, ls0⟩ := e
    rw [indexAdd]
    by_cases hts : (t == s) = true
    · rw [if_pos hts]
      cases eq_of_beq hts
      rw [listed_cons, listed_cons, List.mem_append, List.mem_singleton, and_or_left,
        or_right_comm]
    · rw [if_neg hts, listed_cons, ih, listed_cons, or_assoc]

theorem fasta_keys (t : Table) : t.fasta.map (·.1) = t.index.map (·.1) := by
  rw [Table.fasta, List.map_map]
  rfl

theorem fasta_pairs (t : Table) (s : Pep) (l : Label) :
    (∃ ls, (s, ls) ∈ t.fasta ∧ l ∈ ls) ↔ ∃ ls, (s, ls) ∈ t.index ∧ l ∈ ls := by
  unfold Table.fasta
  constructor
  · rintro ⟨ls, hm, hl⟩
    obtain ⟨⟨s', ls'⟩, hm', e⟩ := List.mem_map.1 hm
    cases e
    exact ⟨ls', hm', List.mem_eraseDups.1 hl⟩
  · rintro ⟨ls, hm, hl⟩
    exact ⟨ls.eraseDups, List.mem_map.2 ⟨(s, ls), hm, rfl⟩, List.mem_eraseDups.2 hl⟩

/-- the run is the result loop over the gathered transcripts in order, whatever the batching -/
theorem runAll_eq (c : Limits) (skip : Bool) (threads : Nat) (g : List (Option TxUnits)) :
    runAll c skip threads g =
      (processAll c skip ({ rows := [], index := [] }, {}) (g.filterMap id)).map fun r =>
        (r.1, { r.2 with processed := (g.filterMap id).length }) := by
  unfold runAll
  dsimp only
  rw [dispatch_flatten]
  cases processAll c skip ({ rows := [], index := [] }, {}) (g.filterMap id) <;> rfl

theorem processAll_cons (c : Limits) (skip : Bool) (acc : Table × Tally) (u : TxUnits)
    (us : List TxUnits) :
    processAll c skip acc (u :: us) =
      (wrapper skip u).bind fun w =>
        (processResult c acc w).bind fun acc' => processAll c skip acc' us := by
  rw [processAll]
  cases wrapper skip u with
  | none => rfl
  | some w =>
    show (match processResult c acc w with
      | none => none
      | some acc' => processAll c skip acc' us) = (processResult c acc w).bind _
    cases processResult c acc w <;> rfl

theorem processResult_fst {c : Limits} {acc acc' : Table × Tally} {w : WrapOut}
    (h : processResult c acc w = some acc') : acc.1.addResult c w.anno = some acc'.1 := by
  unfold processResult at h
  cases ha : acc.1.addResult c w.anno with
  | none => rw [ha] at h; cases h
  | some t => rw [ha] at h; cases h; rfl

structure TInv (c : Limits) (t : Table) : Prop where
  nodup : (t.index.map (·.1)).Nodup
  valid : ∀ s ∈ t.index.map (·.1), isValid c s = some true
  pairs : ∀ s l, (s, l) ∈ t.rows ↔ ∃ ls, (s, ls) ∈ t.index ∧ l ∈ ls

theorem add_inv (c : Limits) (t : Table) (s : Pep) (l : Label) (hv : isValid c s = some true)
    (h : TInv c t) : TInv c (t.add s l) := by
  refine ⟨indexAdd_nodup _ _ _ h.nodup, fun x hx => ?_, fun x k => ?_⟩
  · rcases (indexAdd_keys _ _ _ _).mp hx with hx | rfl
    · exact h.valid x hx
    · exact hv
  · show (x, k) ∈ t.rows ++ [(s, l)] ↔ ∃ ls, (x, ls) ∈ indexAdd t.index s l ∧ k ∈ ls
    rw [indexAdd_pairs, List.mem_append, List.mem_singleton, Prod.mk.injEq, h.pairs]

theorem addResult_inv (c : Limits) (m : PepMap) (t t' : Table) (h : TInv c t)
    (hr : t.addResult c m = some t') : TInv c t' := by
  induction m generalizing t with
  | nil => cases hr; exact h
  | cons e rest ih =>
    obtain ⟨s, ls⟩ := e
    rw [Table.addResult] at hr
    cases hv : isValid c s with
    | none => rw [hv] at hr; cases hr
    | some b =>
      rw [hv] at hr
      cases b with
      | false => exact ih t h hr
      | true =>
        refine ih _ ?_ hr
        -- every label of a valid sequence goes into the table
        clear hr
        induction ls generalizing t with
        | nil => exact h
        | cons l ls ihl => exact ihl _ (add_inv c t s l hv h)

theorem processAll_inv (c : Limits) (skip : Bool) (us : List TxUnits) (acc acc' : Table × Tally)
    (h : TInv c acc.1) (hr : processAll c skip acc us = some acc') : TInv c acc'.1 := by
  induction us generalizing acc with
  | nil => cases hr; exact h
  | cons u us ih =>
    rw [processAll_cons] at hr
    obtain ⟨w, _, hr⟩ := Option.bind_eq_some_iff.1 hr
    obtain ⟨acc1, hp, hr⟩ := Option.bind_eq_some_iff.1 hr
    exact ih acc1 (addResult_inv c _ _ _ h (processResult_fst hp)) hr

/-- Whatever the per-unit callers return, for every thread count and skip setting, the table
a completed run produces satisfies the invariant. -/
theorem run_inv (c : Limits) (skip : Bool) (threads : Nat) (g : List (Option TxUnits))
    (t : Table) (ty : Tally) (h : runAll c skip threads g = some (t, ty)) : TInv c t := by
  rw [runAll_eq] at h
  obtain ⟨acc, hp, hacc⟩ := Option.map_eq_some_iff.1 h
  cases hacc
  refine processAll_inv c skip _ _ _ ?_ hp
  refine ⟨List.nodup_nil, fun _ h => (nomatch h), fun _ _ => ?_⟩
  -- the empty table lists no pair
  refine iff_of_false (fun h => nomatch h) ?_
  rintro ⟨_, h, _⟩
  cases h

theorem poolAddAll_valid (c : Limits) (adds : List (Pep × Label))
    (pool pool' : List (Pep × List Label))
    (hn : (pool.map (·.1)).Nodup) (hv : ∀ s ∈ pool.map (·.1), isValid c s = some true)
    (h : poolAddAll c pool adds = some pool') :
    (pool'.map (·.1)).Nodup ∧ ∀ s ∈ pool'.map (·.1), isValid c s = some true := by
  induction adds generalizing pool with
  | nil => cases h; exact ⟨hn, hv⟩
  | cons e rest ih =>
    obtain ⟨s, l⟩ := e
    rw [poolAddAll, poolAdd] at h
    cases hs : isValid c s with
    | none => rw [hs] at h; cases h
    | some b =>
      rw [hs] at h
      cases b with
      | false => exact ih pool hn hv h
      | true =>
        refine ih _ (indexAdd_nodup _ _ _ hn) (fun x hx => ?_) h
        rcases (indexAdd_keys _ _ _ _).mp hx with hx | rfl
        · exact hv x hx
        · exact hs

end MoPepGen.Pipe
