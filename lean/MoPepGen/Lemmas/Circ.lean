import MoPepGen.Model.Circ
import MoPepGen.Lemmas.GeneIv
import MoPepGen.Lemmas.CircLookup
/-! Lemmas for C17.  `spanToGene` on the strand of the gene is one `if` (`spanToGene_eq`); on
intervals inside the gene `geneIv` (`Lemmas/GeneIv.lean`) is undone by `featGeneToGenomic`, commutes
with slicing the gene sequence and is monotone (plus) / antitone (minus), which sorts the fragments.
On these rest the two statements about the block loop (`convertBlocks_ok`, `convertBlocks_cases`)
and `convertToCircRna_ok`, from which the theorems of `Props/C17.lean` are read off. -/
namespace MoPepGen

/-! ## specification side -/

/-- concatenation of the reported genomic blocks in transcript orientation (Layer S):
on the minus strand the reverse complement of the genomic-order concatenation, i.e. the blocks in
reverse order, each reverse-complemented -/
def circSeqSpec (chrom : List Char) (s : Strand) (blocks : List Iv) : List Char :=
  match s with
  | .plus => exonConcat chrom blocks
  | .minus => revComp (exonConcat chrom blocks)

/-- blocks ascending along the chromosome and non-overlapping -/
def AscBlocks (bs : List Iv) : Prop := bs.Pairwise (fun a b => a.stop ≤ b.start)
instance (bs : List Iv) : Decidable (AscBlocks bs) := by unfold AscBlocks; infer_instance

/-! ## lists -/

theorem pairwise_getElem? {α : Type} {R : α → α → Prop} {l : List α} (h : l.Pairwise R)
    {i j : Nat} {a b : α} (hij : i < j) (ha : l[i]? = some a) (hb : l[j]? = some b) : R a b := by
  obtain ⟨hi, rfl⟩ := List.getElem?_eq_some_iff.mp ha
  obtain ⟨hj, rfl⟩ := List.getElem?_eq_some_iff.mp hb
  exact List.pairwise_iff_getElem.mp h i j hi hj hij

/-! ## span → gene -/

theorem genomicToGeneZ_natCast (g : Gene) (k : Nat) :
    genomicToGeneZ g (k : Int) = genomicToGene g k := by
  unfold genomicToGeneZ
  rw [if_neg (Int.not_lt.mpr (Int.natCast_nonneg k)), Int.toNat_natCast]

/-- `badLocation` cannot occur for `lo ≤ hi`: the only failure is the `ValueError` of
`coordinate_genomic_to_gene` at `lo` or at `hi - 1` -/
theorem spanToGene_eq {g : Gene} {lo hi : Nat} (hle : lo ≤ hi) :
    spanToGene g g.strand lo hi =
      if g.loc.start ≤ lo ∧ lo < g.loc.stop ∧ g.loc.start < hi ∧ hi ≤ g.loc.stop
      then .ok (geneIv g ⟨lo, hi⟩) else .error .outOfRange := by
  unfold spanToGene
  by_cases h1 : g.loc.start ≤ lo ∧ lo < g.loc.stop
  · rw [genomicToGene_eq, if_pos h1]
    cases hi with
    | zero => rw [if_neg (fun h => Nat.not_lt_zero _ h.2.2.1)]; rfl
    | succ k =>
      rw [Int.natCast_succ, Int.add_sub_cancel, genomicToGeneZ_natCast]
      by_cases h2 : g.loc.start ≤ k ∧ k < g.loc.stop
      · rw [genomicToGene_eq, if_pos h2, if_pos ⟨h1.1, h1.2, Nat.lt_succ_of_le h2.1, h2.2⟩]
        unfold orientIv geneIv
        cases g.strand
        · dsimp only [Strand.off]
          rw [← Nat.sub_add_comm h2.1, if_neg (Nat.not_lt.mpr (Nat.sub_le_sub_right hle _))]
        · -- `e - 1 - k = e - (k + 1)` and `e - 1 - lo + 1 = e - lo`
          dsimp only [Strand.off]
          rw [Nat.sub_sub, Nat.add_comm 1 k, Nat.sub_right_comm,
            Nat.sub_add_cancel (Nat.sub_pos_of_lt h1.2),
            if_neg (Nat.not_lt.mpr (Nat.sub_le_sub_left hle _))]
      · rw [genomicToGene_eq, if_neg h2, if_neg (fun h => h2 ⟨Nat.le_of_lt_succ h.2.2.1, h.2.2.2⟩)]
  · rw [genomicToGene_eq, if_neg h1, if_neg (fun h => h1 ⟨h.1, h.2.1⟩)]

theorem spanToGene_ok {g : Gene} {lo hi : Nat} {f : Iv}
    (h : spanToGene g g.strand lo hi = .ok f) (hle : lo ≤ hi) :
    f = geneIv g ⟨lo, hi⟩ ∧ InGene g ⟨lo, hi⟩ := by
  rw [spanToGene_eq hle] at h
  split at h
  · rename_i hc
    cases h
    exact ⟨rfl, hc.1, hle, hc.2.2.2⟩
  · cases h

theorem spanToGene_of_inGene {g : Gene} {lo hi : Nat} (hlt : lo < hi)
    (hin : InGene g ⟨lo, hi⟩) : spanToGene g g.strand lo hi = .ok (geneIv g ⟨lo, hi⟩) := by
  rw [spanToGene_eq (Nat.le_of_lt hlt)]
  exact if_pos ⟨hin.1, Nat.lt_of_lt_of_le hlt hin.2.2, Nat.lt_of_le_of_lt hin.1 hlt, hin.2.2⟩

theorem spanToGene_outside {g : Gene} {lo hi : Nat} (hlt : lo < hi)
    (hout : ¬ InGene g ⟨lo, hi⟩) : spanToGene g g.strand lo hi = .error .outOfRange := by
  rw [spanToGene_eq (Nat.le_of_lt hlt)]
  exact if_neg (fun h => hout ⟨h.1, Nat.le_of_lt hlt, h.2.2.2⟩)

/-! ## gene → genomic feature conversion is the inverse on intervals inside the gene -/

theorem featGeneToGenomic_geneIv {g : Gene} {b : Iv} (hin : InGene g b) :
    featGeneToGenomic g (geneIv g b) = .ok b := by
  obtain ⟨h1, h2, h3⟩ := hin
  -- it suffices that the two ends computed by `coordinate_gene_to_genomic` are those of `b`
  have key : ∀ lo hi : Int, lo = b.start → hi = b.stop →
      (if hi < lo then Except.error CoordErr.badLocation
        else if lo < 0 then .error .outOfRange else .ok (⟨lo.toNat, hi.toNat⟩ : Iv)) = .ok b := by
    intro lo hi hlo hhi
    rw [hlo, hhi, if_neg (Int.not_lt.mpr (Int.ofNat_le.mpr h2)),
      if_neg (Int.not_lt.mpr (Int.natCast_nonneg _)), Int.toNat_natCast, Int.toNat_natCast]
  unfold featGeneToGenomic geneToGenomicZ geneIv
  cases g.strand
  · dsimp only
    exact key _ _ (by rw [Int.natCast_sub h1]; omega)
      (by rw [Int.natCast_sub (Nat.le_trans h1 h2)]; omega)
  · dsimp only
    exact key _ _ (by rw [Int.natCast_sub (Nat.le_trans h2 h3)]; omega)
      (by rw [Int.natCast_sub h3]; omega)

/-- the branch of `featGeneToGenomic` that is not faithful to Biopython (negative start) is
never taken by `convert_to_circ_rna` : the fragment handed to the look-up converts back to the
reported block -/
theorem featGeneToGenomic_spanToGene {g : Gene} {lo hi : Nat} {f : Iv}
    (h : spanToGene g g.strand lo hi = .ok f) (hle : lo ≤ hi) :
    featGeneToGenomic g f = .ok ⟨lo, hi⟩ := by
  obtain ⟨rfl, hin⟩ := spanToGene_ok h hle
  exact featGeneToGenomic_geneIv hin

/-! ## the fragments read from the gene sequence -/

theorem exonConcat_geneSeq {chrom : List Char} {g : Gene} (hc : g.loc.stop ≤ chrom.length)
    {bs : List Iv} (hin : ∀ b ∈ bs, InGene g b) :
    exonConcat (geneSeq chrom g) (bs.map (geneIv g)) =
      match g.strand with
      | .plus => exonConcat chrom bs
      | .minus => minusConcat chrom bs := by
  induction bs with
  | nil => cases g.strand <;> rfl
  | cons b bs ih =>
    rw [List.map_cons, exonConcat, geneSeq_slice hc (hin b List.mem_cons_self),
      ih (fun x hx => hin x (List.mem_cons_of_mem _ hx))]
    cases g.strand <;> rfl

/-! ## sorting fragments -/

theorem Iv.le_iff {a b : Iv} :
    Iv.le a b = true ↔ a.start < b.start ∨ (a.start = b.start ∧ a.stop ≤ b.stop) := by
  unfold Iv.le Iv.lt Iv.gt
  cases a with | mk a1 a2 => cases b with | mk b1 b2 =>
  simp only [Bool.not_not, Bool.or_eq_true, Bool.and_eq_true, decide_eq_true_eq, Iv.mk.injEq]
  omega

theorem Iv.le_of_le {a b : Iv} (h1 : a.start ≤ b.start) (h2 : a.stop ≤ b.stop) :
    Iv.le a b = true :=
  Iv.le_iff.mpr ((Nat.lt_or_eq_of_le h1).imp_right fun h => ⟨h, h2⟩)

theorem Iv.le_trans (a b c : Iv) : Iv.le a b = true → Iv.le b c = true → Iv.le a c = true := by
  simp only [Iv.le_iff]; omega

theorem Iv.le_total (a b : Iv) : (Iv.le a b || Iv.le b a) = true := by
  simp only [Bool.or_eq_true, Iv.le_iff]; omega

theorem Iv.le_antisymm (a b : Iv) : Iv.le a b = true → Iv.le b a = true → a = b := by
  simp only [Iv.le_iff]
  cases a; cases b; simp only [Iv.mk.injEq]; omega

/-- `sorted` returns the unique ascending arrangement -/
theorem sortFragments_eq_of_perm {fs l : List Iv} (hp : l.Perm fs)
    (hl : l.Pairwise (fun a b => Iv.le a b = true)) : sortFragments fs = l :=
  List.Perm.eq_of_pairwise (le := fun a b => Iv.le a b = true)
    (fun a b _ _ => Iv.le_antisymm a b) (List.pairwise_mergeSort Iv.le_trans Iv.le_total fs) hl
    ((List.mergeSort_perm fs Iv.le).trans hp.symm)

/-- gene-coordinate fragments of ascending blocks are ascending on the plus strand and descending
on the minus strand: truncated subtraction is monotone in either argument -/
theorem geneIv_pairwise {g : Gene} {bs : List Iv} (hin : ∀ b ∈ bs, InGene g b)
    (hasc : AscBlocks bs) :
    (bs.map (geneIv g)).Pairwise (fun a b =>
      match g.strand with
      | .plus => Iv.le a b = true
      | .minus => Iv.le b a = true) := by
  rw [List.pairwise_map]
  refine List.Pairwise.imp_of_mem ?_ hasc
  intro a b ha hb hab
  have hs : a.start ≤ b.start := Nat.le_trans (hin a ha).2.1 hab
  have he : a.stop ≤ b.stop := Nat.le_trans hab (hin b hb).2.1
  unfold geneIv
  cases g.strand
  · exact Iv.le_of_le (Nat.sub_le_sub_right hs _) (Nat.sub_le_sub_right he _)
  · exact Iv.le_of_le (Nat.sub_le_sub_left he _) (Nat.sub_le_sub_left hs _)

/-- `sorted(fragments)` = the fragments in transcript (5'→3') order -/
theorem sortFragments_geneIv {g : Gene} {bs : List Iv}
    (hin : ∀ b ∈ bs, InGene g b) (hasc : AscBlocks bs) :
    sortFragments (bs.map (geneIv g)) =
      match g.strand with
      | .plus => bs.map (geneIv g)
      | .minus => (bs.reverse).map (geneIv g) := by
  have hp := geneIv_pairwise hin hasc
  cases hs : g.strand <;> rw [hs] at hp
  · exact sortFragments_eq_of_perm (List.Perm.refl _) hp
  · apply sortFragments_eq_of_perm
    · rw [List.map_reverse]; exact List.reverse_perm _
    · rw [List.map_reverse, List.pairwise_reverse]; exact hp

/-! ## the block loop -/

theorem blocksOf_length_le (start : Nat) (ss os : List Nat) :
    (blocksOf start ss os).length ≤ ss.length := by
  induction ss generalizing os with
  | nil => exact Nat.le_refl 0
  | cons s ss ih =>
    cases os with
    | nil => exact Nat.zero_le _
    | cons o os => exact Nat.succ_le_succ (ih os)

/-- the block that iteration `i` of the loop works on -/
theorem blocksOf_drop {offsets : List Nat} {i off : Nat} (ho : offsets[i]? = some off)
    (start size : Nat) (rest : List Nat) :
    blocksOf start (size :: rest) (offsets.drop i) =
      ⟨start + off, start + off + size⟩ :: blocksOf start rest (offsets.drop (i + 1)) := by
  obtain ⟨hi, rfl⟩ := List.getElem?_eq_some_iff.mp ho
  rw [List.drop_eq_getElem_cons hi]; rfl

/-- the look-up `convert_to_circ_rna` applies to a block -/
def blockLookup (t : Transcript) (isCi : Bool) (rs re : Int × Int) (b : Iv) : Except CoordErr Nat :=
  if isCi then findIntronIndex t b rs re else findExonIndex t b

section
variable {g : Gene} {t : Transcript} {isCi : Bool} {rs re : Int × Int}

theorem blockLookup_error {b : Iv} {x : CoordErr} (h : blockLookup t isCi rs re b = .error x) :
    x = (if isCi then .intronNotFound else .exonNotFound) := by
  unfold blockLookup at h
  cases isCi
  · exact findExonIndex_error h
  · exact findIntronIndex_error h

theorem lookupFragment_geneIv {b : Iv} (hin : InGene g b) :
    lookupFragment g t isCi rs re (geneIv g b) = blockLookup t isCi rs re b := by
  unfold lookupFragment blockLookup; rw [featGeneToGenomic_geneIv hin]

theorem convertBlocks_ok (hst : t.strand = g.strand) {start : Nat} {offsets : List Nat} :
    ∀ {sizes : List Nat} {i : Nat} {acc : BlockAcc},
    convertBlocks g t isCi rs re start offsets sizes i = .ok acc →
    (blocksOf start sizes (offsets.drop i)).length = sizes.length ∧
    acc.fragments = (blocksOf start sizes (offsets.drop i)).map (geneIv g) ∧
    (∀ b ∈ blocksOf start sizes (offsets.drop i), InGene g b) ∧
    acc.ids.map .ok = (blocksOf start sizes (offsets.drop i)).map (blockLookup t isCi rs re) ∧
    acc.intron = (if isCi then List.range' i sizes.length else []) := by
  intro sizes
  induction sizes with
  | nil =>
    intro i acc h
    cases h
    exact ⟨rfl, rfl, fun _ hb => absurd hb List.not_mem_nil, rfl, by cases isCi <;> rfl⟩
  | cons size rest ih =>
    intro i acc h
    unfold convertBlocks at h
    split at h
    · cases h
    · rename_i off ho
      split at h
      · cases h
      · rename_i frag hf
        split at h
        · cases h
        · rename_i k hl
          split at h
          · cases h
          · rename_i acc' hr
            cases h
            obtain ⟨l1, l2, l3, l4, l5⟩ := ih hr
            unfold blockToFragment at hf
            rw [hst] at hf
            obtain ⟨rfl, hin⟩ := spanToGene_ok hf (Nat.le_add_right _ _)
            rw [lookupFragment_geneIv hin] at hl
            rw [blocksOf_drop ho]
            refine ⟨congrArg Nat.succ l1, congrArg (_ :: ·) l2, List.forall_mem_cons.mpr ⟨hin, l3⟩,
              ?_, ?_⟩
            · rw [List.map_cons, List.map_cons, l4, hl]
            · dsimp only; rw [l5]; cases isCi <;> rfl

theorem convertBlocks_cases (hst : t.strand = g.strand) {start : Nat} {offsets : List Nat} :
    ∀ {sizes : List Nat} {i : Nat}, (∀ s ∈ sizes, 0 < s) → i + sizes.length ≤ offsets.length →
    (∀ b ∈ blocksOf start sizes (offsets.drop i), InGene g b) →
    ((∀ b ∈ blocksOf start sizes (offsets.drop i), ∃ k, blockLookup t isCi rs re b = .ok k) →
      ∃ acc, convertBlocks g t isCi rs re start offsets sizes i = .ok acc) ∧
    ((∃ b ∈ blocksOf start sizes (offsets.drop i), ∀ k, blockLookup t isCi rs re b ≠ .ok k) →
      convertBlocks g t isCi rs re start offsets sizes i =
        .error (.coord (if isCi then .intronNotFound else .exonNotFound))) := by
  intro sizes
  induction sizes with
  | nil =>
    intro i _ _ _
    exact ⟨fun _ => ⟨_, rfl⟩, fun ⟨_, hb, _⟩ => absurd hb List.not_mem_nil⟩
  | cons size rest ih =>
    intro i hpos hlen hin
    have hi : i < offsets.length :=
      Nat.lt_of_lt_of_le (Nat.lt_add_of_pos_right (Nat.succ_pos _)) hlen
    have ho : offsets[i]? = some offsets[i] := List.getElem?_eq_getElem hi
    rw [blocksOf_drop ho] at hin ⊢
    obtain ⟨hin0, hin'⟩ := List.forall_mem_cons.mp hin
    obtain ⟨hpos0, hpos'⟩ := List.forall_mem_cons.mp hpos
    have hf : blockToFragment g t.strand start offsets[i] size =
        .ok (geneIv g ⟨start + offsets[i], start + offsets[i] + size⟩) := by
      unfold blockToFragment; rw [hst]
      exact spanToGene_of_inGene (Nat.lt_add_of_pos_right hpos0) hin0
    have ih' := ih (i := i + 1) hpos' (by rw [Nat.add_right_comm]; exact hlen) hin'
    unfold convertBlocks
    simp only [ho, hf, lookupFragment_geneIv hin0]
    constructor
    · intro hall
      obtain ⟨⟨k, hk⟩, hall'⟩ := List.forall_mem_cons.mp hall
      obtain ⟨acc, hacc⟩ := ih'.1 hall'
      rw [hk, hacc]
      exact ⟨_, rfl⟩
    · rintro ⟨b, hb, hbad⟩
      cases hk : blockLookup t isCi rs re ⟨start + offsets[i], start + offsets[i] + size⟩ with
      | error x => rw [blockLookup_error hk]
      | ok k =>
        rcases List.mem_cons.mp hb with rfl | hb'
        · exact absurd hk (hbad k)
        · dsimp only; rw [ih'.2 ⟨b, hb', hbad⟩]

/-! ## `convert_to_circ_rna` -/

theorem convertToCircRna_eq {r : CxRecord} (hct : r.ctype ≠ .other) :
    convertToCircRna g t rs re r =
      match convertBlocks g t (decide (r.ctype = .ci)) rs re r.start r.offsets r.sizes 0 with
      | .error e => .error e
      | .ok acc =>
        match spanToGene g t.strand r.start r.stop with
        | .error e => .error (.coord e)
        | .ok bs =>
          .ok ⟨acc.fragments, acc.intron, bs.start, bs.stop, r.start, r.stop, acc.ids⟩ := by
  unfold convertToCircRna
  cases hc : r.ctype
  · rfl
  · rfl
  · exact absurd hc hct

theorem convertToCircRna_ok (hst : t.strand = g.strand) {r : CxRecord} {c : CircOut}
    (h : convertToCircRna g t rs re r = .ok c) :
    r.blocks.length = r.sizes.length ∧ c.fragments = r.blocks.map (geneIv g) ∧
    (∀ b ∈ r.blocks, InGene g b) ∧
    c.ids.map .ok = r.blocks.map (blockLookup t (decide (r.ctype = .ci)) rs re) ∧
    c.intron = (if decide (r.ctype = .ci) then List.range' 0 r.sizes.length else []) ∧
    spanToGene g g.strand r.start r.stop = .ok ⟨c.idStart, c.idStop⟩ ∧
    c.genomicStart = r.start ∧ c.genomicStop = r.stop := by
  have hct : r.ctype ≠ .other := by
    intro hc; unfold convertToCircRna at h; rw [hc] at h; cases h
  rw [convertToCircRna_eq hct, hst] at h
  split at h
  · cases h
  · rename_i acc hacc
    split at h
    · cases h
    · rename_i bs hbs
      cases h
      obtain ⟨l1, l2, l3, l4, l5⟩ := convertBlocks_ok hst hacc
      exact ⟨l1, l2, l3, l4, l5, hbs, rfl, rfl⟩

end

/-! ## the threshold tests -/

/-- one threshold of `CIRCexplorer3KnownRecord.is_valid`: `None` and `0` switch the test off
(Python truthiness) -/
theorem truthy_and_lt_eq_false {m : Option Int} {x : Int} :
    (truthy m && decide (x < m.getD 0)) = false ↔ ∀ v, m = some v → v ≠ 0 → v ≤ x := by
  cases m with
  | none => exact ⟨fun _ _ h => (nomatch h), fun _ => rfl⟩
  | some w =>
    simp only [truthy, Option.getD_some, Bool.and_eq_false_iff, bne_eq_false_iff_eq,
      decide_eq_false_iff_not, Int.not_lt, Option.some.injEq, forall_eq']
    exact ⟨fun h hw => h.resolve_left hw, fun h => (Decidable.em (w = 0)).imp_right h⟩

theorem isValid3_iff (r : CxRecord) (n : Nat) (mf ms : Option Int) :
    isValid3 r n mf ms = true ↔
      n ≤ r.reads ∧ (∀ v, mf = some v → v ≠ 0 → v ≤ r.fpb) ∧
        (∀ v, ms = some v → v ≠ 0 → v ≤ r.score) := by
  unfold isValid3 isValid2
  rw [← truthy_and_lt_eq_false, ← truthy_and_lt_eq_false]
  cases (truthy mf && decide (r.fpb < mf.getD 0))
  · cases (truthy ms && decide (r.score < ms.getD 0))
    · simp only [Bool.false_eq_true, if_false, decide_eq_true_eq, ge_iff_le, and_true]
    · simp only [Bool.false_eq_true, if_false, if_true, reduceCtorEq, and_false]
  · simp only [if_true, Bool.false_eq_true, reduceCtorEq, false_and, and_false]

end MoPepGen
