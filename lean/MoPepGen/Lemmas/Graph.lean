/-
Lemmas for Layer G (`Model/Graph.lean`): path enumeration, the position automaton of the
transcript variant graph, node-wise translation, node joins.
-/
import MoPepGen.Model.Graph
namespace MoPepGen.Graph
open MoPepGen MoPepGen.Spec

/-! ### `pathsFrom` enumerates exactly the maximal paths -/

/-- `p` is a maximal path of `g` starting at `i` -/
inductive MaxPath (g : Graph) : Nat → List Nat → Prop
  | leaf {i : Nat} : i < g.size → succs g i = [] → MaxPath g i [i]
  | step {i o : Nat} {p : List Nat} :
      i < g.size → o ∈ succs g i → MaxPath g o p → MaxPath g i (i :: p)

theorem mem_pathsFrom_iff (g : Graph) : ∀ (fuel i : Nat) (p : List Nat),
    p ∈ pathsFrom g fuel i ↔ MaxPath g i p ∧ p.length ≤ fuel := by
  intro fuel
  induction fuel with
  | zero =>
    intro i p
    refine ⟨fun h => (nomatch h), fun ⟨h, hl⟩ => ?_⟩
    cases h <;> exact absurd hl (Nat.not_succ_le_zero _)
  | succ n ih =>
    intro i p
    unfold pathsFrom
    by_cases hi : i < g.size
    · rw [if_pos hi]
      cases hs : succs g i with
      | nil =>
        simp only [List.isEmpty_nil, if_true, List.mem_singleton]
        constructor
        · rintro rfl
          exact ⟨.leaf hi hs, Nat.succ_le_succ (Nat.zero_le _)⟩
        · rintro ⟨h, _⟩
          cases h with
          | leaf => rfl
          | step _ ho _ => rw [hs] at ho; cases ho
      | cons o' os =>
        simp only [List.isEmpty_cons, Bool.false_eq_true, if_false, List.mem_flatMap, List.mem_map, ih]
        constructor
        · rintro ⟨o, ho, q, ⟨hq, hl⟩, rfl⟩
          exact ⟨.step hi (hs ▸ ho) hq, Nat.succ_le_succ hl⟩
        · rintro ⟨h, hl⟩
          cases h with
          | leaf _ he => rw [hs] at he; cases he
          | step _ ho hq => exact ⟨_, hs ▸ ho, _, ⟨hq, Nat.le_of_succ_le_succ hl⟩, rfl⟩
    · rw [if_neg hi]
      refine ⟨fun h => (nomatch h), fun ⟨h, _⟩ => ?_⟩
      cases h <;> exact absurd ‹i < g.size› hi

theorem MaxPath.mem_lt {g : Graph} {i : Nat} {p : List Nat} (h : MaxPath g i p) :
    ∀ x ∈ p, x < g.size := by
  induction h with
  | leaf hi _ => intro x hx; rw [List.mem_singleton.mp hx]; exact hi
  | step hi _ _ ih =>
    intro x hx
    rcases List.mem_cons.mp hx with rfl | hx
    · exact hi
    · exact ih x hx

theorem MaxPath.length_le {g : Graph} {i : Nat} {p : List Nat} (h : MaxPath g i p)
    (hnd : p.Nodup) : p.length ≤ g.size := by
  have hsub : p ⊆ List.range g.size := fun x hx => List.mem_range.mpr (h.mem_lt x hx)
  exact Nat.le_trans (hnd.length_le_of_subset hsub) (Nat.le_of_eq List.length_range)

/-- the fuel `g.size + 1` of `paths` is enough for every path that repeats no node (in an acyclic
graph: every path) -/
theorem mem_paths_iff (g : Graph) (i : Nat) (p : List Nat) (hnd : p.Nodup) :
    p ∈ paths g i ↔ MaxPath g i p := by
  rw [paths, mem_pathsFrom_iff]
  exact and_iff_left_of_imp fun h => Nat.le_succ_of_le (h.length_le hnd)

/-! ### the position automaton of the transcript variant graph -/

/-- What `ThreeFrameTVG.apply_variant` builds for one reading frame, seen from the reference
positions: the alt sequence of a record `v` hangs between the reference node ENDING at
`v.start` and the reference node STARTING at `v.stop`.  A walk is at reference position `p`;
`r` says that the last step consumed a reference base (so the walk stands at the end of a
reference node and may leave it through a variant edge).  `Walk p r w h`: from there the walk
can reach the end emitting `w` and taking exactly the records `h`. -/
inductive Walk (seq : List Char) (pool : List Var) : Nat → Bool → List Char → List Var → Prop
  | done {p : Nat} {r : Bool} : seq.length ≤ p → Walk seq pool p r [] []
  | ref {p : Nat} {r : Bool} {c : Char} {w : List Char} {h : List Var} :
      seq[p]? = some c → Walk seq pool (p + 1) true w h → Walk seq pool p r (c :: w) h
  | var {v : Var} {w : List Char} {h : List Var} :
      v ∈ pool → v.start < v.stop → Walk seq pool v.stop false w h →
      Walk seq pool v.start true (v.alt ++ w) (v :: h)

/-- every record of `h` starts at or after `p` (after `p` when `strict`), and `h` is
ascending and strictly separated -/
def SepFrom (p : Nat) (strict : Bool) : List Var → Prop
  | [] => True
  | v :: vs => (if strict then p < v.start else p ≤ v.start) ∧ v.start < v.stop ∧
      SepFrom v.stop true vs

theorem applyHap_go_nil (pos : Nat) (rest : List Char) : applyHap.go pos rest [] = rest := rfl

theorem applyHap_go_cons (pos : Nat) (rest : List Char) (v : Var) (vs : List Var) :
    applyHap.go pos rest (v :: vs) =
      (rest.take (v.start - pos)) ++ v.alt ++ applyHap.go v.stop (rest.drop (v.stop - pos)) vs := rfl

theorem sepFrom_succ {p : Nat} {h : List Var} : SepFrom (p + 1) false h ↔ SepFrom p true h := by
  cases h <;> exact Iff.rfl

theorem SepFrom.weaken {p : Nat} {h : List Var} (hs : SepFrom p true h) (s : Bool) :
    SepFrom p s h := by
  cases s
  · cases h with
    | nil => trivial
    | cons v vs => exact ⟨Nat.le_of_lt hs.1, hs.2⟩
  · exact hs

theorem sub_eq_succ {p n : Nat} (h : p < n) : n - p = n - (p + 1) + 1 :=
  (Nat.sub_add_cancel (Nat.sub_pos_of_lt h)).symm

theorem applyHap_go_step (seq : List Char) (p : Nat) (c : Char) (hc : seq[p]? = some c)
    (h : List Var) (hs : SepFrom p true h) :
    applyHap.go p (seq.drop p) h = c :: applyHap.go (p + 1) (seq.drop (p + 1)) h := by
  obtain ⟨hp, rfl⟩ := List.getElem?_eq_some_iff.mp hc
  have hdrop : seq.drop p = seq[p] :: seq.drop (p + 1) := List.drop_eq_getElem_cons hp
  cases h with
  | nil => exact hdrop
  | cons v vs =>
    have h1 : p < v.start := hs.1
    rw [applyHap_go_cons, applyHap_go_cons, hdrop, sub_eq_succ h1,
      sub_eq_succ (Nat.lt_trans h1 hs.2.1), List.take_succ_cons, List.drop_succ_cons]
    rfl

theorem applyHap_go_take (seq : List Char) (v : Var) (vs : List Var) (h : v.start ≤ v.stop) :
    applyHap.go v.start (seq.drop v.start) (v :: vs) =
      v.alt ++ applyHap.go v.stop (seq.drop v.stop) vs := by
  rw [applyHap_go_cons, Nat.sub_self, List.take_zero, List.nil_append, List.drop_drop,
    Nat.add_sub_cancel' h]

theorem walk_sound (seq : List Char) (pool : List Var) :
    ∀ (p : Nat) (r : Bool) (w : List Char) (h : List Var), Walk seq pool p r w h →
      (∀ v ∈ h, v ∈ pool) ∧ SepFrom p (!r) h ∧ w = applyHap.go p (seq.drop p) h := by
  intro p r w h hw
  induction hw with
  | done hp => exact ⟨fun _ hv => (nomatch hv), trivial, (List.drop_eq_nil_of_le hp).symm⟩
  | @ref p r c w h hc _ ih =>
    obtain ⟨h1, h2, rfl⟩ := ih
    have hs : SepFrom p true h := sepFrom_succ.mp h2
    exact ⟨h1, hs.weaken _, (applyHap_go_step seq p c hc h hs).symm⟩
  | @var v w h hv hlt _ ih =>
    obtain ⟨h1, h2, rfl⟩ := ih
    exact ⟨List.forall_mem_cons.mpr ⟨hv, h1⟩, ⟨Nat.le_refl _, hlt, h2⟩,
      (applyHap_go_take seq v h (Nat.le_of_lt hlt)).symm⟩

theorem walk_end (seq : List Char) (pool : List Var) {p : Nat} (r : Bool) {h : List Var}
    (hp : seq.length ≤ p) (hsep : SepFrom p (!r) h) (hlen : ∀ v ∈ h, v.stop ≤ seq.length) :
    Walk seq pool p r (applyHap.go p (seq.drop p) h) h := by
  cases h with
  | nil =>
    rw [applyHap_go_nil, List.drop_eq_nil_of_le hp]
    exact Walk.done hp
  | cons v vs =>
    have h1 : p ≤ v.start := by
      cases r
      · exact Nat.le_of_lt hsep.1
      · exact hsep.1
    have h2 : v.start < v.stop := hsep.2.1
    exact absurd (Nat.le_trans (hlen v List.mem_cons_self) (Nat.le_trans hp h1)) (Nat.not_le_of_lt h2)

theorem fuel_step {len p q n : Nat} (hn : len - p ≤ n + 1) (hpq : p < q) : len - q ≤ n := by
  refine Nat.sub_le_of_le_add (Nat.le_trans (Nat.le_add_of_sub_le hn) ?_)
  rw [Nat.add_assoc, Nat.add_comm 1 p]
  exact Nat.add_le_add_left hpq n

theorem walk_complete (seq : List Char) (pool : List Var) :
    ∀ (n p : Nat) (r : Bool) (h : List Var), seq.length - p ≤ n →
      (∀ v ∈ h, v ∈ pool) → SepFrom p (!r) h → (∀ v ∈ h, v.stop ≤ seq.length) →
      Walk seq pool p r (applyHap.go p (seq.drop p) h) h := by
  intro n
  induction n with
  | zero =>
    intro p r h hn _ hsep hlen
    exact walk_end seq pool r (Nat.le_of_sub_eq_zero (Nat.le_zero.mp hn)) hsep hlen
  | succ n ih =>
    intro p r h hn hpool hsep hlen
    rcases Nat.lt_or_ge p seq.length with hp | hp
    · -- either a record starts exactly here and the walk may take it, or a reference base follows
      by_cases htake : ∃ v vs, h = v :: vs ∧ v.start = p ∧ r = true
      · obtain ⟨v, vs, rfl, rfl, rfl⟩ := htake
        obtain ⟨_, hlt, hrest⟩ := hsep
        rw [applyHap_go_take seq v vs (Nat.le_of_lt hlt)]
        obtain ⟨hv, hvs⟩ := List.forall_mem_cons.mp hpool
        exact Walk.var hv hlt
          (ih v.stop false vs (fuel_step hn hlt) hvs hrest (List.forall_mem_cons.mp hlen).2)
      · have hs : SepFrom p true h := by
          cases h with
          | nil => trivial
          | cons v vs =>
            refine ⟨?_, hsep.2⟩
            cases r with
            | false => exact hsep.1
            | true =>
              exact Nat.lt_of_le_of_ne hsep.1 fun e => htake ⟨v, vs, rfl, e.symm, rfl⟩
        have hc : seq[p]? = some seq[p] := List.getElem?_eq_getElem hp
        rw [applyHap_go_step seq p _ hc h hs]
        exact Walk.ref hc
          (ih (p + 1) true h (fuel_step hn (Nat.lt_succ_self p)) hpool (sepFrom_succ.mpr hs) hlen)
    · exact walk_end seq pool r hp hsep hlen

theorem sepFrom_of_separated : ∀ (h : List Var) (p : Nat),
    separated h = true → (∀ v ∈ h, v.start < v.stop) → (∀ v ∈ h.head?, p < v.start) →
    SepFrom p true h := by
  intro h
  induction h with
  | nil => intros; trivial
  | cons a rest ih =>
    intro p hsep hpos hfirst
    refine ⟨hfirst a rfl, hpos a List.mem_cons_self, ?_⟩
    cases rest with
    | nil => trivial
    | cons b rest' =>
      simp only [separated, Bool.and_eq_true, decide_eq_true_eq] at hsep
      exact ih a.stop hsep.2 (fun v hv => hpos v (List.mem_cons_of_mem _ hv))
        fun v hv => Option.some.inj hv ▸ hsep.1

theorem separated_of_sepFrom : ∀ (h : List Var) (p : Nat) (s : Bool),
    SepFrom p s h → separated h = true := by
  intro h
  induction h with
  | nil => intros; rfl
  | cons a rest ih =>
    intro p s hs
    cases rest with
    | nil => rfl
    | cons b rest' =>
      simp only [separated, Bool.and_eq_true, decide_eq_true_eq]
      exact ⟨hs.2.2.1, ih a.stop true hs.2.2⟩

/-! ### node-wise translation of a codon-aligned path -/

theorem translate_append : ∀ (a b : List Char), a.length % 3 = 0 →
    translate (a ++ b) = translate a ++ translate b
  | [], _, _ => rfl
  | [_], _, h => nomatch h
  | [_, _], _, h => nomatch h
  | x :: y :: z :: rest, b, h => by
    have hrest : rest.length % 3 = 0 := (Nat.add_mod_right _ 3).symm.trans h
    show codon x y z :: translate (rest ++ b) = codon x y z :: translate rest ++ translate b
    rw [translate_append rest b hrest]
    rfl

theorem translatePath_eq (g : Graph) (p : List Nat) (h : codonAligned g p = true) :
    translatePath g p = translate (pathSeq g p) := by
  induction p with
  | nil => rfl
  | cons i rest ih =>
    cases rest with
    | nil => simp only [translatePath, pathSeq, List.flatMap_cons, List.flatMap_nil, List.append_nil]
    | cons j rest' =>
      have h' : (nodeSeq g i).length % 3 = 0 ∧ codonAligned g (j :: rest') = true := by
        simpa only [codonAligned, List.dropLast_cons_cons, List.all_cons, Bool.and_eq_true,
          beq_iff_eq] using h
      have hrest := ih h'.2
      simp only [translatePath, pathSeq, List.flatMap_cons] at hrest ⊢
      rw [translate_append _ _ h'.1, hrest]

/-! ### node joins -/

/-- the cut positions of a list of pieces: 0, every inner boundary, the total length -/
def cuts : List (List Char) → List Nat
  | [] => [0]
  | p :: ps => 0 :: (cuts ps).map (· + p.length)

theorem mem_cuts_cons {d : Nat} {ps : List (List Char)} (p : List Char) (h : d ∈ cuts ps) :
    d + p.length ∈ cuts (p :: ps) :=
  List.mem_cons_of_mem _ (List.mem_map.mpr ⟨d, h, rfl⟩)

theorem mem_cuts_iff : ∀ (pieces : List (List Char)) (b : Nat),
    b ∈ cuts pieces ↔ ∃ k, b = ((pieces.take k).flatten).length
  | [], b => by simp [cuts]
  | p :: ps, b => by
    simp only [cuts, List.mem_cons, List.mem_map, mem_cuts_iff ps]
    constructor
    · rintro (rfl | ⟨_, ⟨k, rfl⟩, rfl⟩)
      · exact ⟨0, rfl⟩
      · exact ⟨k + 1, by rw [List.take_succ_cons, List.flatten_cons, List.length_append, Nat.add_comm]⟩
    · rintro ⟨k, rfl⟩
      cases k with
      | zero => exact Or.inl rfl
      | succ k =>
        exact Or.inr ⟨_, ⟨k, rfl⟩, by rw [List.take_succ_cons, List.flatten_cons, List.length_append, Nat.add_comm]⟩

theorem zero_mem_cuts (pieces : List (List Char)) : 0 ∈ cuts pieces :=
  (mem_cuts_iff pieces 0).mpr ⟨0, rfl⟩

theorem length_mem_cuts (pieces : List (List Char)) : pieces.flatten.length ∈ cuts pieces :=
  (mem_cuts_iff pieces _).mpr ⟨pieces.length, by rw [List.take_length]⟩

theorem getD_mem {α : Type} {l : List α} {n : Nat} {d : α} (hn : n < l.length) : l.getD n d ∈ l := by
  rw [List.getD_eq_getElem?_getD, List.getElem?_eq_getElem hn, Option.getD_some]
  exact List.getElem_mem hn

theorem mem_bounds (sites : List Nat) (n a : Nat) :
    a ∈ bounds sites n ↔ a = 0 ∨ a ∈ sites ∨ a = n := by
  simp only [bounds, List.mem_cons, List.mem_append, List.not_mem_nil, or_false]

theorem slice_append_mid (pre mid post : List Char) :
    slice (pre ++ mid ++ post) pre.length (pre.length + mid.length) = mid := by
  rw [slice, List.append_assoc, List.drop_left, Nat.add_sub_cancel_left, List.take_left]

theorem slice_eq_nil (w : List Char) (a b : Nat) (h : b ≤ a) : slice w a b = [] := by
  rw [slice, Nat.sub_eq_zero_of_le h, List.take_zero]

theorem flatten_take_add (pieces : List (List Char)) (i d : Nat) :
    (pieces.take (i + d)).flatten = (pieces.take i).flatten ++ ((pieces.drop i).take d).flatten := by
  rw [List.take_add, List.flatten_append]

theorem slice_is_join (pieces : List (List Char)) (a b : Nat)
    (ha : a ∈ cuts pieces) (hb : b ∈ cuts pieces) (hab : a ≤ b) :
    ∃ i k, slice pieces.flatten a b = ((pieces.drop i).take k).flatten := by
  obtain ⟨i, rfl⟩ := (mem_cuts_iff _ _).mp ha
  obtain ⟨j, rfl⟩ := (mem_cuts_iff _ _).mp hb
  rcases Nat.le_total i j with hij | hji
  · -- pieces = first `i` ++ next `d` ++ rest, and the slice is the middle part
    obtain ⟨d, rfl⟩ := Nat.exists_eq_add_of_le hij
    refine ⟨i, d, ?_⟩
    have hsplit : pieces.flatten = (pieces.take i).flatten ++ ((pieces.drop i).take d).flatten ++
        (pieces.drop (i + d)).flatten := by
      rw [← flatten_take_add, ← List.flatten_append, List.take_append_drop]
    rw [hsplit, flatten_take_add, List.length_append]
    exact slice_append_mid _ _ _
  · -- the join of fewer pieces is no longer: the slice is empty
    obtain ⟨d, rfl⟩ := Nat.exists_eq_add_of_le hji
    refine ⟨0, 0, slice_eq_nil _ _ _ ?_⟩
    rw [flatten_take_add, List.length_append]
    exact Nat.le_add_right _ _

end MoPepGen.Graph
