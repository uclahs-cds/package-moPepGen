/-
The fuel of the `while queue` loop of `Model/Translate.lean` (`bfs`) is not a modelling artefact:
the number of TVG nodes that have no `PVGNode` yet plus the length of the queue drops with every
`queue.pop()`, so `g.nodes.size + g.frames.length + 1` iterations are enough — with any larger
amount of fuel the search returns the same result (`translateCore_fuel_stable`).
-/
import MoPepGen.Lemmas.TranslateSearch
namespace MoPepGen.Translate
open MoPepGen MoPepGen.Spec MoPepGen.Graph

variable {g : TGraphIn} {st st' : St}

/-- TVG nodes without a `PVGNode` -/
def absentCount (g : TGraphIn) (ns : Array PNode) : Nat :=
  ((List.range g.nodes.size).filter fun o => !presentAt ns (pix o)).length

def mu (g : TGraphIn) (st : St) : Nat := absentCount g st.nodes + st.queue.length

theorem absentCount_congr (g : TGraphIn) {ns ns' : Array PNode}
    (h : ∀ o, presentAt ns' (pix o) = presentAt ns (pix o)) : absentCount g ns' = absentCount g ns :=
  congrArg List.length (List.filter_congr fun o _ => by rw [h])

theorem filter_length_lt (l : List Nat) (P P' : Nat → Bool) (himp : ∀ x, P' x = true → P x = true)
    (o : Nat) (ho : o ∈ l) (hP : P o = true) (hP' : P' o = false) :
    (l.filter P').length + 1 ≤ (l.filter P).length := by
  have : l.filter P' = (l.filter P).filter P' := by
    rw [List.filter_filter]
    exact List.filter_congr fun x _ => by cases h : P' x <;> simp [himp x, h]
  rw [this]
  exact List.length_filter_lt_length_iff_exists.mpr ⟨o, List.mem_filter.mpr ⟨ho, hP⟩, by simp [hP']⟩

theorem visitEdge_mu {nOut d p o : Nat}
    (hI : Inv g st [(d, p)]) (h : visitEdge g nOut p st o = .ok st') : mu g st' ≤ mu g st := by
  obtain ⟨n, hn, hE, ⟨hv, hq, _⟩ | ⟨hv, hnew, hq, _⟩⟩ := visitEdge_effect hI h
  · rw [mu, mu, hq, absentCount_congr g fun _ => hE.present_eq_of_present hv _]
    exact Nat.le_refl _
  · have : absentCount g st'.nodes + 1 ≤ absentCount g st.nodes :=
      filter_length_lt _ _ _
        (fun x hx => by
          cases hpx : presentAt st.nodes (pix x)
          · rfl
          · rw [(hE.mono _ hpx).1] at hx; cases hx)
        o (List.mem_range.mpr (lt_size_of_getElem? hn)) (by rw [hv]; rfl) (by rw [hnew]; rfl)
    rw [mu, mu, hq, List.length_append, List.length_singleton, ← Nat.add_assoc, Nat.add_right_comm]
    exact Nat.add_le_add_right this _

theorem processItem_mu {d p : Nat}
    (hI : Inv g st [(d, p)]) (h : processItem g st d p = .ok st') : mu g st' ≤ mu g st :=
  processItem_keeps (P := fun s => mu g s ≤ mu g st) hI (Nat.le_refl _) h
    (fun _ _ _ _ hI hP hv => Nat.le_trans (visitEdge_mu hI hv) hP)
    fun _ hE => Nat.le_of_eq (congrArg (· + _) (absentCount_congr g fun o => hE.present_eq (pix_ne_stop o)))

theorem bfs_fuel_stable : ∀ (fuel : Nat) (st : St), Inv g st [] → mu g st ≤ fuel →
    ∀ k, bfs g (fuel + k) st = bfs g fuel st
  | 0 => fun st _ hmu k => by
    have hq : st.queue = [] :=
      List.eq_nil_of_length_eq_zero (Nat.eq_zero_of_le_zero (Nat.le_trans (Nat.le_add_left ..) hmu))
    cases k with
    | zero => rfl
    | succ k => rw [Nat.zero_add, bfs, bfs, hq]; rfl
  | n + 1 => fun st hI hmu k => by
    rw [Nat.add_right_comm, bfs, bfs]
    split
    · rfl
    · rename_i d p q hq
      cases h1 : processItem g { st with queue := q } d p with
      | error e => rfl
      | ok st1 =>
        refine bfs_fuel_stable n st1 (processItem_inv (hI.pop hq) h1) ?_ k
        have := processItem_mu (hI.pop hq) h1
        simp only [mu, hq, List.length_cons] at hmu this ⊢
        omega

theorem initSt_mu (g : TGraphIn) : mu g (initSt g) = g.nodes.size + g.frames.length := by
  have : ((List.range g.nodes.size).filter fun o => !presentAt (initSt g).nodes (pix o)) =
      List.range g.nodes.size :=
    List.filter_eq_self.mpr fun a _ => by rw [initSt_present_pix]; rfl
  rw [mu, absentCount, this, List.length_range, initSt, List.length_map, List.length_reverse]

theorem translateCore_fuel_stable (g : TGraphIn) (k : Nat) :
    bfs g (g.nodes.size + g.frames.length + 1 + k) (initSt g) =
      bfs g (g.nodes.size + g.frames.length + 1) (initSt g) :=
  bfs_fuel_stable _ _ (initSt_inv g) (by rw [initSt_mu]; exact Nat.le_succ _) k

end MoPepGen.Translate
