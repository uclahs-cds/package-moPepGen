import MoPepGen.Lemmas.SortInfos
/-! For C18 `summary_eq_split`.  Under the same options the two commands differ in the
label → source look-up (splitFasta: the first GVF that has the label wins, summarizeFasta: the
last; `sourceFirst_eq_sourceLast` under `noSharedLabel`) and in the wildcard map (summarizeFasta
has none; `wildcardMap_noWild`: without wildcard keys every entry sends a set to itself).  With
both excluded `cliSplit_ok` turns `split_fasta` into `split` in the environment of
`summarize_fasta` with such a wildcard map, and `split_eq_summarize` compares row totals with
database sizes: `count_foldl` for the rows, `chooseKey_eq_iff` for the keys of the sets that fit
`--max-source-groups`. -/
namespace MoPepGen

theorem noSharedLabel_spec (gvfs : List Gvf) (h : noSharedLabel gvfs = true) (g1 g2 : Gvf)
    (h1 : g1 ∈ gvfs) (h2 : g2 ∈ gvfs) (l : Field × Field) (l1 : l ∈ g1.labels) (l2 : l ∈ g2.labels) :
    g1.source = g2.source := by
  unfold noSharedLabel at h
  have := List.all_eq_true.mp (List.all_eq_true.mp h g1 h1) g2 h2
  rw [Bool.or_eq_true, beq_iff_eq, List.all_eq_true] at this
  refine this.resolve_right fun e => ?_
  have := e l l1
  rw [List.contains_iff_mem.mpr l2] at this
  cases this

theorem sourceFirst_eq_sourceLast (gvfs : List Gvf) (h : noSharedLabel gvfs = true) :
    sourceFirst gvfs = sourceLast gvfs := by
  funext gene label
  unfold sourceLast sourceFirst
  cases h1 : gvfs.find? (fun g => g.labels.contains (gene, label)) with
  | none =>
    rw [List.find?_eq_none.mpr fun g hg => List.find?_eq_none.mp h1 g (List.mem_reverse.mp hg)]
  | some g1 =>
    have m1 := List.mem_of_find?_eq_some h1
    have p1 := List.find?_some h1
    cases h2 : gvfs.reverse.find? (fun g => g.labels.contains (gene, label)) with
    | none => exact absurd p1 (List.find?_eq_none.mp h2 g1 (List.mem_reverse.mpr m1))
    | some g2 =>
      have m2 := List.mem_reverse.mp (List.mem_of_find?_eq_some h2)
      have p2 := List.find?_some h2
      show some g1.source = some g2.source
      rw [noSharedLabel_spec gvfs h g1 g2 m1 m2 (gene, label) (List.contains_iff_mem.mp p1)
        (List.contains_iff_mem.mp p2)]

theorem nodupS_iff (l : List Src) : nodupS l = true ↔ l.Nodup := by
  induction l with
  | nil => exact iff_of_true rfl .nil
  | cons x xs ih =>
    rw [nodupS, Bool.and_eq_true, ih, List.nodup_cons, Bool.not_eq_true', ← Bool.not_eq_true,
      List.contains_iff_mem]

def wmIdent (m : List (SrcSet × SrcSet)) : Prop := ∀ e ∈ m, e.1 = e.2 ∧ e.2.Nodup

theorem wmIdent_add {m : List (SrcSet × SrcSet)} {src : SrcSet} (hm : wmIdent m)
    (hnd : src.Nodup) :
    wmIdent (if m.any (fun e => sameSet e.1 src) then m else m ++ [(src, src)]) := by
  split
  · exact hm
  · intro e he
    rcases List.mem_append.mp he with he | he
    · exact hm e he
    · cases List.mem_singleton.mp he
      exact ⟨rfl, hnd⟩

theorem foldlM_some_inv {α β} {f : β → α → Option β} {P : β → Prop} {l : List α}
    (hf : ∀ b, P b → ∀ a ∈ l, ∃ b', f b a = some b' ∧ P b') :
    ∀ {b}, P b → ∃ b', l.foldlM f b = some b' ∧ P b' := by
  induction l with
  | nil => exact fun hb => ⟨_, rfl, hb⟩
  | cons a l ih =>
    intro b hb
    obtain ⟨b', e, hb'⟩ := hf b hb a List.mem_cons_self
    rw [List.foldlM_cons, e]
    exact ih (fun b hb a ha => hf b hb a (List.mem_cons_of_mem _ ha)) hb'

theorem wildcardMap_noWild (o : Order) (srcs : SrcSet) (h1 : o.noWildKeys = true)
    (h2 : o.keysAreSets = true) : ∃ wm, wildcardMap o srcs = some wm ∧ wmIdent wm := by
  unfold wildcardMap
  refine foldlM_some_inv (P := wmIdent) (fun m hm kv hkv => ?_) (fun _ h => nomatch h)
  have hmem := (isort_perm _ o).subset hkv
  have hw := List.all_eq_true.mp h1 kv hmem
  have hs := List.all_eq_true.mp h2 kv hmem
  -- a key without wildcard takes the first branch: it is entered as itself
  cases hk : kv.1 with
  | one x =>
    rw [hk] at hw
    have hnw : (![x].any isWild) = true := by
      rw [List.any_cons, List.any_nil, Bool.or_false]; exact hw
    dsimp only
    rw [if_pos hnw]
    exact ⟨_, rfl, wmIdent_add hm (List.pairwise_singleton _ _)⟩
  | many s =>
    rw [hk] at hw hs
    dsimp only at hw hs ⊢
    rw [if_pos hw]
    exact ⟨_, rfl, wmIdent_add hm ((nodupS_iff s).mp hs)⟩

theorem applyWildcard_ident (wm : List (SrcSet × SrcSet)) (hwm : wmIdent wm) (s : SrcSet) :
    sameSet (applyWildcard wm s) s = true := by
  unfold applyWildcard
  split
  · rename_i kv hf
    exact (hwm kv (List.mem_of_find?_eq_some hf)).1 ▸ (List.find?_some hf :)
  · exact sameSet_refl s

theorem wildNodup_of_ident (wm : List (SrcSet × SrcSet)) (hwm : wmIdent wm) : wildNodup wm :=
  fun kv hkv => (hwm kv hkv).2

def SrcEnv.withWild (env : SrcEnv) (w : List (SrcSet × SrcSet)) : SrcEnv :=
  { env with wildcard := w }

theorem addSource_wild (env : SrcEnv) (w : List (SrcSet × SrcSet)) (s : SrcSet) (x : Src) :
    addSource (env.withWild w) s x = addSource env s x := rfl

theorem addLabels_wild (env : SrcEnv) (w : List (SrcSet × SrcSet)) (gene : Option Field) :
    ∀ (vs : List Field) (s : SrcSet),
      addLabels (env.withWild w) gene s vs = addLabels env gene s vs := by
  intro vs
  induction vs with
  | nil => intro s; rfl
  | cons v vs ih =>
    intro s
    simp only [addLabels, addSource_wild, ih]
    rfl

theorem addGenes_wild (env : SrcEnv) (w : List (SrcSet × SrcSet)) :
    ∀ (l : List (Option Field × List Field)) (s : SrcSet),
      addGenes (env.withWild w) s l = addGenes env s l := by
  intro l
  induction l with
  | nil => intro s; rfl
  | cons x xs ih =>
    intro s
    simp only [addGenes, addLabels_wild, ih]

theorem entryInfo_wild (env : SrcEnv) (hnil : env.wildcard = []) (w : List (SrcSet × SrcSet))
    (e : Entry) (i j : Entry × SrcSet) (hi : entryInfo (env.withWild w) e = .ok i)
    (hj : entryInfo env e = .ok j) : i.2 = applyWildcard w j.2 := by
  obtain ⟨d, vids, s1, s2, a1, a2, a3, a4, rfl⟩ := entryInfo_ok hi
  obtain ⟨d', vids', s1', s2', b1, b2, b3, b4, rfl⟩ := entryInfo_ok hj
  cases a1.symm.trans b1
  cases (show identVarIds env.tx2gene d = .ok vids from a2).symm.trans b2
  rw [addSource_wild] at a3
  cases a3.symm.trans b3
  rw [addGenes_wild] at a4
  cases a4.symm.trans b4
  show _ = applyWildcard w (applyWildcard env.wildcard s2)
  rw [hnil]
  rfl

theorem count_sumAdd (t : SumTable) (s : SrcSet) (m : Nat) (s' : SrcSet) :
    (sumAdd t s m).count s' = t.count s' + if sameSet s s' = true then 1 else 0 := by
  rw [sumAdd_eq]
  unfold SumTable.count
  cases h : sameSet s s' with
  | true =>
    rw [funext fun e : SrcSet × Nat × List (Nat × Nat) => (sameSet_congr_right h e.1).symm,
      find?_upsert_self]
    · cases t.find? _ <;> rfl
    · exact fun _ h => h
    · exact sameSet_refl s
  | false =>
    rw [find?_upsert_other]
    · rfl
    · exact fun a ha => Bool.eq_false_iff.mpr fun ha' =>
        Bool.false_ne_true (h.symm.trans (sameSet_trans (sameSet_symm ha) ha'))
    · exact fun _ => rfl
    · exact h

theorem count_foldl (ks : List (SrcSet × Nat)) (s' : SrcSet) : ∀ t0 : SumTable,
    (ks.foldl (fun t k => sumAdd t k.1 k.2) t0).count s' =
      t0.count s' + (ks.filter fun x => sameSet x.1 s').length := by
  induction ks with
  | nil => exact fun t0 => rfl
  | cons k ks ih =>
    intro t0
    rw [List.foldl_cons, ih, count_sumAdd, List.filter_cons]
    cases sameSet k.1 s' with
    | true => rw [if_pos rfl, if_pos rfl, List.length_cons, Nat.add_assoc, Nat.add_comm 1]
    | false => rw [if_neg Bool.false_ne_true, if_neg Bool.false_ne_true, Nat.add_zero]

theorem mem_plain (o : Order) (x : Src) : x ∈ o.plain ↔ ∃ kv ∈ o, kv.1 = .one x := by
  unfold Order.plain
  rw [List.mem_filterMap]
  constructor
  · rintro ⟨kv, hkv, h⟩
    refine ⟨kv, (isort_perm _ o).subset hkv, ?_⟩
    split at h
    · cases h; assumption
    · cases h
  · rintro ⟨kv, hkv, h⟩
    exact ⟨kv, (isort_perm _ o).symm.subset hkv, by rw [h]⟩

theorem has_one_iff (o : Order) (x : Src) : o.has (.one x) = true ↔ x ∈ o.plain := by
  rw [mem_plain, has_iff]
  refine exists_congr fun kv => and_congr_right fun _ => ?_
  cases kv.1 with
  | one y => exact beq_iff_eq.trans ⟨fun e => e ▸ rfl, fun e => OKey.one.inj e⟩
  | many s => exact ⟨nofun, nofun⟩

theorem plain_notWild (o : Order) (h : o.noWildKeys = true) (x : Src) (hx : x ∈ o.plain) :
    isWild x = false := by
  obtain ⟨kv, hkv, hk⟩ := (mem_plain o x).mp hx
  have := List.all_eq_true.mp h kv hkv
  rw [hk] at this
  exact (Bool.not_eq_true' _).mp this

theorem setStr_of_sources (o : Order) (hw : o.noWildKeys = true) (s : SrcSet)
    (hs : ∀ y ∈ s, o.has (.one y) = true) :
    setStr o s = (o.plain.filter fun x => s.contains x, "") := by
  have nw : ∀ w : Src, isWild w = true → s.contains w = false := fun w hw' =>
    Bool.eq_false_iff.mpr fun hc => Bool.false_ne_true <|
      (plain_notWild o hw w ((has_one_iff _ _).mp (hs w (List.contains_iff_mem.mp hc)))).symm.trans hw'
  unfold setStr
  rw [nw "*" (by decide), nw "+" (by decide)]
  refine Prod.ext (List.filter_congr fun x hx => ?_) rfl
  have hnw := plain_notWild o hw x hx
  rw [isWild, Bool.or_eq_false_iff] at hnw
  show (s.contains x && x != "+" && x != "*") = s.contains x
  rw [bne, bne, hnw.1, hnw.2, Bool.not_false, Bool.and_true, Bool.and_true]

theorem mem_setStr (o : Order) (hw : o.noWildKeys = true) (s : SrcSet)
    (hs : ∀ y ∈ s, o.has (.one y) = true) (x : Src) : x ∈ (setStr o s).1 ↔ x ∈ s := by
  rw [setStr_of_sources o hw s hs, List.mem_filter, List.contains_iff_mem]
  exact ⟨And.right, fun hx => ⟨(has_one_iff o x).mp (hs x hx), hx⟩⟩

theorem chooseKey_fit (c : SplitCfg) (hw : c.env.order.noWildKeys = true) (s : SrcSet)
    (hs : ∀ y ∈ s, c.env.order.has (.one y) = true) (hfit : (s.length : Int) ≤ c.maxGroups) :
    chooseKey c s = .sources (setStr c.env.order s).1 "" := by
  rw [chooseKey, if_pos hfit, setStr_of_sources _ hw s hs]

theorem chooseKey_eq_iff (c : SplitCfg) (hw : c.env.order.noWildKeys = true) {s s' : SrcSet}
    (hs : c.env.Sources s) (hs' : c.env.Sources s') (hfit : (s.length : Int) ≤ c.maxGroups) :
    chooseKey c s' = chooseKey c s ↔ sameSet s' s = true := by
  refine ⟨fun h => ?_, fun h => chooseKey_congr c h hs'.1 hs.1⟩
  rw [chooseKey_fit c hw s hs.2 hfit] at h
  by_cases hfit' : (s'.length : Int) ≤ c.maxGroups
  · rw [chooseKey_fit c hw s' hs'.2 hfit'] at h
    refine (sameSet_iff s' s).mpr fun x => ?_
    rw [← mem_setStr _ hw s hs.2 x, ← mem_setStr _ hw s' hs'.2 x, (DbKey.sources.inj h).1]
  · rw [chooseKey, if_neg hfit'] at h
    split at h <;> cases h

theorem combos_sublist {α} : ∀ (k : Nat) (l : List α), ∀ c ∈ combos k l, c.Sublist l := by
  intro k l
  induction l generalizing k with
  | nil =>
    intro c hc
    cases k with
    | zero => cases List.mem_singleton.mp hc; exact .refl _
    | succ k => cases hc
  | cons x xs ih =>
    intro c hc
    cases k with
    | zero => cases List.mem_singleton.mp hc; exact List.nil_sublist _
    | succ k =>
      rw [combos, List.mem_append, List.mem_map] at hc
      rcases hc with ⟨c', hc', rfl⟩ | hc
      · exact (ih k c' hc').cons_cons x
      · exact (ih (k + 1) c hc).cons x

theorem filter_sublist_eq : ∀ (l c : List Src), l.Nodup → c.Sublist l →
    l.filter (fun x => c.contains x) = c := by
  intro l c hn hs
  induction hs with
  | slnil => rfl
  | @cons c l x hs ih =>
    have hn' := List.nodup_cons.mp hn
    have : c.contains x = false :=
      Bool.eq_false_iff.mpr fun hc => hn'.1 (hs.subset (List.contains_iff_mem.mp hc))
    rw [List.filter_cons, this, if_neg Bool.false_ne_true]
    exact ih hn'.2
  | @cons_cons c l x hs ih =>
    have hn' := List.nodup_cons.mp hn
    rw [List.filter_cons, List.contains_cons, BEq.rfl, Bool.true_or, if_pos rfl, ← ih hn'.2]
    congr 1
    refine List.filter_congr fun y hy => ?_
    have : (y == x) = false := beq_eq_false_iff_ne.mpr fun e => hn'.1 (e ▸ hy)
    rw [List.contains_cons, this, Bool.false_or, ih hn'.2]

theorem setStr_sublist (o : Order) (hw : o.noWildKeys = true) (hn : o.plain.Nodup) (c : List Src)
    (hs : c.Sublist o.plain) : (setStr o c).1 = c := by
  rw [setStr_of_sources o hw c fun y hy => (has_one_iff o y).mpr (hs.subset hy)]
  exact filter_sublist_eq o.plain c hn hs

theorem cliSplit_ok {x : CliOpts} {mg : Int} {addl : List SrcSet} {pool : List PRec} {dbs : Dbs}
    (hset : x.order.keysAreSets = true) (hnw : x.order.noWildKeys = true)
    (hns : noSharedLabel x.gvfs = true) (hs : cliSplit x mg addl pool = .ok dbs) :
    ∃ wm, wmIdent wm ∧
      split { env := x.sumEnv.withWild wm, maxGroups := mg, additional := addl } pool = .ok dbs := by
  obtain ⟨wm, hwm, hid⟩ := wildcardMap_noWild (summarizerOrder x.group x.order0 x.gvfs)
    (splitterOrder x.group x.order0 x.gvfs).2 hnw hset
  refine ⟨wm, hid, ?_⟩
  unfold cliSplit at hs
  dsimp only at hs
  rw [splitterOrder_eq] at hs
  split at hs
  · cases hs
  · rw [hwm, sourceFirst_eq_sourceLast x.gvfs hns] at hs
    unfold CliOpts.sumEnv SrcEnv.withWild
    exact hs

section
variable (env : SrcEnv) (hnil : env.wildcard = [])
include hnil

theorem sumSources_sources (p : PRec) (s : SrcSet) (h : sumSources env p = .ok s) :
    env.Sources s := by
  obtain ⟨infos, i, is, h₁, h₂, rfl⟩ := sumSources_ok_iff.mp h
  rw [headerInfos_eq_mapM] at h₁
  obtain ⟨e, _, he⟩ := mapM_ok_mem h₁ i.2 (sortInfos_head h₂).1
  obtain ⟨s, hs, e'⟩ := entryInfo_sources he
  rw [e', hnil]
  exact hs

variable (wm : List (SrcSet × SrcSet)) (hwm : wmIdent wm) (hld : env.order.levelsDistinct = true)
include hwm hld

theorem sumSources_wild {p : PRec} {s s' : SrcSet}
    (h' : sumSources (env.withWild wm) p = .ok s') (h : sumSources env p = .ok s) :
    sameSet s' s = true ∧ s'.Nodup := by
  obtain ⟨infos', i', is', h₁', h₂', rfl⟩ := sumSources_ok_iff.mp h'
  obtain ⟨infos, i, is, h₁, h₂, rfl⟩ := sumSources_ok_iff.mp h
  obtain ⟨m', e'⟩ := sortInfos_head h₂'
  refine ⟨?_, headerInfos_nodup _ (wildNodup_of_ident wm hwm) _ _ h₁' _ m'⟩
  rw [headerInfos_eq_mapM] at h₁ h₁'
  -- entry by entry the two source sets are the same set, so the `to_int` images agree
  have hrel : infos'.map (toInt env.order ·.2) = infos.map (toInt env.order ·.2) :=
    mapM_ok_rel (fun e _ j' j hj' hj => toInt_congr _ <| by
      rw [entryInfo_wild env hnil wm e j' j hj' hj]
      exact applyWildcard_ident wm hwm j.2) h₁' h₁
  -- hence so do the heads of the two sorts, and distinct levels make `to_int` injective
  have hk := sortInfos_keys_eq h₂ h₂' (.of_eq hrel)
  exact toInt_inj _ _ _ _ (injOn_of_levelsDistinct _ hld _) e'
    ((sortInfos_head h₂).2.trans (congrArg some (List.cons.inj hk).1.symm))

/-- `summary_eq_split` (Props/C18) on the models `split` and `summarize`: `env` has no wildcard map
(`hnil`), distinct levels (`hld`) and no wildcard key; `split` runs with a wildcard map `wm` that
sends every set to itself (`hwm`). -/
theorem split_eq_summarize (hnw : env.order.noWildKeys = true) (mg : Int) (addl : List SrcSet)
    (rule : Re) (exc : Option Re) (pool : List PRec) (dbs : Dbs) (t : SumTable)
    (hs : split { env := env.withWild wm, maxGroups := mg, additional := addl } pool = .ok dbs)
    (ht : summarize env rule exc pool = .ok t) :
    ∃ ks : List (SrcSet × Nat), sumKeys env rule exc pool = .ok ks ∧
      (∀ s, t.count s = (ks.filter fun y => sameSet y.1 s).length) ∧
      (∀ k, (dbGet dbs k).length =
        (ks.filter fun y => chooseKey ⟨env, mg, addl⟩ y.1 = k).length) ∧
      (∀ s : SrcSet, s.Nodup → (∀ y ∈ s, env.order.has (.one y) = true) → (s.length : Int) ≤ mg →
        chooseKey ⟨env, mg, addl⟩ s = .sources (setStr env.order s).1 "" ∧
        t.count s = (dbGet dbs (.sources (setStr env.order s).1 "")).length) := by
  obtain ⟨ks, hk, rfl⟩ := summarize_ok ht
  obtain ⟨as, ha, _, hdb, _⟩ := split_ok hs
  have hk' := sumKeys_eq_mapM env rule exc pool ▸ hk
  have inv : ∀ {p : PRec} {x : SrcSet × Nat},
      ((sumSources env p).map fun s => (s, (cleaveSites rule exc p.seq).length)) = .ok x →
      sumSources env p = .ok x.1 := fun {p x} e => by
    cases hs : sumSources env p with
    | error _ => rw [hs] at e; cases e
    | ok s => rw [hs] at e; cases e; rfl
  have hwf : ∀ x ∈ ks, env.Sources x.1 := fun x hx => by
    obtain ⟨p, _, e⟩ := mapM_ok_mem hk' x hx
    exact sumSources_sources env hnil p _ (inv e)
  -- peptide by peptide, the key of the assignment is the key of the set counted
  have hkeys : as.map (·.1) = ks.map fun x => chooseKey ⟨env, mg, addl⟩ x.1 :=
    mapM_ok_rel (fun p _ a x ha hx => by
      obtain ⟨s', hs', hk⟩ := splitPep_key (k := a.1) (q := a.2) ha
      obtain ⟨hsame, hnd⟩ := sumSources_wild env hnil wm hwm hld hs' (inv hx)
      exact hk.trans (chooseKey_congr _ hsame hnd (sumSources_sources env hnil p _ (inv hx)).1))
      ha hk'
  have hcount : ∀ s, SumTable.count (ks.foldl (fun t k => sumAdd t k.1 k.2) []) s =
      (ks.filter fun y => sameSet y.1 s).length := fun s =>
    (count_foldl ks s []).trans (Nat.zero_add _)
  have hsize : ∀ k, (dbGet dbs k).length =
      (ks.filter fun y => chooseKey ⟨env, mg, addl⟩ y.1 = k).length := fun k => by
    rw [hdb k, List.length_map, ← List.countP_eq_length_filter, ← List.countP_eq_length_filter]
    exact List.countP_map.symm.trans ((congrArg (List.countP (· = k)) hkeys).trans List.countP_map)
  refine ⟨ks, hk, hcount, hsize, fun s hnd hkeys' hfit => ?_⟩
  have hfitk := chooseKey_fit ⟨env, mg, addl⟩ hnw s hkeys' hfit
  refine ⟨hfitk, ?_⟩
  rw [hcount s, ← hfitk, hsize]
  -- a peptide's set is `s` exactly when its key is the key of `s`
  congr 1
  refine List.filter_congr fun y hy => Bool.eq_iff_iff.mpr ?_
  rw [decide_eq_true_iff]
  exact (chooseKey_eq_iff ⟨env, mg, addl⟩ hnw ⟨hnd, hkeys'⟩ (hwf y hy) hfit).symm

end

end MoPepGen
