/-
The `while variant:` loop of `create_variant_graph` (`Model/Tvg.lean`, `cvgLoop`) and its
`active_frames` argument: the loop only issues `apply_variant` calls whose preconditions hold,
skips no record, and a frame a path can be in carries every later record.

Ghost state: `since m` = the start of the record at which frame `m` became active (0 for the
frames active from the start).  Loop invariant `LiveInv`: an active frame `m` carries every
record of the graph that starts behind `since m`; a `variant_end` edge out of such a record's
variant node in frame `m` leads into an active frame that was activated at or before that record.
With the records in ascending order of start (`pySorted_asc`) the invariant survives every
iteration, and at the end it gives `attached g f h` for every frame `f` active from the start
and every strictly separated list `h` of records of the graph.
-/
import MoPepGen.Lemmas.TvgLoop
import MoPepGen.Lemmas.TvgLang
namespace MoPepGen.Tvg
open MoPepGen MoPepGen.Spec

/-- `active_frames[m]` -/
abbrev isActive (A : List Bool) (m : Nat) : Prop := A.getD m false = true

theorem isActive_lt {A : List Bool} {m : Nat} (h : isActive A m) : m < A.length := by
  rcases Nat.lt_or_ge m A.length with hlt | hge
  · exact hlt
  · simp [isActive, List.getD_eq_getElem?_getD, List.getElem?_eq_none hge] at h

/-- the loop invariant about frames and records (see the header) -/
structure LiveInv (g : TState) (A : List Bool) (since : Nat → Nat) (l : List Rec) : Prop where
  len : A.length = 3
  carry : ∀ m, isActive A m → ∀ k m0 r, IsVar g k m0 r → since m < r.start →
    carries g m r.toVar = true
  bridge : ∀ e ∈ g.edges, ∀ m r, IsVar g e.src m r → isActive A m → since m < r.start →
    isActive A (nodeFrame g e.dst) ∧ since (nodeFrame g e.dst) ≤ r.start
  sinceLe : ∀ m, isActive A m → ∀ w ∈ l, since m ≤ w.start
  varLe : ∀ k m r, IsVar g k m r → ∀ w ∈ l, r.start ≤ w.start

/-- the activation loop of `create_variant_graph`, for every `active_frames` and both shifts: no
frame is deactivated, and the frame a bridge from an active frame leads to is active afterwards -/
theorem activate_table : ∀ a b c : Bool, ∀ shift, shift < 3 → shift ≠ 0 →
    (activate [a, b, c] shift).length = 3 ∧
      ∀ m, m < 3 → isActive [a, b, c] m →
        isActive (activate [a, b, c] shift) m ∧ isActive (activate [a, b, c] shift) ((m + shift) % 3) := by
  decide +kernel

/-- `active_frames` while record `v` is applied -/
theorem activeFor_spec {A A' : List Bool} (hA : A.length = 3) {t : List Char} {v : Rec} (hv : RecOk t v)
    (h : (if isFrameshifting v = true then activate A (framesShifted v) else A) = A') :
    A'.length = 3 ∧ (∀ m, m < 3 → isActive A m → isActive A' m) ∧
      (isFrameshifting v = true → ∀ m, m < 3 → isActive A m →
        isActive A' ((m + framesShifted v) % 3)) := by
  subst h
  by_cases hfs : isFrameshifting v = true
  · rw [if_pos hfs]
    match A, hA with
    | [a, b, c], _ =>
      obtain ⟨h1, h2⟩ := activate_table a b c _ (framesShifted_lt v) (framesShifted_ne_zero hv hfs)
      exact ⟨h1, fun m hm ha => (h2 m hm ha).1, fun _ m hm ha => (h2 m hm ha).2⟩
  · rw [if_neg hfs]
    exact ⟨hA, fun _ _ h => h, fun h => absurd h hfs⟩

theorem active_of_since_lt {A : List Bool} {since : Nat → Nat} {m x y : Nat}
    (h : (if A.getD m false then since m else x) < y) (hyx : y ≤ x) :
    isActive A m ∧ since m < y := by
  by_cases ha : A.getD m false = true
  · rw [if_pos ha] at h
    exact ⟨ha, h⟩
  · rw [if_neg ha] at h
    exact absurd h (Nat.not_lt.mpr hyx)

/-- activating frames at record `v` (the head of the remaining list) keeps the invariant; the
newly active frames are active "since `v.start`" -/
theorem live_activate {g : TState} {A A' : List Bool} {since : Nat → Nat} {v : Rec} {rest : List Rec}
    (hL : LiveInv g A since (v :: rest)) (hasc : AscBy (·.start) (v :: rest))
    (hlen : A'.length = 3) (hmono : ∀ m, m < 3 → isActive A m → isActive A' m) :
    LiveInv g A' (fun m => if A.getD m false then since m else v.start) (v :: rest) := by
  have hvle : ∀ k m r, IsVar g k m r → r.start ≤ v.start := fun k m r hk =>
    hL.varLe k m r hk v List.mem_cons_self
  refine ⟨hlen, ?_, ?_, ?_, hL.varLe⟩
  · intro m hm k m0 r hk hs
    obtain ⟨ha, hs⟩ := active_of_since_lt hs (hvle k m0 r hk)
    exact hL.carry m ha k m0 r hk hs
  · intro e he m r hk hm hs
    obtain ⟨ha, hs⟩ := active_of_since_lt hs (hvle _ m r hk)
    obtain ⟨h1, h2⟩ := hL.bridge e he m r hk ha hs
    exact ⟨hmono _ (hL.len ▸ isActive_lt h1) h1, by rwa [if_pos h1]⟩
  · intro m hm w hw
    by_cases ha : A.getD m false = true
    · rw [if_pos ha]
      exact hL.sinceLe m ha w hw
    · rw [if_neg ha]
      rcases List.mem_cons.mp hw with rfl | hw
      · exact Nat.le_refl _
      · exact (List.pairwise_cons.mp hasc).1 w hw

/-- the invariant while record `v` is being applied frame by frame (`is` = the frames still to
be visited); `g0` = the graph before the first application -/
structure MidInv (g0 g : TState) (A : List Bool) (since : Nat → Nat) (v : Rec) (is : List Nat) : Prop where
  carryOld : ∀ m, isActive A m → ∀ k m0 r, IsVar g0 k m0 r → since m < r.start →
    carries g m r.toVar = true
  carryNew : ∀ m, m < 3 → isActive A m → m ∉ is → carries g m v.toVar = true
  vars : ∀ k m r, IsVar g k m r → IsVar g0 k m r ∨ r = v
  mono : ∀ k m r, IsVar g0 k m r → IsVar g k m r
  bridge : ∀ e ∈ g.edges, ∀ m r, IsVar g e.src m r → isActive A m → since m < r.start →
    isActive A (nodeFrame g e.dst) ∧ since (nodeFrame g e.dst) ≤ r.start

theorem midInv_start {g : TState} {A : List Bool} {since : Nat → Nat} {v : Rec} {rest : List Rec}
    (hL : LiveInv g A since (v :: rest)) : MidInv g g A since v [0, 1, 2] := by
  refine ⟨hL.carry, ?_, fun k m r h => Or.inl h, fun k m r h => h, hL.bridge⟩
  intro m hm _ hn
  have : m = 0 ∨ m = 1 ∨ m = 2 := by omega
  rcases this with rfl | rfl | rfl <;> simp at hn

theorem midInv_finish {g0 g : TState} {A : List Bool} {since : Nat → Nat} {v : Rec} {rest : List Rec}
    (hL : LiveInv g0 A since (v :: rest)) (hasc : AscBy (·.start) (v :: rest))
    (hM : MidInv g0 g A since v []) : LiveInv g A since rest := by
  refine ⟨hL.len, ?_, hM.bridge, fun m hm w hw => hL.sinceLe m hm w (List.mem_cons_of_mem _ hw), ?_⟩
  · intro m hm k m0 r hk hs
    rcases hM.vars k m0 r hk with h | rfl
    · exact hM.carryOld m hm k m0 r h hs
    · exact hM.carryNew m (hL.len ▸ isActive_lt hm) hm (fun h => by cases h)
  · intro k m r hk w hw
    rcases hM.vars k m r hk with h | rfl
    · exact hL.varLe k m r h w (List.mem_cons_of_mem _ hw)
    · exact (List.pairwise_cons.mp hasc).1 w hw

/-- frame `i` is not active: nothing is applied -/
theorem midInv_skip {g0 g : TState} {A : List Bool} {since : Nat → Nat} {v : Rec} {i : Nat} {is : List Nat}
    (hi : ¬ isActive A i) (hM : MidInv g0 g A since v (i :: is)) : MidInv g0 g A since v is := by
  refine ⟨hM.carryOld, ?_, hM.vars, hM.mono, hM.bridge⟩
  intro m hm3 hm hn
  apply hM.carryNew m hm3 hm
  intro hmem
  rcases List.mem_cons.mp hmem with rfl | hmem
  · exact hi hm
  · exact hn hmem

/-- one `apply_variant(cursors[i], cursors[j], v)` -/
theorem midInv_step {t : List Char} {g0 g g1 : TState} {A : List Bool} {since : Nat → Nat} {v : Rec}
    {i j : Nat} {is : List Nat} (hD : Mid t g g1 i j v)
    (hb : isActive A i → since i < v.start → isActive A j ∧ since j ≤ v.start)
    (hM : MidInv g0 g A since v (i :: is)) : MidInv g0 g1 A since v is := by
  have hmono : ∀ m w, carries g m w = true → carries g1 m w = true := by
    intro m w h
    obtain ⟨k, r, hk, hr⟩ := carries_iff.mp h
    exact carries_iff.mpr ⟨k, r, hD.isVar.mpr (Or.inl hk), hr⟩
  refine ⟨fun m hm k m0 r hk hs => hmono _ _ (hM.carryOld m hm k m0 r hk hs), ?_, ?_,
    fun k m r h => hD.isVar.mpr (Or.inl (hM.mono k m r h)), ?_⟩
  · intro m hm3 hm hn
    by_cases hmi : m = i
    · subst hmi
      exact carries_iff.mpr ⟨_, v, hD.newVar, rfl⟩
    · exact hmono _ _ (hM.carryNew m hm3 hm (by simp [hmi, hn]))
  · intro k m r hk
    rcases hD.isVar.mp hk with h | ⟨_, _, h⟩
    · exact hM.vars k m r h
    · exact Or.inr h
  · intro e he m r hk hm hs
    rcases hD.out e he m r hk with ⟨h1, h2, h3⟩ | ⟨h1, h2⟩
    · rw [h3]
      exact hM.bridge e h2 m r h1 hm hs
    · rcases hD.isVar.mp hk with h | ⟨_, rfl, rfl⟩
      · exact absurd h.lt (h1 ▸ Nat.lt_irrefl _)
      · rw [h2]
        exact hb hm hs

theorem LiveInv.tail {g : TState} {A : List Bool} {since : Nat → Nat} {v : Rec} {rest : List Rec}
    (h : LiveInv g A since (v :: rest)) : LiveInv g A since rest :=
  ⟨h.len, h.carry, h.bridge, fun m hm w hw => h.sinceLe m hm w (by simp [hw]),
    fun k m r hk w hw => h.varLe k m r hk w (by simp [hw])⟩

theorem LiveInv.nil {g : TState} {A : List Bool} {since : Nat → Nat} {l : List Rec}
    (h : LiveInv g A since l) : LiveInv g A since [] :=
  ⟨h.len, h.carry, h.bridge, fun _ _ w hw => by simp at hw, fun _ _ _ _ w hw => by simp at hw⟩

/-- what the loop guarantees about the final graph `g'`, started in state `st` with the records
`l` still to come -/
structure LoopRes (st : LoopSt) (since : Nat → Nat) (l : List Rec) (g' : TState) : Prop where
  live : ∃ A' since', LiveInv g' A' since' [] ∧
    ∀ m, m < 3 → isActive st.active m → isActive A' m ∧ since' m = since m
  /-- no record is skipped: every record still to come has a variant node in the end -/
  applied : ∀ r ∈ l, r.toVar ∈ varPool g'
  keep : ∀ k m r, IsVar st.g k m r → IsVar g' k m r
  /-- … and nothing else gets one -/
  only : ∀ k m r, IsVar g' k m r → IsVar st.g k m r ∨ r ∈ l

/-- the guarantee for a later state `st1` of the loop, read from an earlier state `st` -/
theorem LoopRes.of_later {st st1 : LoopSt} {since since1 : Nat → Nat} {l l1 : List Rec} {g' : TState}
    (hres : LoopRes st1 since1 l1 g')
    (hact : ∀ m, m < 3 → isActive st.active m → isActive st1.active m ∧ since1 m = since m)
    (hkeep : ∀ k m r, IsVar st.g k m r → IsVar st1.g k m r)
    (honly : ∀ k m r, IsVar st1.g k m r → IsVar st.g k m r ∨ r ∈ l)
    (hl : ∀ r ∈ l, r ∈ l1 ∨ ∃ k m r', IsVar st1.g k m r' ∧ r'.toVar = r.toVar) (hl1 : ∀ r ∈ l1, r ∈ l) :
    LoopRes st since l g' := by
  obtain ⟨A'', since'', hfin, hlive⟩ := hres.live
  refine ⟨⟨A'', since'', hfin, fun m hm3 hm => ?_⟩, ?_, fun k m r hk => hres.keep k m r (hkeep k m r hk),
    ?_⟩
  · obtain ⟨h1, h2⟩ := hact m hm3 hm
    exact ⟨(hlive m hm3 h1).1, (hlive m hm3 h1).2.trans h2⟩
  · intro r hr
    rcases hl r hr with h | ⟨k, m, r', hk, hr'⟩
    · exact hres.applied r h
    · exact hr' ▸ mem_varPool (hres.keep k m r' hk)
  · intro k m r hk
    rcases hres.only k m r hk with h | h
    · exact honly k m r h
    · exact Or.inr (hl1 r h)

/-- **the cursor loop only issues `apply_variant` calls whose preconditions hold, keeps `LiveInv`
and applies every record**: with the records in ascending order of start no cursor ever starts
behind a record (`anyCursorBehind` is never true) and no cursor runs off the end before the last
record -/
theorem cvgLoop_spec {t : List Char} (h3 : 3 ≤ t.length) :
    ∀ (fuel : Nat) (l : List Rec) (st : LoopSt) (g' : TState) (since : Nat → Nat),
      (∀ v ∈ l, RecOk t v) → AscBy (·.start) l → Reach t st.g →
      (∀ w ∈ l, Curs st.g st.cursors w.start []) →
      LiveInv st.g st.active since l → (∃ m, m < 3 ∧ isActive st.active m) →
      cvgLoop fuel l st = .ok g' → Reach t g' ∧ LoopRes st since l g' := by
  intro fuel
  induction fuel with
  | zero => intro l st g' since _ _ _ _ _ _ h; cases l <;> cases h
  | succ n ih =>
    intro l st g' since hl hasc hR hCle hLv hsome h
    cases l with
    | nil =>
      cases h
      exact ⟨hR, ⟨_, _, hLv, fun m _ hm => ⟨hm, rfl⟩⟩, fun r hr => (by cases hr), fun _ _ _ h => h,
        fun _ _ _ h => Or.inl h⟩
    | cons v rest =>
      have hv := hl v List.mem_cons_self
      have hrest : ∀ w ∈ rest, RecOk t w := fun w hw => hl w (List.mem_cons_of_mem _ hw)
      obtain ⟨hvw, hascr⟩ := List.pairwise_cons.mp hasc
      have hle := hCle v List.mem_cons_self
      simp only [cvgLoop] at h
      -- `if not any(cursors): break` — impossible: cursor 0 is a node
      have hall : ¬ st.cursors.all (·.isNone) = true := by
        intro hall
        obtain ⟨c, _, _, hc, _⟩ := hle.2 0 (by decide)
        cases List.all_eq_true.mp hall (some c) (List.mem_of_getElem? hc)
      rw [if_neg hall] at h
      obtain ⟨behind, hb, h⟩ := tvg_bind_ok.mp h
      cases behind with
      | true =>
        -- a cursor behind the record — impossible: every cursor starts at or before it
        obtain ⟨m, c, f, a, b, h1, h2, h3⟩ := (anyCursorBehind_ok _ hb).1 rfl
        have hm3 : m < 3 := hle.1 ▸ (List.getElem?_eq_some_iff.mp h1).1
        obtain ⟨c', a', b', k1, k2, k3, _⟩ := hle.2 m hm3
        rw [h1] at k1
        cases k1
        exact absurd h3 (Nat.not_lt.mpr ((h2.inj k2).2.1 ▸ k3))
      | false =>
        simp only [Bool.false_eq_true, if_false] at h
        -- the frames active for this record, `since` when
        generalize hA' : (if isFrameshifting v = true then activate st.active (framesShifted v)
          else st.active) = A' at h
        obtain ⟨hA'len, hA'mono, hA'br⟩ := activeFor_spec hLv.len hv hA'
        have hLv' := live_activate hLv hasc hA'len hA'mono
        generalize hsince' : (fun m => if st.active.getD m false then since m else v.start) = since'
          at hLv'
        have hsome' : ∃ m, m < 3 ∧ isActive A' m := hsome.imp fun m hm => ⟨hm.1, hA'mono m hm.1 hm.2⟩
        have hact : ∀ m, m < 3 → isActive st.active m → isActive A' m ∧ since' m = since m :=
          fun m hm3 hm => ⟨hA'mono m hm3 hm, by rw [← hsince']; exact if_pos hm⟩
        have hsv : ∀ m, isActive A' m → since' m ≤ v.start :=
          fun m hm => hLv'.sinceLe m hm v List.mem_cons_self
        obtain ⟨⟨cs', ex⟩, he, h⟩ := tvg_bind_ok.mp h
        obtain ⟨hI, _⟩ := reach_inv h3 hR
        cases ex with
        | true =>
          have hle' := expireCursors_curs hI ⟨hv.2.1, hv.2.2.1⟩ hle he
          obtain ⟨hR', hres⟩ := ih (v :: rest) ⟨st.g, cs', A'⟩ g' since' hl hasc hR
            (fun w hw => by
              rcases List.mem_cons.mp hw with rfl | hw
              · exact hle'
              · exact hle'.mono (hvw w hw)) hLv' hsome' h
          exact ⟨hR', hres.of_later hact (fun _ _ _ h => h) (fun _ _ _ h => Or.inl h) (fun _ h => Or.inl h)
            (fun _ h => h)⟩
        | false =>
          simp only [Bool.false_eq_true, if_false] at h
          obtain ⟨rfl, hsrc⟩ := curs_of_checks hle he
          -- after the applications, whichever branch made them
          suffices hfinish : ∀ g1 cs1, Reach t g1 ∧ Curs g1 cs1 v.start [] ∧ MidInv st.g g1 A' since' v [] →
              cvgLoop n rest { g := g1, cursors := cs1, active := A' } = .ok g' →
              Reach t g' ∧ LoopRes st since (v :: rest) g' by
            by_cases hfs : isFrameshifting v = true
            · -- frameshifting record: bridges between the frames
              rw [if_pos hfs] at h
              obtain ⟨⟨g1, cs1⟩, hap, h⟩ := tvg_bind_ok.mp h
              refine hfinish g1 cs1 (applyShift_ind h3 hv _ (framesShifted_lt v)
                (framesShifted_ne_zero hv hfs) A' (MidInv st.g · A' since' v ·)
                (fun _ _ _ => midInv_skip) (fun g g1 i is hi hM => midInv_step hM fun _ hs => ?_)
                [0, 1, 2] st.g _ g1 cs1 hR hsrc (by decide) (by decide) (midInv_start hLv') hap) h
              -- an active frame that was active before `v` bridges into an active frame
              rw [← hsince'] at hs
              have hold := (active_of_since_lt hs (Nat.le_refl _)).1
              have hi3 : i < 3 := hLv.len ▸ isActive_lt hold
              exact ⟨hA'br hfs i hi3 hold, hsv _ (hA'br hfs i hi3 hold)⟩
            · rw [if_neg hfs] at h
              obtain ⟨⟨g1, cs1⟩, hap, h⟩ := tvg_bind_ok.mp h
              exact hfinish g1 cs1 (applyInFrame_ind h3 hv A' (MidInv st.g · A' since' v ·)
                (fun _ _ _ => midInv_skip) (fun g g1 i is hi hM => midInv_step hM fun _ _ => ⟨hi, hsv i hi⟩)
                [0, 1, 2] st.g _ g1 cs1 hR hsrc (by decide) (by decide) (midInv_start hLv') hap) h
          intro g1 cs1 ⟨hR1, hC1, hM1⟩ h
          obtain ⟨hR', hres⟩ := ih rest ⟨g1, cs1, A'⟩ g' since' hrest hascr hR1
            (fun w hw => hC1.mono (hvw w hw)) (midInv_finish hLv' hasc hM1) hsome' h
          refine ⟨hR', hres.of_later hact hM1.mono ?_ ?_ (fun _ h => List.mem_cons_of_mem _ h)⟩
          · intro k m r hk
            rcases hM1.vars k m r hk with h2 | rfl
            · exact Or.inl h2
            · exact Or.inr List.mem_cons_self
          · intro r hr
            rcases List.mem_cons.mp hr with rfl | hr
            · obtain ⟨m, hm3, hm⟩ := hsome'
              obtain ⟨k, r', hk, hr'⟩ := carries_iff.mp (hM1.carryNew m hm3 hm (fun h => by cases h))
              exact Or.inr ⟨k, m, r', hk, hr'⟩
            · exact Or.inl hr

theorem initialActive_spec {inp : TvgIn} {A0 : List Bool} (h : initialActive inp = .ok A0) :
    A0.length = 3 ∧ ∃ m, m < 3 ∧ isActive A0 m := by
  unfold initialActive at h
  split at h
  · split at h
    · rename_i s e _
      cases h
      refine ⟨by simp, s % 3, Nat.mod_lt _ (by decide), ?_⟩
      have : s % 3 = 0 ∨ s % 3 = 1 ∨ s % 3 = 2 := by omega
      rcases this with h | h | h <;> simp [isActive, h]
    · cases h
  · cases h
    exact ⟨rfl, 0, by decide, rfl⟩

theorem variantsWithMnv_asc {inp : TvgIn} {vs l : List Rec} (h : variantsWithMnv inp vs = .ok l) :
    AscBy (·.start) l := by
  unfold variantsWithMnv at h
  obtain ⟨_, _, h⟩ := tvg_bind_ok.mp h
  obtain ⟨_, _, h⟩ := tvg_bind_ok.mp h
  obtain ⟨_, _, h⟩ := tvg_bind_ok.mp h
  exact pySorted_asc recLt_agrees h

/-- **the graph `create_variant_graph` returns is `Reach`able and satisfies `LiveInv`** with every
frame that was active from the start still active "since position 0", and its variant nodes carry
exactly the records the loop walked over (`variantsWithMnv`: filter, merged MNVs, `sorted`) -/
theorem createVariantGraph_live {inp : TvgIn} {vs : List Rec} {g : TState}
    (h3 : 3 ≤ inp.seq.length) (hvs : ∀ v ∈ vs, InOk inp.seq v)
    (h : createVariantGraph inp vs = .ok g) :
    Reach inp.seq g ∧ ∃ A0 A' since' l, initialActive inp = .ok A0 ∧ variantsWithMnv inp vs = .ok l ∧
      LiveInv g A' since' [] ∧ (∀ m, m < 3 → isActive A0 m → isActive A' m ∧ since' m = 0) ∧
      (∀ x, x ∈ varPool g ↔ ∃ r ∈ l, r.toVar = x) := by
  obtain ⟨l, act, hl, hact, h⟩ := createVariantGraph_loop h
  have hnv := @initThreeFrames_noVar inp.seq
  have hlok := variantsWithMnv_ok hvs hl
  obtain ⟨hR, hres⟩ := cvgLoop_spec h3 _ l ⟨initThreeFrames inp.seq, [some 4, some 5, some 6], act⟩ g
    (fun _ => 0) hlok (variantsWithMnv_asc hl) Reach.init (fun w hw => curs_init _ (hlok w hw).1)
    ⟨(initialActive_spec hact).1, fun _ _ _ _ _ hk => (hnv hk).elim, fun _ _ _ _ hk => (hnv hk).elim,
      fun _ _ _ _ => Nat.zero_le _, fun _ _ _ hk => (hnv hk).elim⟩ (initialActive_spec hact).2 h
  obtain ⟨A', since', hfin, hkeep⟩ := hres.live
  refine ⟨hR, act, A', since', l, hact, hl, hfin, hkeep, fun x => ⟨fun hx => ?_, ?_⟩⟩
  · obtain ⟨k, m, r, hk, hr⟩ := mem_varPool_iff.mp hx
    exact ⟨r, (hres.only k m r hk).resolve_left hnv, hr⟩
  · rintro ⟨r, hr, rfl⟩
    exact hres.applied r hr

/-- **`create_variant_graph` builds a `Reach`able graph**: its loop only issues `apply_variant`
calls whose preconditions hold -/
theorem createVariantGraph_reach_of_inOk {inp : TvgIn} {vs : List Rec} {g : TState}
    (h3 : 3 ≤ inp.seq.length) (hvs : ∀ v ∈ vs, InOk inp.seq v)
    (h : createVariantGraph inp vs = .ok g) : Reach inp.seq g :=
  (createVariantGraph_live h3 hvs h).1

/-- **every frame that is active from the start carries every compatible combination**: in the
graph `create_variant_graph` returns, every strictly separated list of records that have a variant
node is attached from such a frame on -/
theorem createVariantGraph_attached {inp : TvgIn} {vs : List Rec} {g : TState}
    (h3 : 3 ≤ inp.seq.length) (hvs : ∀ v ∈ vs, InOk inp.seq v)
    (h : createVariantGraph inp vs = .ok g) {A0 : List Bool} (hA0 : initialActive inp = .ok A0)
    {f : Nat} (hf : isActive A0 f) {hs : List Var} (hpool : ∀ v ∈ hs, v ∈ varPool g)
    (hsep : separated hs = true) : attached g f hs = true := by
  obtain ⟨hR, A0', A', since', _, hA0', _, hLv, hkeep, _⟩ := createVariantGraph_live h3 hvs h
  obtain rfl : A0 = A0' := by rw [hA0] at hA0'; cases hA0'; rfl
  obtain ⟨hI, hL⟩ := reach_inv h3 hR
  obtain ⟨k1, k2⟩ := hkeep f ((initialActive_spec hA0).1 ▸ isActive_lt hf) hf
  refine attached_of_carrying hI hL (fun m x => isActive A' m ∧ since' m ≤ x)
    (fun m _ k f r hG hk hx => hLv.carry m hG.1 k f r hk (Nat.lt_of_le_of_lt hG.2 hx))
    (fun m _ e r hG he hk hx => hLv.bridge e he m r hk hG.1 (Nat.lt_of_le_of_lt hG.2 hx))
    hs f 0 ⟨k1, Nat.le_of_eq k2⟩ hpool hsep fun v hv => ?_
  obtain ⟨_, _, _, _, _, hv, _⟩ := pos_of_mem_varPool hI (hpool v (List.mem_of_mem_head? hv))
  exact Nat.lt_of_le_of_lt (Nat.zero_le _) hv

end MoPepGen.Tvg
