import MoPepGen.Lemmas.Gvf
/-! GVF files as lists of lines, the pointers `iterate_pointer` generates for them
(`file_pointers`, `openPool_generated`), and the `.idx` text.  The pointer loop is analysed for
any function `f` of the bytes a pointer slices that acts line by line on a run of record lines
(`iterPtrGo_spec`); `load_run` shows that `GVFPointer.__iter__` is one. -/
namespace MoPepGen.Gvf

theorem of_isLine {l : Str} (h : isLine l = true) : ∃ b, l = b ++ ['\n'] ∧ '\n' ∉ b := by
  rw [isLine, Bool.and_eq_true, beq_iff_eq, Bool.not_eq_true', contains_eq_false] at h
  obtain ⟨h1, h2⟩ := h
  obtain ⟨b, rfl⟩ := List.getLast?_eq_some_iff.mp h1
  rw [List.dropLast_concat] at h2
  exact ⟨b, rfl, h2⟩

theorem isLine_snoc {b : Str} (h : '\n' ∉ b) : isLine (b ++ ['\n']) = true := by
  rw [isLine, List.getLast?_concat, List.dropLast_concat, Bool.and_eq_true, Bool.not_eq_true',
    contains_eq_false]
  exact ⟨rfl, h⟩

theorem splitLinesKeep_nl (cs : Str) :
    splitLinesKeep ('\n' :: cs) = ['\n'] :: splitLinesKeep cs := by
  rw [splitLinesKeep, if_pos rfl]

theorem splitLinesKeep_line {b : Str} (rest : Str) (h : '\n' ∉ b) :
    splitLinesKeep (b ++ '\n' :: rest) = (b ++ ['\n']) :: splitLinesKeep rest := by
  induction b with
  | nil => exact splitLinesKeep_nl rest
  | cons x xs ih =>
    rw [List.mem_cons, not_or] at h
    rw [List.cons_append, splitLinesKeep, if_neg (Ne.symm h.1), ih h.2]
    rfl

theorem splitLinesKeep_flatten (ls : List Str) (h : ∀ l ∈ ls, isLine l = true) :
    splitLinesKeep ls.flatten = ls := by
  induction ls with
  | nil => rfl
  | cons l ls ih =>
    rw [List.forall_mem_cons] at h
    obtain ⟨b, rfl, hb⟩ := of_isLine h.1
    rw [List.flatten_cons, List.append_assoc, List.singleton_append, splitLinesKeep_line _ hb,
      ih h.2]

/-! ## the pointers generated for a file -/

theorem of_goodLine {keyOf : Str → Except Err Str} {l : Str} (h : goodLine keyOf l = true) :
    isLine l = true ∧ isComment l = false ∧ rstrip l ≠ [] ∧ ∃ k, keyOf l = .ok k := by
  simp only [goodLine, Bool.and_eq_true, Bool.not_eq_true', bne_iff_ne, ne_eq] at h
  obtain ⟨⟨⟨h1, h2⟩, h3⟩, h4⟩ := h
  refine ⟨h1, h2, h3, ?_⟩
  cases hk : keyOf l with
  | ok k => exact ⟨k, rfl⟩
  | error e => rw [hk] at h4; cases h4

theorem of_wf {keyOf : Str → Except Err Str} {f : GvfFile} (h : f.wf keyOf = true) :
    (∀ l ∈ f.header, isLine l = true ∧ isComment l = true) ∧
      (∀ l ∈ f.body, goodLine keyOf l = true) := by
  simpa only [GvfFile.wf, Bool.and_eq_true, List.all_eq_true] using h

/-- what `GVFPointer.__iter__` hands to the parser for the bytes of a run of lines is, up to
the `rstrip()` every parser applies first, the lines of the run -/
theorem load_run (run : List Str) (hne : run ≠ [])
    (h : ∀ l ∈ run, isLine l = true ∧ rstrip l ≠ []) :
    rstrip run.flatten ≠ [] ∧
      (splitOn '\n' (rstrip run.flatten)).map rstrip = run.map rstrip := by
  induction run with
  | nil => exact absurd rfl hne
  | cons l rest ih =>
    rw [List.forall_mem_cons] at h
    obtain ⟨b, rfl, hb⟩ := of_isLine h.1.1
    cases rest with
    | nil =>
      have hl := h.1.2
      rw [List.flatten_singleton]
      rw [rstrip_newline] at hl ⊢
      refine ⟨hl, ?_⟩
      rw [splitOn_of_not_mem (fun hm => hb (mem_of_mem_rstrip hm)), List.map_singleton,
        List.map_singleton, rstrip_idem, rstrip_newline]
    | cons m rest =>
      obtain ⟨hr, ih⟩ := ih (List.cons_ne_nil _ _) h.2
      rw [List.flatten_cons, rstrip_append_of_ne_nil hr, List.append_assoc, List.singleton_append,
        splitOn_append_sep _ hb, List.map_cons, ih, List.map_cons (a := b ++ ['\n']),
        rstrip_newline]
      exact ⟨List.append_ne_nil_of_right_ne_nil _ (List.cons_ne_nil _ _), rfl⟩

theorem iterPtrGo_header (keyOf : Str → Except Err Str) (body hdr : List Str) (n : Nat)
    (cur : Option Ptr) (h : ∀ l ∈ hdr, isComment l = true) :
    iterPtrGo keyOf (hdr ++ body) n cur = iterPtrGo keyOf body (n + hdr.flatten.length) cur := by
  induction hdr generalizing n with
  | nil => rfl
  | cons l hdr ih =>
    rw [List.forall_mem_cons] at h
    rw [List.cons_append, iterPtrGo, if_pos h.1, ih _ h.2, List.flatten_cons, List.length_append,
      Nat.add_assoc]

/-- every generated pointer has `start ≤ end` and carries the transcript id of some line -/
theorem iterPtrGo_inv (keyOf : Str → Except Err Str) (P : Str → Prop)
    (ls : List Str) (n : Nat) (cur : Option Ptr) (ptrs : List Ptr)
    (hl : ∀ l ∈ ls, ∀ k, keyOf l = .ok k → P k)
    (hc : ∀ p, cur = some p → P p.key ∧ p.start ≤ p.stop ∧ p.stop ≤ n)
    (h : iterPtrGo keyOf ls n cur = .ok ptrs) : ∀ p ∈ ptrs, P p.key ∧ p.start ≤ p.stop := by
  have hnew {key : Str} (hk : P key) (n len : Nat) : ∀ p, some (Ptr.mk key n (n + len)) = some p →
      P p.key ∧ p.start ≤ p.stop ∧ p.stop ≤ n + len := by
    intro p hp
    cases hp
    exact ⟨hk, Nat.le_add_right _ _, Nat.le_refl _⟩
  fun_induction iterPtrGo keyOf ls n cur generalizing ptrs with
  | case1 =>
    cases h
    exact fun _ hp => nomatch hp
  | case2 n q =>
    cases h
    exact List.forall_mem_singleton.mpr ⟨(hc q rfl).1, (hc q rfl).2.1⟩
  | case3 l ls n cur _ _ ih =>
    -- a comment line
    exact ih ptrs (List.forall_mem_cons.mp hl).2
      (fun p hp => ⟨(hc p hp).1, (hc p hp).2.1, Nat.le_add_right_of_le (hc p hp).2.2⟩) h
  | case4 => cases h
  | case5 l ls n _ _ _ key hk ih =>
    -- the first record line opens a pointer
    rw [List.forall_mem_cons] at hl
    exact ih ptrs hl.2 (hnew (hl.1 key hk) _ _) h
  | case6 l ls n _ _ q _ ih =>
    -- same transcript id: the pointer grows
    obtain ⟨hq1, hq2, hq3⟩ := hc q rfl
    refine ih ptrs (List.forall_mem_cons.mp hl).2 (fun p hp => ?_) h
    cases hp
    exact ⟨hq1, Nat.le_trans hq2 (Nat.le_add_right_of_le hq3), Nat.le_refl _⟩
  | case7 l ls n _ _ _ key hk q _ ps hr ih =>
    -- another transcript id: the pointer is emitted and a new one opened
    rw [List.forall_mem_cons] at hl
    cases h
    exact List.forall_mem_cons.mpr
      ⟨⟨(hc q rfl).1, (hc q rfl).2.1⟩, ih ps hl.2 (hnew (hl.1 key hk) _ _) hr⟩
  | case8 => cases h

theorem slice_mid (pre mid post : Str) (k : Str) :
    slice (pre ++ mid ++ post) ⟨k, pre.length, (pre ++ mid).length⟩ = mid := by
  rw [slice, List.append_assoc, List.drop_left, List.length_append, Nat.add_sub_cancel_left,
    List.take_left]

theorem keyIs_of_ok {keyOf : Str → Except Err Str} {l k k' : Str} (h : keyOf l = .ok k') :
    keyIs keyOf k l = decide (k' = k) := by
  rw [keyIs, h]

/-- what the pointer of a run of lines with transcript id `key` contributes to transcript `k` -/
theorem run_ptr {β : Type} {keyOf : Str → Except Err Str} {f : Str → List β} {g : Str → β}
    {run : List Str} (hf : f run.flatten = run.map g) {key : Str}
    (hrun : ∀ l ∈ run, keyOf l = .ok key) (pre post k : Str) :
    ([Ptr.mk key pre.length (pre ++ run.flatten).length].filter (·.key = k)).flatMap
        (fun p => f (slice (pre ++ run.flatten ++ post) p)) =
      (run.filter (keyIs keyOf k)).map g := by
  by_cases hk : key = k
  · rw [List.filter_cons_of_pos (by simpa using hk), List.filter_nil, List.flatMap_singleton,
      slice_mid, hf, List.filter_eq_self.mpr]
    intro l hl
    rw [keyIs_of_ok (hrun l hl), hk, decide_eq_true rfl]
  · rw [List.filter_cons_of_neg (by simpa using hk), List.filter_nil, List.flatMap_nil,
      List.filter_eq_nil_iff.mpr, List.map_nil]
    intro l hl
    rw [keyIs_of_ok (hrun l hl), decide_eq_false hk]
    exact Bool.false_ne_true

section
/- `f` is what is done with the bytes a pointer slices; on the bytes of a run of record lines
it acts line by line, as `g`. -/
variable {β : Type} (keyOf : Str → Except Err Str) (f : Str → List β) (g : Str → β)
  (hf : ∀ run : List Str, run ≠ [] → (∀ l ∈ run, goodLine keyOf l = true) →
    f run.flatten = run.map g)
include hf

/-- the pointer loop, started inside a run: every pointer slices exactly its run, so the
pointers of transcript `k` reach the lines of transcript `k`, in order -/
theorem iterPtrGo_spec (ls : List Str) (pre : Str) (run : List Str) (key : Str)
    (hls : ∀ l ∈ ls, goodLine keyOf l = true) (hg : ∀ l ∈ run, goodLine keyOf l = true)
    (hrun : ∀ l ∈ run, keyOf l = .ok key) (hne : run ≠ []) :
    ∃ ptrs, iterPtrGo keyOf ls (pre ++ run.flatten).length
        (some ⟨key, pre.length, (pre ++ run.flatten).length⟩) = .ok ptrs ∧
      ∀ k, (ptrs.filter (·.key = k)).flatMap
          (fun p => f (slice (pre ++ run.flatten ++ ls.flatten) p)) =
        ((run ++ ls).filter (keyIs keyOf k)).map g := by
  induction ls generalizing pre run key with
  | nil =>
    exact ⟨_, rfl, fun k => by rw [List.append_nil]; exact run_ptr (hf run hne hg) hrun pre _ k⟩
  | cons l ls ih =>
    rw [List.forall_mem_cons] at hls
    obtain ⟨_, hc, _, k', hk'⟩ := of_goodLine hls.1
    have hlen (a : Str) : (a ++ [l].flatten).length = a.length + l.length := by
      rw [List.flatten_singleton, List.length_append]
    rw [iterPtrGo, if_neg (Bool.eq_false_iff.mp hc), hk']
    dsimp only
    by_cases hkk : key = k'
    · -- the run continues
      obtain ⟨ptrs, hp, hq⟩ := ih pre (run ++ [l]) key hls.2
        (List.forall_mem_append.mpr ⟨hg, List.forall_mem_singleton.mpr hls.1⟩)
        (List.forall_mem_append.mpr ⟨hrun, List.forall_mem_singleton.mpr (hkk ▸ hk')⟩)
        (List.append_ne_nil_of_right_ne_nil _ (List.cons_ne_nil _ _))
      rw [List.flatten_append, ← List.append_assoc, hlen] at hp
      refine ⟨ptrs, by rw [if_pos hkk]; exact hp, fun k => ?_⟩
      simpa only [List.flatten_append, List.flatten_cons, List.flatten_nil, List.append_nil,
        List.append_assoc, List.cons_append, List.nil_append] using hq k
    · -- a new run starts: the old pointer is emitted
      obtain ⟨ptrs, hp, hq⟩ := ih (pre ++ run.flatten) [l] k' hls.2
        (List.forall_mem_singleton.mpr hls.1) (List.forall_mem_singleton.mpr hk')
        (List.cons_ne_nil _ _)
      rw [hlen] at hp
      rw [if_neg hkk, hp]
      refine ⟨_, rfl, fun k => ?_⟩
      have := hq k
      rw [List.flatten_singleton, List.append_assoc _ l] at this
      rw [List.filter_append (l₁ := run), List.map_append, ← List.singleton_append (l := ptrs),
        List.filter_append, List.flatMap_append, List.flatten_cons, run_ptr (hf run hne hg) hrun,
        this]
      rfl

theorem iterPtrGo_body (pre : Str) :
    ∀ ls : List Str, (∀ l ∈ ls, goodLine keyOf l = true) →
      ∃ ptrs, iterPtrGo keyOf ls pre.length none = .ok ptrs ∧
        ∀ k, (ptrs.filter (·.key = k)).flatMap (fun p => f (slice (pre ++ ls.flatten) p)) =
          (ls.filter (keyIs keyOf k)).map g
  | [], _ => ⟨[], rfl, fun _ => rfl⟩
  | l :: ls, h => by
    rw [List.forall_mem_cons] at h
    obtain ⟨_, hc, _, k', hk'⟩ := of_goodLine h.1
    obtain ⟨ptrs, hp, hq⟩ := iterPtrGo_spec keyOf f g hf ls pre [l] k' h.2
      (List.forall_mem_singleton.mpr h.1) (List.forall_mem_singleton.mpr hk') (List.cons_ne_nil _ _)
    rw [List.flatten_singleton, List.length_append] at hp
    refine ⟨ptrs, ?_, fun k => ?_⟩
    · rw [iterPtrGo, if_neg (Bool.eq_false_iff.mp hc), hk']
      exact hp
    · have := hq k
      rwa [List.flatten_singleton, List.append_assoc] at this

end

/-- per file: the generated pointers exist, the lines they reach for a transcript are the
body lines with that transcript id, in file order (up to the parsers' own `rstrip()`), and a
linear scan sees the body lines -/
theorem file_pointers {keyOf : Str → Except Err Str} (f : GvfFile) (hwf : f.wf keyOf = true) :
    ∃ ptrs, iteratePointer keyOf f.content = .ok ptrs ∧
      (∀ k, ((ptrs.filter (·.key = k)).flatMap (loadLines f.content)).map rstrip =
        (f.body.filter (keyIs keyOf k)).map rstrip) ∧
      scanLines f.content = f.body := by
  obtain ⟨hh, hb⟩ := of_wf hwf
  have hlines : splitLinesKeep f.content = f.header ++ f.body :=
    splitLinesKeep_flatten _ (List.forall_mem_append.mpr
      ⟨fun l hl => (hh l hl).1, fun l hl => (of_goodLine (hb l hl)).1⟩)
  obtain ⟨ptrs, hp, hq⟩ := iterPtrGo_body keyOf (fun s => (splitOn '\n' (rstrip s)).map rstrip)
    rstrip (fun run hne hg => (load_run run hne (fun l hl =>
      ⟨(of_goodLine (hg l hl)).1, (of_goodLine (hg l hl)).2.2.1⟩)).2) f.header.flatten f.body hb
  refine ⟨ptrs, ?_, fun k => ?_, ?_⟩
  · rw [iteratePointer, hlines, iterPtrGo_header keyOf f.body f.header 0 none
      (fun l hl => (hh l hl).2), Nat.zero_add]
    exact hp
  · rw [List.map_flatMap, GvfFile.content, List.flatten_append]
    exact hq k
  · rw [scanLines, hlines, List.filter_append,
      List.filter_eq_nil_iff.mpr (fun l hl => by rw [(hh l hl).2]; exact Bool.false_ne_true),
      List.filter_eq_self.mpr (fun l hl => by rw [(of_goodLine (hb l hl)).2.1]; rfl)]
    rfl

/-- pointers generated on open (no `.idx`): the pool of `files` reaches, per transcript, the
lines a linear scan of the files finds -/
theorem openPool_generated (H : Str → Str) (keyOf : Str → Except Err Str)
    (files : List GvfFile) (h : ∀ f ∈ files, f.wf keyOf = true) :
    ∃ pool, openPool H keyOf (files.map fun f => (f.content, none)) = .ok pool ∧
      ∀ k, (pool.lines k).map rstrip =
        (files.flatMap fun f => (scanLines f.content).filter (keyIs keyOf k)).map rstrip := by
  induction files with
  | nil => exact ⟨[], rfl, fun _ => rfl⟩
  | cons f fs ih =>
    rw [List.forall_mem_cons] at h
    obtain ⟨ptrs, hp, hq, hs⟩ := file_pointers f h.1
    obtain ⟨pool, ho, hr⟩ := ih h.2
    refine ⟨(f.content, ptrs) :: pool, ?_, fun k => ?_⟩
    · rw [List.map_cons, openPool, openFile, hp, ho]
    · rw [Pool.lines, List.flatMap_cons, List.flatMap_cons, List.map_append, List.map_append, hq k,
        hs, ← hr k, Pool.lines]

theorem Pool.records_eq {R : Type} (parse : Str → Except Err R) (pool : Pool) (k : Str) :
    pool.records parse k = mapE parse (pool.lines k) := by
  rw [Pool.records, Pool.lines, ← flatMapE_mapE]
  congr 1
  funext f
  exact flatMapE_mapE parse (loadLines f.1) _

/-! ## the `.idx` text -/

theorem of_sumOK {s : Str} (h : sumOK s = true) : '\n' ∉ s ∧ '=' ∉ s ∧ noTrailSpace s = true := by
  simpa only [sumOK, Bool.and_eq_true, Bool.not_eq_true', contains_eq_false, and_assoc] using h

theorem of_ptrOK {p : Ptr} (h : ptrOK p = true) :
    '\t' ∉ p.key ∧ '\n' ∉ p.key ∧ p.key.head? ≠ some '#' ∧ p.start ≤ p.stop := by
  simpa only [ptrOK, Bool.and_eq_true, Bool.not_eq_true', contains_eq_false, bne_iff_ne, ne_eq,
    decide_eq_true_eq, and_assoc] using h

/-- the first line of an `.idx`, without its newline -/
abbrev idxHead (sum : Str) : Str := ['#', ' '] ++ checksumPrefix ++ sum

theorem idx_head {sum : Str} (hs : sumOK sum = true) :
    '\n' ∉ idxHead sum ∧ isComment (idxHead sum ++ ['\n']) = true ∧
      ∀ rest, findChecksum ((idxHead sum ++ ['\n']) :: rest) = some sum := by
  obtain ⟨h1, h2, h3⟩ := of_sumOK hs
  have hc : isComment (idxHead sum ++ ['\n']) = true := rfl
  refine ⟨?_, hc, fun rest => ?_⟩
  · rw [List.mem_append, not_or]
    exact ⟨by decide +kernel, h1⟩
  · have hr : rstrip (idxHead sum) = idxHead sum :=
      rstrip_eq_self (noTrailSpace_cell ['#', ' ', 'C', 'H', 'E', 'C', 'K', 'S', 'U', 'M'] h3)
    have hl : lstripP (fun c => c = '#' || c = ' ') (idxHead sum) = checksumPrefix ++ sum := rfl
    rw [findChecksum, if_pos hc]
    dsimp only
    rw [rstrip_newline, hr, hl, startsWith,
      List.isPrefixOf_iff_prefix.mpr (List.prefix_append _ _), if_pos rfl]
    show (splitOn '=' (['C', 'H', 'E', 'C', 'K', 'S', 'U', 'M'] ++ '=' :: sum))[1]? = _
    rw [splitOn_append_sep _ (by decide +kernel), splitOn_of_not_mem h2]
    rfl

/-- the checksum recorded by `index_gvf` is the one `validate_gvf_index` finds -/
theorem findChecksum_writeIdx {sum : Str} (hs : sumOK sum = true) (ps : List Ptr) :
    findChecksum (splitLinesKeep (writeIdx sum ps)) = some sum := by
  rw [writeIdx, List.append_assoc, List.singleton_append, splitLinesKeep_line _ (idx_head hs).1]
  exact (idx_head hs).2.2 _

theorem findChecksum_eq_none {ls : List Str} (h : ∀ l ∈ ls,
    startsWith checksumPrefix (lstripP (fun c => c = '#' || c = ' ') (rstrip l)) = false) :
    findChecksum ls = none := by
  induction ls with
  | nil => rfl
  | cons l ls ih =>
    rw [List.forall_mem_cons] at h
    rw [findChecksum, ih h.2]
    dsimp only
    rw [h.1, if_neg Bool.false_ne_true, ite_self]

theorem isComment_toLine {p : Ptr} (h : p.key.head? ≠ some '#') :
    isComment (p.toLine ++ ['\n']) = false := by
  rw [Ptr.toLine]
  cases hk : p.key with
  | nil => rfl
  | cons x xs =>
    have hx : ('#' == x) = false := beq_false_of_ne (fun e => h (by rw [hk, ← e]; rfl))
    show ('#' == x && _) = false
    rw [hx]
    rfl

theorem parsePtrLine_toLine {p : Ptr} (h : ptrOK p = true) :
    parsePtrLine (p.toLine ++ ['\n']) = .ok p := by
  obtain ⟨h1, _, _, h4⟩ := of_ptrOK h
  have hn (n : Nat) : '\t' ∉ natToStr n := not_mem_intToStr (by decide) (by decide) n
  rw [parsePtrLine, rstrip_newline, Ptr.toLine,
    splitOn_rstrip_joinWith (last := natToStr (p.stop - p.start)) rfl (natToStr_ne_nil _)
      (noTrailSpace_intToStr (p.stop - p.start : Nat))
      (List.forall_mem_cons.mpr
        ⟨h1, List.forall_mem_cons.mpr ⟨hn _, List.forall_mem_singleton.mpr (hn _)⟩⟩)]
  dsimp only
  rw [parseInt_natToStr, parseInt_natToStr]
  dsimp only
  rw [Int.toNat_natCast, ← Int.natCast_add, Int.toNat_natCast, Nat.add_sub_cancel' h4]

theorem splitLinesKeep_writeIdx {sum : Str} (hs : sumOK sum = true) {ps : List Ptr}
    (hp : ∀ p ∈ ps, '\n' ∉ p.key) :
    splitLinesKeep (writeIdx sum ps) =
      (idxHead sum ++ ['\n']) :: ps.map fun p => p.toLine ++ ['\n'] := by
  have hn (n : Nat) : '\n' ∉ natToStr n := not_mem_intToStr (by decide) (by decide) n
  rw [writeIdx, ← List.flatten_cons]
  apply splitLinesKeep_flatten
  rw [List.forall_mem_cons]
  refine ⟨isLine_snoc (idx_head hs).1, List.forall_mem_map.mpr fun p hpm => ?_⟩
  exact isLine_snoc (not_mem_joinWith (by decide) (List.forall_mem_cons.mpr
    ⟨hp p hpm, List.forall_mem_cons.mpr ⟨hn _, List.forall_mem_singleton.mpr (hn _)⟩⟩))

end MoPepGen.Gvf
