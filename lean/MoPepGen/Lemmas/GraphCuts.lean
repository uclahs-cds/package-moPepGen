/-
Lemmas for Layer G, checkpoint CP4 (`Model/Graph.lean`: `boundaries`, `stopSegments`,
`requiredCuts`): the node boundaries of a path are cut positions of its list of node labels;
what a stop-delimited segment is; which positions `requiredCuts` contains; slices of slices.
Used by `Props.C01.cp4_covers_products`.
-/
import MoPepGen.Lemmas.Graph
import MoPepGen.Lemmas.Regex
namespace MoPepGen.Graph
open MoPepGen MoPepGen.Spec

theorem boundaries_go_subset_cuts (g : Graph) : ∀ (js : List Nat) (pos c : Nat),
    c ∈ boundaries.go g false pos js → ∃ d ∈ cuts (js.map (nodeSeq g)), c = d + pos := by
  intro js
  induction js with
  | nil => intro pos c h; simp [boundaries.go] at h
  | cons j js ih =>
    intro pos c h
    simp only [boundaries.go, Bool.not_false, Bool.true_or, if_true, List.singleton_append,
      List.mem_cons] at h
    rcases h with rfl | h
    · exact ⟨0, zero_mem_cuts _, by omega⟩
    · obtain ⟨d, hd, rfl⟩ := ih _ _ h
      exact ⟨d + (nodeSeq g j).length, mem_cuts_cons _ hd, by omega⟩

theorem boundaries_subset_cuts (g : Graph) (p : List Nat) (c : Nat)
    (h : c ∈ boundaries g false p) : c ∈ cuts (p.map (nodeSeq g)) := by
  cases p with
  | nil => simp [boundaries] at h
  | cons i rest =>
    simp only [boundaries] at h
    obtain ⟨d, hd, rfl⟩ := boundaries_go_subset_cuts g rest _ _ h
    exact mem_cuts_cons _ hd

theorem flatten_map_nodeSeq (g : Graph) (p : List Nat) :
    (p.map (nodeSeq g)).flatten = pathSeq g p := by
  simp [pathSeq, List.flatMap_def]

theorem slice_slice (w : List Char) (off n a b : Nat) (hb : b ≤ n) :
    slice (slice w off (off + n)) a b = slice w (off + a) (off + b) := by
  rw [slice, slice, slice, Nat.add_sub_cancel_left, List.drop_take, List.take_take, List.drop_drop,
    Nat.min_eq_left (Nat.sub_le_sub_right hb a), Nat.add_sub_add_left]

/-- the loop of `stopSegments` with its offset argument written as `pre.length`, `pre` the consumed
prefix: the induction needs the whole string `pre ++ cur.reverse ++ rest` -/
theorem stopSegments_go_spec : ∀ (rest pre cur : List Char) (o : Nat) (seg : List Char),
    (∀ c ∈ cur, c ≠ '*') → (o, seg) ∈ stopSegments.go pre.length cur rest →
    (∃ pre' post, pre ++ cur.reverse ++ rest = pre' ++ seg ++ post ∧ pre'.length = o) ∧
      ∀ c ∈ seg, c ≠ '*' := by
  intro rest
  induction rest with
  | nil =>
    intro pre cur o seg hcur h
    obtain ⟨rfl, rfl⟩ := Prod.mk.inj (List.mem_singleton.mp h)
    exact ⟨⟨pre, [], rfl, rfl⟩, fun c hc => hcur c (List.mem_reverse.mp hc)⟩
  | cons x xs ih =>
    intro pre cur o seg hcur h
    simp only [stopSegments.go] at h
    split at h
    · rcases List.mem_cons.mp h with h | h
      · obtain ⟨rfl, rfl⟩ := Prod.mk.inj h
        exact ⟨⟨pre, x :: xs, rfl, rfl⟩, fun c hc => hcur c (List.mem_reverse.mp hc)⟩
      · -- behind the stop symbol: it joins the consumed prefix
        have hlen : pre.length + cur.length + 1 = (pre ++ cur.reverse ++ [x]).length := by
          rw [List.length_append, List.length_append, List.length_reverse, List.length_singleton]
        rw [hlen] at h
        obtain ⟨⟨pre', post, he, hl⟩, hs⟩ :=
          ih (pre ++ cur.reverse ++ [x]) [] o seg (fun _ hc => (nomatch hc)) h
        refine ⟨⟨pre', post, ?_, hl⟩, hs⟩
        rw [← he]
        simp only [List.reverse_nil, List.append_nil, List.append_assoc, List.singleton_append]
    · next hx =>
      have hcur' : ∀ c ∈ x :: cur, c ≠ '*' :=
        List.forall_mem_cons.mpr ⟨fun e => hx (beq_iff_eq.mpr e), hcur⟩
      obtain ⟨⟨pre', post, he, hl⟩, hs⟩ := ih pre (x :: cur) o seg hcur' h
      refine ⟨⟨pre', post, ?_, hl⟩, hs⟩
      rw [← he]
      simp only [List.reverse_cons, List.append_assoc, List.singleton_append]

theorem stopSegments_spec (w : List Char) (off : Nat) (seg : List Char)
    (h : (off, seg) ∈ stopSegments w) :
    seg = slice w off (off + seg.length) ∧ off + seg.length ≤ w.length ∧ ∀ c ∈ seg, c ≠ '*' := by
  obtain ⟨⟨pre, post, he, rfl⟩, hs⟩ := stopSegments_go_spec w [] [] off seg (fun _ hc => (nomatch hc)) h
  rw [show w = pre ++ seg ++ post from he]
  refine ⟨(slice_append_mid pre seg post).symm, ?_, hs⟩
  rw [List.length_append, List.length_append]
  exact Nat.le_add_right _ _

theorem cleaveSites_bounds (rule : Re) (exc : Option Re) (s : List Char) (i : Nat)
    (h : i ∈ cleaveSites rule exc s) : 1 ≤ i ∧ i ≤ s.length := by
  simp only [cleaveSites, Re.ends, Re.finditer, finditerFrom_eq, List.mem_filter, List.mem_map,
    List.mem_range'_1] at h
  obtain ⟨⟨a, ⟨⟨_, ha⟩, _⟩, rfl⟩, _⟩ := h
  omega

theorem mem_requiredCuts (rule : Re) (exc : Option Re) (w : List Char) (off : Nat)
    (seg : List Char) (h : (off, seg) ∈ stopSegments w) (a : Nat)
    (ha : a ∈ bounds (cleaveSites rule exc seg) seg.length)
    (h0 : 0 < off + a) (h1 : off + a < w.length) : off + a ∈ requiredCuts rule exc w := by
  simp only [requiredCuts, List.mem_filter, List.mem_flatMap, Bool.and_eq_true, decide_eq_true_eq]
  refine ⟨⟨(off, seg), h, ?_⟩, h0, h1⟩
  simp only [List.mem_append, List.mem_map, List.mem_cons, List.not_mem_nil, or_false]
  rcases (mem_bounds _ _ _).mp ha with rfl | ha | rfl
  · exact Or.inr (Or.inl rfl)
  · exact Or.inl ⟨a, ha, Nat.add_comm a off⟩
  · exact Or.inr (Or.inr rfl)

/-- `hcp` is checkpoint CP4 of `Model/Graph.lean` for the path `p` -/
theorem bound_mem_cuts (g : Graph) (p : List Nat) (rule : Re) (exc : Option Re)
    (hcp : ∀ c ∈ requiredCuts rule exc (pathSeq g p), c ∈ boundaries g false p)
    (off : Nat) (seg : List Char) (hseg : (off, seg) ∈ stopSegments (pathSeq g p))
    (a : Nat) (ha : a ∈ bounds (cleaveSites rule exc seg) seg.length) :
    a ≤ seg.length ∧ off + a ∈ cuts (p.map (nodeSeq g)) := by
  obtain ⟨_, hle, _⟩ := stopSegments_spec _ off seg hseg
  have hale : a ≤ seg.length := by
    rcases (mem_bounds _ _ _).mp ha with rfl | ha | rfl
    · exact Nat.zero_le _
    · exact (cleaveSites_bounds rule exc seg a ha).2
    · exact Nat.le_refl _
  refine ⟨hale, ?_⟩
  -- an inner position is a required cut; the two ends of the protein are cuts of any path
  rcases Nat.eq_zero_or_pos (off + a) with h0 | h0
  · rw [h0]; exact zero_mem_cuts _
  · rcases Nat.lt_or_ge (off + a) (pathSeq g p).length with h1 | h1
    · exact boundaries_subset_cuts g p _
        (hcp _ (mem_requiredCuts rule exc _ off seg hseg a ha h0 h1))
    · have : off + a = ((p.map (nodeSeq g)).flatten).length := by
        rw [flatten_map_nodeSeq]
        exact Nat.le_antisymm (Nat.le_trans (Nat.add_le_add_left hale off) hle) h1
      rw [this]; exact length_mem_cuts _

end MoPepGen.Graph
