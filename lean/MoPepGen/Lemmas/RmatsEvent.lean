import MoPepGen.Lemmas.RmatsAlign
import MoPepGen.Lemmas.ListAux
/-!
Lemmas for C16, event level: the output of the SE loop body from those of its three junctions,
which junction of an A5SS / A3SS / MXE event a record of the per-transcript loop body comes from,
and the transcript a record of the whole `convert_to_variant_records` call belongs to.  At the end
the A5SS / A3SS loop body on a transcript that carries one form of the event, by the side of the
flanking exon the alternative site lies on (`axTx_{up,down}_{long,short}`): A5SS on `+` and A3SS
on `-` are the `up` cases, A5SS on `-` and A3SS on `+` the `down` cases.
-/
namespace MoPepGen.Rmats
open MoPepGen


theorem guarded_pair_mem {α : Type} {c1 c2 : Prop} [Decidable c1] [Decidable c2]
    {X Y : Except Err (List α)} {rs : List α} {r : α}
    (h : (do let a ← if c1 then X else pure []
             let b ← if c2 then Y else pure []
             pure (a ++ b)) = .ok rs) (hr : r ∈ rs) :
    (c1 ∧ ∃ rs', X = .ok rs' ∧ r ∈ rs') ∨ (c2 ∧ ∃ rs', Y = .ok rs' ∧ r ∈ rs') := by
  by_cases h1 : c1 <;> by_cases h2 : c2 <;> simp only [h1, h2, if_true, if_false] at h
  · obtain ⟨a, ha, h⟩ := bind_ok h
    obtain ⟨b, hb, h⟩ := bind_ok h
    cases h
    exact (List.mem_append.mp hr).imp (fun hr => ⟨h1, a, ha, hr⟩) (fun hr => ⟨h2, b, hb, hr⟩)
  · obtain ⟨a, ha, h⟩ := bind_ok h
    cases h
    exact .inl ⟨h1, a, ha, (List.append_nil a) ▸ hr⟩
  · obtain ⟨b, hb, h⟩ := bind_ok (A := Y) h
    cases h
    exact .inr ⟨h2, b, hb, hr⟩
  · cases h
    cases hr

theorem ite_and_eq {α : Type} {P Q : Prop} [Decidable P] [Decidable Q] (a b : α) :
    (if P ∧ Q then a else b) = if P then (if Q then a else b) else b := by
  by_cases hP : P <;> by_cases hQ : Q <;>
    simp only [hP, hQ, and_self, and_false, false_and, if_true, if_false]

/-- the shape all four `convert_to_variant_records` share: `K` the novelty test, `G` the
`create_variant_id` calls, `F` the loop over the transcripts -/
theorem convert_mem {α : Type} {K : Except Err Bool} {G : Except Err Unit}
    {F : Except Err (List α)} {out : List α} {x : α}
    (h : (do let k ← K; if k then pure [] else do G; F) = .ok out) (hx : x ∈ out) :
    F = .ok out := by
  cases K with
  | error e => cases h
  | ok k =>
    cases k with
    | true => cases h; cases hx
    | false =>
      cases G with
      | error e => cases h
      | ok u => exact h

theorem overTxs_mem {f : Transcript → Except Err (List ASRec)} {txs : List Transcript} {k : Nat}
    {out : List (Nat × ASRec)} (h : overTxs f txs k = .ok out) {i : Nat} {r : ASRec}
    (hm : (i, r) ∈ out) :
    k ≤ i ∧ ∃ t rs, txs[i - k]? = some t ∧ f t = .ok rs ∧ r ∈ rs := by
  induction txs generalizing k out with
  | nil => cases h; cases hm
  | cons t ts ih =>
    obtain ⟨a, hf, h⟩ := bind_ok h
    obtain ⟨b, ho, h⟩ := bind_ok h
    cases h
    rcases List.mem_append.mp hm with hm | hm
    · obtain ⟨x, hx, hxe⟩ := List.mem_map.mp hm
      cases hxe
      exact ⟨Nat.le_refl _, t, a, by rw [Nat.sub_self]; rfl, hf, hx⟩
    · obtain ⟨h1, t', rs, h2, h3, h4⟩ := ih ho hm
      exact ⟨Nat.le_of_succ_le h1, t', rs, (getElem?_cons_sub t ts h1).trans h2, h3, h4⟩

theorem overTxs_nil {f : Transcript → Except Err (List ASRec)} {txs : List Transcript}
    (h : ∀ t ∈ txs, f t = .ok []) (k : Nat) : overTxs f txs k = .ok [] := by
  induction txs generalizing k with
  | nil => rfl
  | cons t ts ih =>
    unfold overTxs
    rw [h t List.mem_cons_self]
    simp only [bind, Except.bind, ih (fun x hx => h x (List.mem_cons_of_mem _ hx)) (k + 1)]
    rfl

theorem overTxs_at {f : Transcript → Except Err (List ASRec)} {txs : List Transcript}
    {out : List (Nat × ASRec)} (h : overTxs f txs 0 = .ok out) {i : Nat} {r : ASRec}
    (hm : (i, r) ∈ out) {t : Transcript} (hi : txs[i]? = some t) :
    ∃ rs, f t = .ok rs ∧ r ∈ rs := by
  obtain ⟨_, t', rs, ht', h1, h2⟩ := overTxs_mem h hm
  cases hi.symm.trans ht'
  exact ⟨rs, h1, h2⟩

theorem dedupFirst_sub {l acc : List (Nat × ASRec)} {x : Nat × ASRec}
    (h : x ∈ dedupFirst l acc) : x ∈ l ∨ x ∈ acc := by
  induction l generalizing acc with
  | nil => exact Or.inr (List.mem_reverse.mp h)
  | cons y ys ih =>
    unfold dedupFirst at h
    split at h
    · exact (ih h).imp_left (List.mem_cons_of_mem _)
    · rcases ih h with h | h
      · exact Or.inl (List.mem_cons_of_mem _ h)
      · exact (List.mem_cons.mp h).imp (fun (h' : x = y) => h' ▸ List.mem_cons_self) id


variable {g : Gene} {txs : List Transcript} {mi ms : Nat} {out : List (Nat × ASRec)} {i : Nat}
  {r : ASRec} {t : Transcript}

theorem seTx_ok {v : SE} {a x y : List ASRec}
    (ha : alignConvert v.skipJ g t false false = .ok a)
    (hx : alignConvert v.upJ g t false true = .ok x)
    (hy : alignConvert v.downJ g t true false = .ok y) :
    seTx v g mi ms t
      = .ok ((if v.sjc ≥ ms then a else []) ++ (if v.ijc ≥ mi then x ++ y else [])) := by
  unfold seTx
  rw [ha, hx, hy]
  by_cases c1 : v.sjc ≥ ms <;> by_cases c2 : v.ijc ≥ mi <;>
    simp only [c1, c2, if_true, if_false] <;> rfl

/-- the SE loop body on a transcript without the cassette exon (`… U D …`): the one record (when
`IJC ≥ min_ijc`) is the Insertion of the exon, built from the junction `E → D`; `U → D` joins
adjacent exons, and `U → E` would only reach `create_downstream_insertion` if an exon of the
transcript ended at `exonEnd` -/
theorem seTx_include {v : SE} {pre post : List Iv} {U D : Iv}
    (he : t.exons = pre ++ U :: D :: post) (hw : t.WF) (hg : t.Within g)
    (hU : U.stop = v.ue) (hD : D.start = v.ds)
    (h1 : v.ue < v.es) (h2 : v.es < v.ee) (h3 : v.ee < v.ds) :
    seTx v g mi ms t
      = .ok (if v.ijc ≥ mi then
          [insRec g (match g.strand with | .plus => U.stop | .minus => D.start) ⟨v.es, v.ee⟩]
        else []) := by
  have hch := chain2_of_wf hw he
  have h4 : U.stop < v.ee := hU ▸ Nat.lt_trans h1 h2
  have hb := alignConvert_dn_intron_silent (g := g) (j := v.upJ) he hw hU.symm
    (hU ▸ Nat.le_of_lt h1) (hD ▸ Nat.lt_trans h2 h3)
    (he ▸ hch.stop_ne (Nat.lt_trans hch.hP h4) (hD ▸ Nat.le_of_lt h3) (Nat.ne_of_gt h4))
  have hc := alignConvert_un_intron_exact (j := v.downJ) he hw hg hD.symm h4
    (hD ▸ Nat.le_of_lt h3) h2
  rw [seTx_ok (alignConvert_adjacent he hch hU.symm hD.symm) hb hc,
    Nat.max_eq_right (hU ▸ Nat.le_of_lt h1 : U.stop ≤ v.downJ.us)]
  simp only [ite_self, List.nil_append]
  rfl

theorem axTx_mem {v : AxSS} {jl jsh : Junction} {un dn : Bool} {rs : List ASRec}
    (h : axTx v jl jsh un dn g mi ms t = .ok rs) (hr : r ∈ rs) :
    (v.ijc ≥ mi ∧ ∃ rs', alignConvert jl g t un dn = .ok rs' ∧ r ∈ rs')
    ∨ (v.sjc ≥ ms ∧ ∃ rs', alignConvert jsh g t un dn = .ok rs' ∧ r ∈ rs') :=
  guarded_pair_mem h hr

theorem mxeTx_mem {v : MXE} {rs : List ASRec} (h : mxeTx v g mi ms t = .ok rs) (hr : r ∈ rs) :
    (v.ijc ≥ mi ∧ ∃ rs', alignConvert v.firstDownJ g t true false = .ok rs' ∧ r ∈ rs')
    ∨ (v.sjc > ms ∧ ∃ rs', alignConvert v.secondUpJ g t false true = .ok rs' ∧ r ∈ rs') :=
  guarded_pair_mem h hr

theorem seConvert_mem {v : SE} (h : seConvert v g txs mi ms = .ok out) (hm : (i, r) ∈ out)
    (hi : txs[i]? = some t) : ∃ rs, seTx v g mi ms t = .ok rs ∧ r ∈ rs :=
  overTxs_at (convert_mem h hm) hm hi

theorem a5Convert_mem {v : AxSS} {s : Strand} (hs : g.strand = s)
    (h : a5Convert v g txs mi ms = .ok out) (hm : (i, r) ∈ out) (hi : txs[i]? = some t) :
    ∃ rs, axTx v (v.a5Junctions s).1 (v.a5Junctions s).2
        (match s with | .plus => (true, false) | .minus => (false, true)).1
        (match s with | .plus => (true, false) | .minus => (false, true)).2 g mi ms t
        = .ok rs ∧ r ∈ rs := by
  unfold a5Convert at h
  cases s <;> rw [hs] at h <;> exact overTxs_at (convert_mem h hm) hm hi

theorem a3Convert_mem {v : AxSS} {s : Strand} (hs : g.strand = s)
    (h : a3Convert v g txs mi ms = .ok out) (hm : (i, r) ∈ out) (hi : txs[i]? = some t) :
    ∃ rs, axTx v (v.a3Junctions s).1 (v.a3Junctions s).2
        (match s with | .plus => (false, true) | .minus => (true, false)).1
        (match s with | .plus => (false, true) | .minus => (true, false)).2 g mi ms t
        = .ok rs ∧ r ∈ rs := by
  unfold a3Convert at h
  cases s <;> rw [hs] at h <;> exact overTxs_at (convert_mem h hm) hm hi

/-- through `list(set(variants))` (`dedupFirst`): a surviving record was produced by the transcript
it is tagged with -/
theorem mxeConvert_mem {v : MXE} (h : mxeConvert v g txs mi ms = .ok out) (hm : (i, r) ∈ out)
    (hi : txs[i]? = some t) : ∃ rs, mxeTx v g mi ms t = .ok rs ∧ r ∈ rs := by
  obtain ⟨l, ho, h'⟩ := bind_ok (convert_mem h hm)
  cases h'
  exact overTxs_at ho ((dedupFirst_sub hm).resolve_right (fun h => nomatch h)) hi


section
variable {chrom : List Char} {v : AxSS} {jl jsh : Junction} {pre post : List Iv} {rs : List ASRec}

theorem axTx_up_long {L F : Iv}
    (h : axTx v jl jsh true false g mi ms t = .ok rs) (hr : r ∈ rs)
    (he : t.exons = pre ++ L :: F :: post) (hw : t.WF) (hg : t.Within g)
    (hc : g.loc.stop ≤ chrom.length)
    (hl1 : jl.ue = L.stop) (hl2 : jl.ds = F.start) (hs2 : jsh.ds = F.start)
    (h1 : L.start < jsh.ue) (h2 : jsh.ue < L.stop) :
    applyAS g t.exons (seqOfExons chrom t.strand t.exons) (geneSeq chrom g) r
      = seqOfExons chrom t.strand (pre ++ ⟨L.start, jsh.ue⟩ :: F :: post) := by
  rcases axTx_mem h hr with ⟨_, rs', h', hr'⟩ | ⟨_, rs', h', hr'⟩
  · rw [alignConvert_adjacent he (chain2_of_wf hw he) hl1 hl2] at h'
    cases h'; cases hr'
  · exact alignConvert_un_inside he hw hg hc hs2 h1 h2 h' hr'

theorem axTx_up_short {S F : Iv}
    (h : axTx v jl jsh true false g mi ms t = .ok rs) (hr : r ∈ rs)
    (he : t.exons = pre ++ S :: F :: post) (hw : t.WF) (hg : t.Within g)
    (hc : g.loc.stop ≤ chrom.length)
    (hs1 : jsh.ue = S.stop) (hs2 : jsh.ds = F.start) (hl2 : jl.ds = F.start)
    (h1 : S.stop < jl.ue) (h2 : jl.ue ≤ F.start) (h3 : jl.us ≤ S.stop) :
    applyAS g t.exons (seqOfExons chrom t.strand t.exons) (geneSeq chrom g) r
      = seqOfExons chrom t.strand (pre ++ ⟨S.start, jl.ue⟩ :: F :: post) := by
  have hch := chain2_of_wf hw he
  rcases axTx_mem h hr with ⟨_, rs', h', hr'⟩ | ⟨_, rs', h', hr'⟩
  · rw [alignConvert_un_intron he hw hg hc hl2 h1 h2 (Nat.lt_of_le_of_lt h3 h1) h' hr',
      Nat.max_eq_left h3]
    exact seqOfExons_merge2 chrom t.strand pre (F :: post)
      (Nat.le_of_lt hch.hP) rfl (Nat.le_of_lt h1)
  · rw [alignConvert_adjacent he hch hs1 hs2] at h'
    cases h'; cases hr'

theorem axTx_down_long {F L : Iv}
    (h : axTx v jl jsh false true g mi ms t = .ok rs) (hr : r ∈ rs)
    (he : t.exons = pre ++ F :: L :: post) (hw : t.WF) (hg : t.Within g)
    (hc : g.loc.stop ≤ chrom.length)
    (hl1 : jl.ue = F.stop) (hl2 : jl.ds = L.start) (hs1 : jsh.ue = F.stop)
    (h1 : L.start < jsh.ds) (h2 : jsh.ds < L.stop) :
    applyAS g t.exons (seqOfExons chrom t.strand t.exons) (geneSeq chrom g) r
      = seqOfExons chrom t.strand (pre ++ F :: ⟨jsh.ds, L.stop⟩ :: post) := by
  rcases axTx_mem h hr with ⟨_, rs', h', hr'⟩ | ⟨_, rs', h', hr'⟩
  · rw [alignConvert_adjacent he (chain2_of_wf hw he) hl1 hl2] at h'
    cases h'; cases hr'
  · exact alignConvert_dn_inside he hw hg hc hs1 h1 h2 h' hr'

theorem axTx_down_short {F S : Iv}
    (h : axTx v jl jsh false true g mi ms t = .ok rs) (hr : r ∈ rs)
    (he : t.exons = pre ++ F :: S :: post) (hw : t.WF) (hg : t.Within g)
    (hc : g.loc.stop ≤ chrom.length)
    (hs1 : jsh.ue = F.stop) (hs2 : jsh.ds = S.start) (hl1 : jl.ue = F.stop)
    (h1 : F.stop ≤ jl.ds) (h2 : jl.ds < S.start) (h3 : S.start ≤ jl.de) :
    applyAS g t.exons (seqOfExons chrom t.strand t.exons) (geneSeq chrom g) r
      = seqOfExons chrom t.strand (pre ++ F :: ⟨jl.ds, S.stop⟩ :: post) := by
  have hch := chain2_of_wf hw he
  rcases axTx_mem h hr with ⟨_, rs', h', hr'⟩ | ⟨_, rs', h', hr'⟩
  · rw [alignConvert_dn_intron he hw hg hc hl1 h1 h2 (Nat.lt_of_lt_of_le h2 h3) h' hr',
      Nat.min_eq_left h3, List.append_cons pre F, List.append_cons pre F (_ :: post)]
    exact seqOfExons_merge2 chrom t.strand (pre ++ [F]) post (Nat.le_of_lt h2) rfl
      (Nat.le_of_lt hch.hQ)
  · rw [alignConvert_adjacent he hch hs1 hs2] at h'
    cases h'; cases hr'

end

end MoPepGen.Rmats
