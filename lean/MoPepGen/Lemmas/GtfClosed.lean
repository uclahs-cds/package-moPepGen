import MoPepGen.Lemmas.Gtf
/-! Closure of the GTF round trip (property C11) as far as it is proved.  The annotation
`GtfIO.write` → `dump_gtf` returns (`reloaded a`) is `ordered` (`reloaded_ordered`); it is
`wf ∧ ordered ∧ stable` IF the block of every well-formed transcript model reloads to a
well-formed and stable model (`reloaded_closed`) — a hypothesis proved only for stable models
(`reloadTx_of_stable`).  Then: `write` gives the same text for `a` and `a.canon`. -/
namespace MoPepGen.Gtf
open MoPepGen.Gvf (Str AttrVal dictGet dictSet)

theorem reload_eq {a : Anno} (h : a.wf = true) : reload a = .ok (reloaded a) := by
  obtain ⟨ls, hw, hp⟩ := parse_write h
  simp only [reload, hw, hp]

theorem dictGet_reloaded {a : Anno} (h : a.wf = true) {g : Str × GeneModel} (hg : g ∈ a.genes)
    {tid : Str} (ht : tid ∈ g.2.transcripts) :
    ∃ m, dictGet a.txs tid = some m ∧ m.wf g.1 tid = true ∧
      dictGet (reloaded a).txs tid = some (reloadTx m) := by
  obtain ⟨m, hm, hw, hc⟩ := dictGet_canon h hg ht
  refine ⟨m, hm, hw, ?_⟩
  simp only [reloaded, Gvf.dictGet_map (fun _ => reloadTx), hc, Option.map_some]

theorem reloaded_ordered {a : Anno} (h : a.wf = true) : (reloaded a).ordered = true := by
  have e : (reloaded a).canon.txs = (reloaded a).txs := by
    show a.genes.flatMap _ = (canonTxs a a.genes).map _
    rw [canonTxs, List.map_flatMap]
    refine flatMap_congr fun g hg => ?_
    rw [List.map_filterMap]
    refine filterMap_congr fun tid ht => ?_
    obtain ⟨m, hm, _, hr⟩ := dictGet_reloaded h hg ht
    rw [hr, hm]
    rfl
  exact decide_eq_true (congrArg (Anno.mk a.genes) e)

/-- **closure, reduced to one transcript**: if writing and reloading the block of every
well-formed transcript model of the annotation gives a well-formed and stable model, the
reloaded annotation is `wf ∧ ordered ∧ stable` -/
theorem reloaded_closed {a : Anno} (h : a.wf = true)
    (H : ∀ gid tid m, (tid, m) ∈ a.txs → m.wf gid tid = true →
      (reloadTx m).wf gid tid = true ∧ (reloadTx m).stable = true) :
    (reloaded a).wf = true ∧ (reloaded a).ordered = true ∧ (reloaded a).stable = true := by
  obtain ⟨h1, h2, h3⟩ := GeneWF.of_wf h
  refine ⟨?_, reloaded_ordered h, List.all_eq_true.mpr fun kv hkv => ?_⟩
  · simp only [Anno.wf, Bool.and_eq_true, decide_eq_true_eq, List.all_eq_true]
    refine ⟨⟨h1, h2⟩, fun g hg => ⟨⟨⟨(h3 g hg).gok, (h3 g hg).gtype⟩, (h3 g hg).ggid⟩, fun tid ht => ?_⟩⟩
    obtain ⟨m, hm, hw, hr⟩ := dictGet_reloaded h hg ht
    rw [hr]
    exact (H _ _ m (mem_of_dictGet hm) hw).1
  · obtain ⟨kv0, hkv0, rfl⟩ := List.mem_map.mp hkv
    obtain ⟨hmem, gid, hw⟩ := mem_canonTxs h3 hkv0
    exact (H gid _ _ (mem_of_dictGet hmem) hw).2

/-! ## the writer reads the transcripts dict only through look-ups -/

theorem flatMapE_congr {α β : Type} {f g : α → Except GErr (List β)} {xs : List α}
    (h : ∀ x ∈ xs, f x = g x) : flatMapE f xs = flatMapE g xs := by
  induction xs with
  | nil => rfl
  | cons x xs ih =>
    rw [List.forall_mem_cons] at h
    rw [flatMapE, flatMapE, h.1, ih h.2]

theorem writeGtf_congr {a b : Anno} (hg : b.genes = a.genes)
    (hl : ∀ g ∈ a.genes, ∀ tid ∈ g.2.transcripts, dictGet b.txs tid = dictGet a.txs tid) :
    writeGtf b = writeGtf a := by
  simp only [writeGtf, hg]
  apply flatMapE_congr
  intro g hgm
  simp only [writeGene]
  rw [flatMapE_congr (f := writeTxOf b) (g := writeTxOf a)
    (fun tid ht => by simp only [writeTxOf, hl g hgm tid ht])]

theorem writeGtf_canon {a : Anno} (h : a.wf = true) : writeGtf a.canon = writeGtf a :=
  writeGtf_congr rfl fun g hg tid ht => by
    obtain ⟨m, hm, _, hc⟩ := dictGet_canon h hg ht
    rw [hm, hc]

end MoPepGen.Gtf
