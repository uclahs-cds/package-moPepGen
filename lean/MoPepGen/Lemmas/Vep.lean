import MoPepGen.Model.Vep
import MoPepGen.Lemmas.GeneIv
/-! Lemmas for C14.  `splice l a b r`, the replacement of `l[a:b]` by `r`, is the common form of
`applyEvent` (on the chromosome) and `applyGvf` (on the gene sequence); slicing and reverse
complement commute with it.  `vepLocate` returns two intervals in gene coordinates (`geneIv`, of
the row and of the transcript span), and the gene after the event of a row is a `splice` inside
the first of them (`anchorSpec`, `geneSeq_rowEvent`).  `AnchorResult` lists what `vepAnchor` can
return: every record is a `splice` equal to that one. -/
namespace MoPepGen

theorem strandAllele_nil (s : Strand) : strandAllele s [] = [] := by
  cases s <;> rfl

theorem strandAllele_length (s : Strand) (al : List Char) :
    (strandAllele s al).length = al.length := by
  cases s
  · rfl
  · exact revComp_length al

variable {l : List Char} {c : Char}

theorem pySlice_single {i j : Nat} (h : l[i]? = some c) (hj : j = i + 1) :
    pySlice l i j = [c] := by
  obtain ⟨hi, rfl⟩ := List.getElem?_eq_some_iff.mp h
  subst hj
  unfold pySlice
  rw [List.drop_eq_getElem_cons hi, Nat.add_sub_cancel_left]
  rfl

theorem dropLast_append_of_getLast? (h : l.getLast? = some c) :
    l.dropLast ++ [c] = l := by
  obtain ⟨ys, rfl⟩ := List.getLast?_eq_some_iff.mp h
  rw [List.dropLast_concat]

def splice (l : List Char) (a b : Nat) (r : List Char) : List Char := l.take a ++ r ++ l.drop b

theorem revComp_splice (l : List Char) (a b : Nat) (r : List Char) :
    revComp (splice l a b r) = splice (revComp l) (l.length - b) (l.length - a) (revComp r) := by
  unfold splice
  rw [revComp_append, revComp_append, revComp_take, revComp_drop, List.append_assoc]

theorem drop_splice {a s e : Nat} (r : List Char) (h1 : a ≤ s) (h2 : s ≤ e)
    (hs : s ≤ l.length) :
    (splice l s e r).drop a = splice (l.drop a) (s - a) (e - a) r := by
  unfold splice
  rw [List.append_assoc,
    List.drop_append_of_le_length (by rw [List.length_take_of_le hs]; exact h1),
    List.drop_take, List.drop_drop, List.append_assoc, Nat.add_sub_cancel' (Nat.le_trans h1 h2)]

theorem take_splice {s e b : Nat} (r : List Char) (h2 : s ≤ e) (h3 : e ≤ b)
    (hs : s ≤ l.length) :
    (splice l s e r).take (s + r.length + (b - e)) = splice (l.take b) s e r := by
  unfold splice
  have hn : s + r.length = (l.take s ++ r).length := by
    rw [List.length_append, List.length_take_of_le hs]
  rw [hn, List.take_length_add_append, List.take_take, List.drop_take,
    Nat.min_eq_left (Nat.le_trans h2 h3)]

theorem pySlice_splice {a s e b : Nat} (r : List Char) (h1 : a ≤ s) (h2 : s ≤ e)
    (h3 : e ≤ b) (hs : s ≤ l.length) :
    pySlice (splice l s e r) a (b + r.length - (e - s))
      = splice (pySlice l a b) (s - a) (e - a) r := by
  unfold pySlice
  have hn : b + r.length - (e - s) - a = (s - a) + r.length + ((b - a) - (e - a)) := by
    rw [Nat.sub_sub_sub_cancel_right (Nat.le_trans h1 h2)]
    omega
  rw [drop_splice r h1 h2 hs, hn,
    take_splice r (Nat.sub_le_sub_right h2 a) (Nat.sub_le_sub_right h3 a)
      (by rw [List.length_drop]; exact Nat.sub_le_sub_right hs a)]

theorem splice_cons {x : Nat} (h : l[x]? = some c) (y : Nat) (r : List Char) :
    splice l x y (c :: r) = splice l (x + 1) y r := by
  unfold splice
  rw [List.take_add_one, h]
  simp only [Option.toList, List.append_assoc, List.cons_append, List.nil_append]

theorem splice_append_pySlice (l : List Char) (x : Nat) {y z : Nat} (h : y ≤ z) (r : List Char) :
    splice l x z (r ++ pySlice l y z) = splice l x y r := by
  unfold splice pySlice
  have hz : l.drop z = (l.drop y).drop (z - y) := by rw [List.drop_drop, Nat.add_sub_cancel' h]
  rw [hz, List.append_assoc, List.append_assoc r, List.take_append_drop, List.append_assoc]

theorem splice_concat {y : Nat} (h : l[y]? = some c) (x : Nat) (r : List Char) :
    splice l x (y + 1) (r ++ [c]) = splice l x y r := by
  rw [← pySlice_single h rfl, splice_append_pySlice l x (Nat.le_succ y)]

theorem sub_right_inj {k m n : Nat} (hm : k ≤ m) (hn : k ≤ n) : m - k = n - k ↔ m = n :=
  ⟨fun h => by rw [← Nat.sub_add_cancel hm, h, Nat.sub_add_cancel hn], fun h => h ▸ rfl⟩

theorem sub_left_inj {k m n : Nat} (hm : m ≤ k) (hn : n ≤ k) : k - m = k - n ↔ m = n :=
  ⟨fun h => by rw [← Nat.sub_sub_self hm, h, Nat.sub_sub_self hn], fun h => h ▸ rfl⟩

theorem sub_lt_sub_left_iff {k m n : Nat} (hm : m ≤ k) : k - m < k - n ↔ n < m :=
  Nat.not_le.symm.trans ((not_congr (Nat.sub_le_sub_iff_left hm)).trans Nat.not_le)

variable {g : Gene} {t : Transcript} {row : VepRow} {seq : List Char} {a b ts te txS : Nat}
  {al : Option (List Char)} {r : GvfRec}

theorem geneIv_mid {s : Nat} (h0 : 1 ≤ s) (h1 : g.loc.start ≤ s - 1)
    (h3 : s + 1 ≤ g.loc.stop) :
    geneIv g ⟨s, s⟩
      = ⟨(geneIv g ⟨s - 1, s + 1⟩).start + 1, (geneIv g ⟨s - 1, s + 1⟩).start + 1⟩ := by
  unfold geneIv
  cases g.strand <;> simp only [Iv.mk.injEq, and_self] <;> omega

theorem geneSeq_applyEvent (chrom : List Char) (g : Gene) {s e : Nat} (repl : List Char)
    (hc : g.loc.stop ≤ chrom.length) (hin : InGene g ⟨s, e⟩) :
    geneSeq (applyEvent chrom ⟨s, e, repl⟩) (geneAfter g ⟨s, e, repl⟩)
      = splice (geneSeq chrom g) (geneIv g ⟨s, e⟩).start (geneIv g ⟨s, e⟩).stop
          (strandAllele g.strand repl) := by
  obtain ⟨h1, h2, h3⟩ := hin
  have hw : chromSlice (applyEvent chrom ⟨s, e, repl⟩) (geneAfter g ⟨s, e, repl⟩).loc
      = splice (chromSlice chrom g.loc) (s - g.loc.start) (e - g.loc.start) repl :=
    pySlice_splice repl h1 h2 h3 (Nat.le_trans h2 (Nat.le_trans h3 hc))
  have hst : (geneAfter g ⟨s, e, repl⟩).strand = g.strand := rfl
  unfold geneSeq geneIv
  rw [hst]
  cases g.strand
  · exact hw
  · simp only
    rw [hw, revComp_splice, chromSlice_length hc,
      Nat.sub_sub_sub_cancel_right (Nat.le_trans h1 h2), Nat.sub_sub_sub_cancel_right h1]
    rfl

theorem vepLocate_ok (h : vepLocate g t row = .ok (a, b, ts, te)) :
    (1 ≤ row.s ∧ g.loc.start ≤ row.s - 1 ∧ row.s - 1 < g.loc.stop) ∧
    (1 ≤ row.e ∧ g.loc.start ≤ row.e - 1 ∧ row.e - 1 < g.loc.stop) ∧
    (g.loc.start ≤ t.spanStart ∧ t.spanStart < g.loc.stop) ∧
    (g.loc.start ≤ t.spanStop - 1 ∧ t.spanStop - 1 < g.loc.stop) ∧
    ⟨a, b⟩ = geneIv g ⟨row.s - 1, row.e⟩ ∧
    ⟨ts, te⟩ = geneIv g ⟨t.spanStart, t.spanStop - 1 + 1⟩ := by
  unfold vepLocate at h
  split at h
  · cases h
  · rename_i h0
    have hs1 : 1 ≤ row.s := Nat.pos_of_ne_zero fun h => h0 (Or.inl h)
    have he1 : 1 ≤ row.e := Nat.pos_of_ne_zero fun h => h0 (Or.inr h)
    split at h
    · rename_i a0 b0 ha0 hb0
      have hrow := geneIv_of_genomicToGene ha0 hb0
      rw [Nat.sub_add_cancel he1] at hrow
      have ra := (genomicToGene_eq_ok_iff.mp ha0).1
      have rb := (genomicToGene_eq_ok_iff.mp hb0).1
      -- the model returns the two pairs in the order `geneIv` has them on the strand of the gene
      cases hs : g.strand <;> rw [hs] at h hrow <;> simp only at h <;> split at h
      · rename_i ts0 te0 hts hte
        have hspan := geneIv_of_genomicToGene hts hte
        rw [hs] at hspan
        cases h
        exact ⟨⟨hs1, ra⟩, ⟨he1, rb⟩, (genomicToGene_eq_ok_iff.mp hts).1,
          (genomicToGene_eq_ok_iff.mp hte).1, hrow.symm, hspan.symm⟩
      · cases h
      · rename_i ts0 te0 hte hts
        have hspan := geneIv_of_genomicToGene hts hte
        rw [hs] at hspan
        cases h
        exact ⟨⟨hs1, ra⟩, ⟨he1, rb⟩, (genomicToGene_eq_ok_iff.mp hts).1,
          (genomicToGene_eq_ok_iff.mp hte).1, hrow.symm, hspan.symm⟩
      · cases h
    · cases h

theorem vepLocate_error {e : VepErr} (h : vepLocate g t row = .error e) : e = .outOfGene := by
  unfold vepLocate at h
  split at h
  · exact (Except.error.inj h).symm
  · split at h
    · split at h <;> split at h
      · cases h
      · exact (Except.error.inj h).symm
      · cases h
      · exact (Except.error.inj h).symm
    · exact (Except.error.inj h).symm

theorem mkRec_ok {ref alt : List Char} (h : mkRec a b ref alt = .ok r) :
    r.start = a ∧ r.stop = b ∧ r.ref = ref ∧ r.alt = alt ∧ b - a = ref.length := by
  unfold mkRec at h
  split at h
  · cases h
  · rename_i hlen
    cases h
    exact ⟨rfl, rfl, rfl, rfl, Decidable.of_not_not hlen⟩

/-- `rowEvent` in gene coordinates (`geneSeq_rowEvent`): the replacement an anchored record must
realise; `[a, b)` is the gene interval of the row, a two-base span with an allele is an insertion
between its two bases -/
def anchorSpec (seq : List Char) (a b : Nat) : Option (List Char) → List Char
  | none => splice seq a b []
  | some al => if b - a = 2 then splice seq (a + 1) (a + 1) al else splice seq a b al

theorem anchorSpec_some (h : b - a ≠ 2) (al : List Char) :
    anchorSpec seq a b (some al) = splice seq a b al := if_neg h

/-- The possible results of `vepAnchor`: a record cut at some `[x, y)` with the gene sequence
there as REF, whose ALT makes it the replacement `anchorSpec` asks for (and which, away from
the transcript start, is cut inside `[a - 1, b)`); an `IndexError`; the unanchorable allele;
the negative anchor, at gene index 0 only. -/
inductive AnchorResult (seq : List Char) (a b txS : Nat) (al : Option (List Char)) :
    Except VepErr GvfRec → Prop
  | record {x y : Nat} {ref alt : List Char} : ref = pySlice seq x y →
      splice seq x y alt = anchorSpec seq a b al → (a ≠ txS → a - 1 ≤ x ∧ y ≤ b) →
      AnchorResult seq a b txS al (mkRec x y ref alt)
  | indexError : AnchorResult seq a b txS al (.error .indexError)
  | unanchorable : AnchorResult seq a b txS al (.error .unanchorable)
  | negAnchor (ref alt : List Char) : a = 0 →
      AnchorResult seq a b txS al (.error (.negAnchor ref alt))

theorem vepAnchor_result (seq : List Char) (b : Nat) (al : Option (List Char)) (hts : txS ≤ a) :
    AnchorResult seq a b txS al (vepAnchor seq a b txS al) := by
  have here : a - 1 ≤ a ∧ b ≤ b := ⟨Nat.sub_le a 1, Nat.le_refl b⟩
  unfold vepAnchor
  split
  · split
    · rename_i hat
      -- deletion anchored at its end: REF and ALT both end with the base behind the deletion
      exact .record rfl (splice_append_pySlice seq a (Nat.le_succ b) [])
        (fun h => absurd hat h)
    · rename_i hat
      split
      · exact .indexError
      · rename_i c hc
        -- deletion anchored on the base in front of it (`txS ≤ a ≠ txS`, so there is one)
        have ha : a - 1 + 1 = a := by omega
        refine .record rfl ?_ (fun _ => ⟨Nat.le_refl _, Nat.le_refl _⟩)
        rw [splice_cons hc, ha]
        rfl
  · rename_i al
    split
    · rename_i hba
      have hb : b = a + 1 := by omega
      have hspec : splice seq a b al = anchorSpec seq a b (some al) :=
        (anchorSpec_some (fun h => absurd (hba.symm.trans h) (by decide)) al).symm
      split
      · split
        · exact .indexError
        · rename_i ref href
          split
          · rename_i hlast
            split
            · rename_i ha0
              split
              · exact .indexError
              · exact .negAnchor _ _ ha0
            · rename_i ha0
              split
              · exact .indexError
              · rename_i r2 hr2
                -- the allele ends with the reference base: both spellings insert `al.dropLast`
                -- in front of base `a`
                have ha : a - 1 + 1 = a := Nat.sub_add_cancel (Nat.pos_of_ne_zero ha0)
                have hal : splice seq a (a + 1) al = splice seq a a al.dropLast := by
                  rw [← splice_concat href, dropLast_append_of_getLast? hlast.symm]
                refine .record (pySlice_single hr2 ha.symm).symm ?_
                  (fun _ => ⟨Nat.le_refl _, hb ▸ Nat.le_succ a⟩)
                rw [← hspec, hb, hal, splice_cons hr2, ha]
          · split
            · exact .record (pySlice_single href hb).symm hspec (fun _ => here)
            · exact .unanchorable
      · split
        · exact .indexError
        · rename_i ref href
          exact .record (pySlice_single href hb).symm hspec (fun _ => here)
    · split
      · rename_i hba
        split
        · exact .indexError
        · rename_i ref href
          have hb : b - 1 = a + 1 := by omega
          refine .record (pySlice_single href hb).symm ?_
            (fun _ => ⟨Nat.sub_le a 1, Nat.sub_le b 1⟩)
          rw [hb, splice_cons href]
          exact (if_pos hba).symm
      · rename_i hba
        exact .record rfl (anchorSpec_some hba al).symm (fun _ => here)

theorem vepAnchor_ok (hts : txS ≤ a) (h : vepAnchor seq a b txS al = .ok r) :
    (r.ref = pySlice seq r.start r.stop ∧ r.stop - r.start = r.ref.length) ∧
    applyGvf seq r = anchorSpec seq a b al ∧ (a ≠ txS → a - 1 ≤ r.start ∧ r.stop ≤ b) := by
  have hr := vepAnchor_result seq b al hts
  generalize vepAnchor seq a b txS al = res at h hr
  cases hr with
  | @record x y ref alt href hev hin =>
    obtain ⟨rfl, rfl, rfl, rfl, hlen⟩ := mkRec_ok h
    exact ⟨⟨href, hlen⟩, hev, hin⟩
  | _ => cases h

theorem vepAnchor_negAnchor {x y : List Char} (hts : txS ≤ a)
    (h : vepAnchor seq a b txS al = .error (.negAnchor x y)) : a = 0 := by
  have hr := vepAnchor_result seq b al hts
  generalize vepAnchor seq a b txS al = res at h hr
  cases hr with
  | record =>
    unfold mkRec at h
    split at h <;> cases h
  | negAnchor _ _ h0 => exact h0
  | _ => cases h

theorem vepConvert_ok {nf : Bool} (h : vepConvert g t nf seq row = .ok r) :
    ∃ a b ts te, vepLocate g t row = .ok (a, b, ts, te) ∧
      ¬ (a < ts ∨ (a = ts ∧ nf = false)) ∧ ¬ b > te ∧
      vepAnchor seq a b ts (row.allele.map (strandAllele g.strand)) = .ok r := by
  unfold vepConvert at h
  split at h
  · cases h
  · rename_i a b ts te hl
    split at h
    · cases h
    · split at h
      · cases h
      · exact ⟨a, b, ts, te, hl, by assumption, by assumption, h⟩

theorem geneSeq_rowEvent (chrom : List Char) (g : Gene) (row : VepRow)
    (hc : g.loc.stop ≤ chrom.length) (hs1 : 1 ≤ row.s) (h1 : g.loc.start ≤ row.s - 1)
    (hrow : row.s ≤ row.e) (h3 : row.e ≤ g.loc.stop) :
    geneSeq (applyEvent chrom (rowEvent row)) (geneAfter g (rowEvent row))
      = anchorSpec (geneSeq chrom g) (geneIv g ⟨row.s - 1, row.e⟩).start
          (geneIv g ⟨row.s - 1, row.e⟩).stop
          (row.allele.map (strandAllele g.strand)) := by
  obtain ⟨s, e, allele⟩ := row
  simp only at hs1 h1 hrow h3 ⊢
  have hin : InGene g ⟨s - 1, e⟩ := ⟨h1, Nat.le_trans (Nat.sub_le s 1) hrow, h3⟩
  have hlen : (geneIv g ⟨s - 1, e⟩).stop - (geneIv g ⟨s - 1, e⟩).start = e - (s - 1) :=
    geneIv_len g hin
  cases allele with
  | none =>
    rw [show rowEvent ⟨s, e, none⟩ = ⟨s - 1, e, []⟩ from rfl,
      geneSeq_applyEvent chrom g _ hc hin, strandAllele_nil]
    rfl
  | some al =>
    by_cases he : e = s + 1
    · subst he
      rw [show rowEvent ⟨s, s + 1, some al⟩ = ⟨s, s, al⟩ from if_pos rfl,
        geneSeq_applyEvent chrom g _ hc
          ⟨Nat.le_trans h1 (Nat.sub_le s 1), Nat.le_refl s, Nat.le_of_succ_le h3⟩,
        geneIv_mid hs1 h1 h3]
      exact (if_pos (by omega)).symm
    · rw [show rowEvent ⟨s, e, some al⟩ = ⟨s - 1, e, al⟩ from if_neg he,
        geneSeq_applyEvent chrom g _ hc hin]
      exact (anchorSpec_some (by omega) _).symm

end MoPepGen
