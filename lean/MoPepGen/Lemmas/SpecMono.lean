import MoPepGen.Lemmas.Spec
/-! The raw digest `rawProducts` of the definitional layer: membership without the list operations,
growth with the miscleavage limit, agreement with the candidates of `Model/Digest.lean`. -/
namespace MoPepGen.Spec

/-- `c'` is at least as permissive as `c` in the miscleavage limit, same rule -/
structure MiscLe (c c' : CleaveCfg) : Prop where
  rule : c'.rule = c.rule
  exc : c'.exc = c.exc
  misc : c.misc ≤ c'.misc

theorem mem_rawProducts (c : CleaveCfg) (prot : Pep) (nf dropOpen : Bool) (p : Pep) :
    p ∈ rawProducts c prot nf dropOpen ↔
      ∃ st k, st < (bounds (cleaveSites c.rule c.exc prot) prot.length).length - 1 ∧
        k < min (c.misc + 1) ((bounds (cleaveSites c.rule c.exc prot) prot.length).length - (st + 1)) ∧
        ¬ (dropOpen = true ∧
            (bounds (cleaveSites c.rule c.exc prot) prot.length).getD (st + 1 + k) 0 = prot.length ∧
            prot.length ∉ cleaveSites c.rule c.exc prot) ∧
        (p = slice prot ((bounds (cleaveSites c.rule c.exc prot) prot.length).getD st 0)
              ((bounds (cleaveSites c.rule c.exc prot) prot.length).getD (st + 1 + k) 0) ∨
         (st = 0 ∧ nf = false ∧
          (slice prot ((bounds (cleaveSites c.rule c.exc prot) prot.length).getD st 0)
              ((bounds (cleaveSites c.rule c.exc prot) prot.length).getD (st + 1 + k) 0)).head? = some 'M' ∧
          p = (slice prot ((bounds (cleaveSites c.rule c.exc prot) prot.length).getD st 0)
              ((bounds (cleaveSites c.rule c.exc prot) prot.length).getD (st + 1 + k) 0)).drop 1)) := by
  simp only [rawProducts, List.mem_flatMap, List.mem_range, List.mem_ite_nil_left, List.mem_append,
    List.mem_ite_nil_right, List.mem_singleton, Bool.and_eq_true, beq_iff_eq, Bool.not_eq_true',
    List.contains_eq_mem, decide_eq_false_iff_not, and_assoc]
  constructor
  · rintro ⟨st, hst, k, hk, hd, hp⟩
    exact ⟨st, k, hst, hk, hd, hp.symm⟩
  · rintro ⟨st, k, hst, hk, hd, hp⟩
    exact ⟨st, hst, k, hk, hd, hp.symm⟩

theorem rawProducts_mono_misc {c c' : CleaveCfg} (h : MiscLe c c') (prot : Pep) (nf d : Bool)
    (p : Pep) (hp : p ∈ rawProducts c prot nf d) : p ∈ rawProducts c' prot nf d := by
  simp only [rawProducts, h.rule, h.exc, List.mem_flatMap, List.mem_range] at hp ⊢
  obtain ⟨st, hst, k, hk, hp⟩ := hp
  refine ⟨st, hst, k, Nat.lt_of_lt_of_le hk ?_, hp⟩
  exact Nat.le_min.mpr
    ⟨Nat.le_trans (Nat.min_le_left _ _) (Nat.succ_le_succ h.misc), Nat.min_le_right _ _⟩

/-- the digest of the definition is the candidate list of `enzymaticCleave` (`Model/Digest.lean`, the
subject of C10) before its validity filter `filterKeep` -/
theorem rawProducts_eq_candidates (c : CleaveCfg) (prot : Pep) (nf : Bool) :
    rawProducts c prot nf false =
      cleaveCandidates prot (bounds (cleaveSites c.rule c.exc prot) prot.length) c.misc nf := by
  simp only [rawProducts, cleaveCandidates, Bool.false_and, Bool.false_eq_true, if_false]

end MoPepGen.Spec
