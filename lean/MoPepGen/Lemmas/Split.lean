import MoPepGen.Model.Split
import MoPepGen.Lemmas.ListAux
/-! Lists and tables for C18: the order on `to_int` images, `mapM` in `Except` (how the model
walks a header or a pool), insertion sort, and the association lists behind `split`,
`mergeFasta` and `summarizeFasta`. -/
namespace MoPepGen

/-! ### the order on `to_int` images

`lexGt` on lists of one length is the lexicographic order of core, and `intsGt` (longer first,
then `lexGt`) is that order on `length :: image`; every order fact below is the core lemma. -/

/-- the three-way comparison `lexGt` and `intsGt` are written with, as one step of a lexicographic
order -/
theorem gt3_iff {i j : Nat} {r : Bool} {R : Prop} (h : j = i → (r = true ↔ R)) :
    (if i > j then true else if i < j then false else r) = true ↔ j < i ∨ j = i ∧ R := by
  rcases Nat.lt_trichotomy j i with h1 | h1 | h1
  · simp only [gt_iff_lt, h1, if_true, true_or]
  · simp only [gt_iff_lt, h1, Nat.lt_irrefl, if_false, false_or, true_and, h h1]
  · simp only [gt_iff_lt, Nat.lt_asymm h1, h1, if_false, if_true, Bool.false_eq_true, false_or,
      Nat.ne_of_gt h1, false_and]

theorem lexGt_iff_lt : ∀ {a b : List Nat}, a.length = b.length → (lexGt a b = true ↔ b < a)
  | [], [], _ => iff_of_false Bool.false_ne_true (List.not_lt_nil _)
  | x :: xs, y :: ys, h => by
    rw [lexGt, List.cons_lt_cons_iff]
    exact gt3_iff fun _ => lexGt_iff_lt (Nat.succ.inj h)

theorem lexGt_negtrans : ∀ a b c : List Nat, a.length = b.length → b.length = c.length →
    lexGt a c = true → lexGt a b = true ∨ lexGt b c = true := by
  intro a b c h1 h2 h
  rw [lexGt_iff_lt h1, lexGt_iff_lt h2]
  rw [lexGt_iff_lt (h1.trans h2)] at h
  by_cases hb : b < a
  · exact .inl hb
  · exact .inr (Std.lt_of_lt_of_le h hb)

theorem intsGt_iff (a b : List Nat) : intsGt a b = true ↔ b.length :: b < a.length :: a := by
  rw [intsGt, List.cons_lt_cons_iff]
  exact gt3_iff fun e => lexGt_iff_lt e.symm

theorem intsLe_iff (a b : List Nat) : intsLe a b = true ↔ a.length :: a ≤ b.length :: b := by
  rw [intsLe, Bool.not_eq_true', ← Bool.not_eq_true, intsGt_iff]
  exact Iff.rfl

theorem intsGt_irrefl (a : List Nat) : intsGt a a = false :=
  Bool.eq_false_iff.mpr fun h => List.lt_irrefl _ ((intsGt_iff a a).mp h)

theorem intsGt_asymm (a b : List Nat) (h : intsGt a b = true) : intsGt b a = false :=
  Bool.eq_false_iff.mpr fun h' => List.lt_asymm ((intsGt_iff a b).mp h) ((intsGt_iff b a).mp h')

theorem intsGt_trans (a b c : List Nat) (h1 : intsGt a b = true) (h2 : intsGt b c = true) :
    intsGt a c = true :=
  (intsGt_iff a c).mpr (List.lt_trans ((intsGt_iff b c).mp h2) ((intsGt_iff a b).mp h1))

theorem intsLe_total (a b : List Nat) (h : intsLe a b = false) : intsLe b a = true :=
  (intsLe_iff b a).mpr
    ((List.le_total _ _).resolve_left (mt (intsLe_iff a b).mpr (Bool.eq_false_iff.mp h)))

theorem intsLe_trans (a b c : List Nat) (h1 : intsLe a b = true) (h2 : intsLe b c = true) :
    intsLe a c = true :=
  (intsLe_iff a c).mpr (List.le_trans ((intsLe_iff a b).mp h1) ((intsLe_iff b c).mp h2))

theorem intsLe_antisymm (a b : List Nat) (h1 : intsLe a b = true) (h2 : intsLe b a = true) :
    a = b :=
  (List.cons.inj (List.le_antisymm ((intsLe_iff a b).mp h1) ((intsLe_iff b a).mp h2))).2

theorem intsGt_total (a b : List Nat) (hne : a ≠ b) : intsGt a b = true ∨ intsGt b a = true := by
  rw [intsGt_iff, intsGt_iff]
  by_cases h : b.length :: b < a.length :: a
  · exact .inl h
  · exact .inr ((List.le_iff_lt_or_eq.mp h).resolve_right fun e => hne (List.cons.inj e).2)

/-! ### `mapM` in `Except`

`headerInfos`, `withInts`, `splitAssign` and `sumKeys` are `List.mapM` written out; what a
successful run says about its result is proved once, for `mapM`. -/

section mapM
variable {α β γ δ ε : Type} {f : α → Except ε β}

theorem mapM_cons_except (a : α) (l : List α) :
    (a :: l).mapM f =
      match f a with
      | .error e => .error e
      | .ok b =>
        match l.mapM f with
        | .error e => .error e
        | .ok r => .ok (b :: r) := by
  rw [List.mapM_cons]
  cases f a with
  | error _ => rfl
  | ok _ => cases l.mapM f <;> rfl

theorem mapM_cons_ok {a : α} {l : List α} {b : β} {r : List β} (hb : f a = .ok b)
    (hr : l.mapM f = .ok r) : (a :: l).mapM f = .ok (b :: r) := by
  rw [mapM_cons_except, hb, hr]

theorem of_mapM_cons_ok {a : α} {l : List α} {r : List β} (h : (a :: l).mapM f = .ok r) :
    ∃ b r', f a = .ok b ∧ l.mapM f = .ok r' ∧ r = b :: r' := by
  rw [mapM_cons_except] at h
  cases hb : f a with
  | error e => rw [hb] at h; cases h
  | ok b =>
    cases hr : l.mapM f with
    | error e => rw [hb, hr] at h; cases h
    | ok r' => rw [hb, hr] at h; cases h; exact ⟨b, r', rfl, rfl, rfl⟩

theorem mapM_ok_rel {g : α → Except ε γ} {h₁ : β → δ} {h₂ : γ → δ} {l : List α} :
    ∀ {r : List β} {s : List γ},
    (∀ a ∈ l, ∀ b c, f a = .ok b → g a = .ok c → h₁ b = h₂ c) → l.mapM f = .ok r →
    l.mapM g = .ok s → r.map h₁ = s.map h₂ := by
  induction l with
  | nil => intro r s _ hr hs; cases hr; cases hs; rfl
  | cons a l ih =>
    intro r s H hr hs
    obtain ⟨b, r', hb, hr', e⟩ := of_mapM_cons_ok hr
    obtain ⟨c, s', hc, hs', e'⟩ := of_mapM_cons_ok hs
    rw [e, e', List.map_cons, List.map_cons, H a List.mem_cons_self b c hb hc,
      ih (fun a ha => H a (List.mem_cons_of_mem _ ha)) hr' hs']

theorem mapM_ok_map {h₁ : β → γ} {h : α → γ} {l : List α} {r : List β}
    (H : ∀ a ∈ l, ∀ b, f a = .ok b → h₁ b = h a) (hr : l.mapM f = .ok r) : r.map h₁ = l.map h :=
  (mapM_ok_rel (g := fun a => .ok (h a)) (h₂ := id)
    (fun a ha b _ hb hc => (H a ha b hb).trans (Except.ok.inj hc)) hr List.mapM_pure).trans
    (List.map_id _)

theorem mapM_ok_length {l : List α} {r : List β} (h : l.mapM f = .ok r) : r.length = l.length := by
  have := congrArg List.length
    (mapM_ok_map (h₁ := fun _ => ()) (h := fun _ => ()) (fun _ _ _ _ => rfl) h)
  rwa [List.length_map, List.length_map] at this

theorem mapM_ok_zip {l : List α} : ∀ {r : List β}, l.mapM f = .ok r →
    ∀ x ∈ l.zip r, f x.1 = .ok x.2 := by
  induction l with
  | nil => intro r _ x hx; cases hx
  | cons a l ih =>
    intro r hr x hx
    obtain ⟨b, r', hb, hr', e⟩ := of_mapM_cons_ok hr
    rw [e, List.zip_cons_cons] at hx
    rcases List.mem_cons.mp hx with rfl | hx
    · exact hb
    · exact ih hr' x hx

theorem mapM_ok_mem {l : List α} : ∀ {r : List β}, l.mapM f = .ok r →
    ∀ b ∈ r, ∃ a ∈ l, f a = .ok b := by
  induction l with
  | nil => intro r hr b hb; cases hr; cases hb
  | cons a l ih =>
    intro r hr b hb
    obtain ⟨b', r', hb', hr', e⟩ := of_mapM_cons_ok hr
    rw [e] at hb
    rcases List.mem_cons.mp hb with rfl | hb
    · exact ⟨a, List.mem_cons_self, hb'⟩
    · obtain ⟨a', ha', h⟩ := ih hr' b hb
      exact ⟨a', List.mem_cons_of_mem _ ha', h⟩

theorem mapM_ok_perm {l l' : List α} (hp : l'.Perm l) :
    ∀ {r : List β}, l.mapM f = .ok r → ∃ r', l'.mapM f = .ok r' ∧ r'.Perm r := by
  induction hp with
  | nil => exact fun h => ⟨_, h, .refl _⟩
  | cons a _ ih =>
    intro r h
    obtain ⟨b, r₁, hb, h₁, e⟩ := of_mapM_cons_ok h
    obtain ⟨r₁', h₁', hp⟩ := ih h₁
    exact ⟨b :: r₁', mapM_cons_ok hb h₁', e ▸ hp.cons b⟩
  | swap a a' l =>
    intro r h
    obtain ⟨b, r₁, hb, h₁, e⟩ := of_mapM_cons_ok h
    obtain ⟨b', r₂, hb', h₂, e'⟩ := of_mapM_cons_ok h₁
    exact ⟨b' :: b :: r₂, mapM_cons_ok hb' (mapM_cons_ok hb h₂), e ▸ e' ▸ .swap ..⟩
  | trans _ _ ih₁ ih₂ =>
    intro r h
    obtain ⟨r₁, h₁, p₁⟩ := ih₂ h
    obtain ⟨r₂, h₂, p₂⟩ := ih₁ h₁
    exact ⟨r₂, h₂, p₂.trans p₁⟩

end mapM

theorem headerInfos_eq_mapM (env : SrcEnv) (h : Header) :
    headerInfos env h = h.mapM (entryInfo env) := by
  induction h with
  | nil => rfl
  | cons e es ih =>
    rw [mapM_cons_except, ← ih, headerInfos]
    cases entryInfo env e with
    | error _ => rfl
    | ok _ => cases headerInfos env es <;> rfl

theorem withInts_eq_mapM (o : Order) (infos : List (Entry × SrcSet)) :
    withInts o infos = infos.mapM fun i =>
      match toInt o i.2 with
      | none => .error .keyError
      | some n => .ok (n, i) := by
  induction infos with
  | nil => rfl
  | cons i is ih =>
    rw [mapM_cons_except, ← ih, withInts]
    cases toInt o i.2 with
    | none => rfl
    | some _ => cases withInts o is <;> rfl

theorem splitAssign_eq_mapM (c : SplitCfg) (pool : List PRec) :
    splitAssign c pool = pool.mapM (splitPep c) := by
  induction pool with
  | nil => rfl
  | cons p ps ih =>
    rw [mapM_cons_except, ← ih, splitAssign]
    cases splitPep c p with
    | error _ => rfl
    | ok _ => cases splitAssign c ps <;> rfl

theorem sumKeys_eq_mapM (env : SrcEnv) (rule : Re) (exc : Option Re) (pool : List PRec) :
    sumKeys env rule exc pool = pool.mapM fun p =>
      (sumSources env p).map fun s => (s, (cleaveSites rule exc p.seq).length) := by
  induction pool with
  | nil => rfl
  | cons p ps ih =>
    rw [mapM_cons_except, ← ih, sumKeys]
    cases sumSources env p with
    | error _ => rfl
    | ok _ => cases sumKeys env rule exc ps <;> rfl

theorem insertBy_perm {α} (le : α → α → Bool) (x : α) (l : List α) :
    (insertBy le x l).Perm (x :: l) := by
  induction l with
  | nil => exact .refl _
  | cons y ys ih =>
    rw [insertBy]
    split
    · exact .refl _
    · exact (ih.cons y).trans (.swap x y ys)

theorem isort_perm {α} (le : α → α → Bool) (l : List α) : (isort le l).Perm l := by
  induction l with
  | nil => exact .refl _
  | cons x xs ih => exact (insertBy_perm le x _).trans (ih.cons x)

section sorted
variable {α : Type} (le : α → α → Bool) (htot : ∀ a b, le a b = false → le b a = true)
  (htrans : ∀ a b c, le a b = true → le b c = true → le a c = true)
include htot htrans

theorem insertBy_sorted (x : α) (l : List α) (h : l.Pairwise (fun a b => le a b = true)) :
    (insertBy le x l).Pairwise (fun a b => le a b = true) := by
  induction l with
  | nil => exact List.pairwise_singleton _ _
  | cons y ys ih =>
    have hy := List.pairwise_cons.mp h
    rw [insertBy]
    split
    · rename_i hle
      refine List.pairwise_cons.mpr ⟨fun z hz => ?_, h⟩
      rcases List.mem_cons.mp hz with rfl | hz
      · exact hle
      · exact htrans _ _ _ hle (hy.1 z hz)
    · rename_i hle
      refine List.pairwise_cons.mpr ⟨fun z hz => ?_, ih hy.2⟩
      rcases List.mem_cons.mp ((insertBy_perm le x ys).subset hz) with rfl | hz
      · exact htot _ _ (Bool.not_eq_true _ ▸ hle)
      · exact hy.1 z hz

theorem isort_sorted (l : List α) : (isort le l).Pairwise (fun a b => le a b = true) := by
  induction l with
  | nil => exact .nil
  | cons x xs ih => exact insertBy_sorted le htot htrans x _ ih

theorem isort_head_min (l : List α) (h : α) (t : List α) (he : isort le l = h :: t) :
    ∀ x ∈ l, le h x = true := by
  intro x hx
  have hs := isort_sorted le htot htrans l
  rw [he] at hs
  rcases List.mem_cons.mp (he ▸ (isort_perm le l).symm.subset hx) with rfl | hx
  · exact (Bool.eq_false_or_eq_true _).elim id (htot x x)
  · exact (List.pairwise_cons.mp hs).1 x hx

theorem isort_eq_of_perm (hanti : ∀ a b, le a b = true → le b a = true → a = b)
    {l l' : List α} (h : l.Perm l') : isort le l = isort le l' :=
  List.Perm.eq_of_pairwise (fun a b _ _ => hanti a b) (isort_sorted le htot htrans l)
    (isort_sorted le htot htrans l') (((isort_perm le l).trans h).trans (isort_perm le l').symm)

end sorted

theorem insertBy_map {α β} {f : α → β} {le : β → β → Bool} (x : α) (l : List α) :
    (insertBy (fun a b => le (f a) (f b)) x l).map f = insertBy le (f x) (l.map f) := by
  induction l with
  | nil => rfl
  | cons y ys ih =>
    rw [insertBy, List.map_cons, insertBy]
    split
    · rfl
    · rw [List.map_cons, ih]

theorem isort_map {α β} {f : α → β} {le : β → β → Bool} (l : List α) :
    (isort (fun a b => le (f a) (f b)) l).map f = isort le (l.map f) := by
  induction l with
  | nil => rfl
  | cons x xs ih => exact (insertBy_map x _).trans (congrArg _ ih)

/-! ### the association lists of `split`, `mergeFasta`, `summarizeFasta`

`addToDb`, `addPeptide`, `sumAdd` and `bump` are one operation on a list of entries, `upsert`:
the first entry that satisfies `p` is updated; when there is none, `new` is appended. -/

def upsert {α} (p : α → Bool) (u : α → α) (new : α) : List α → List α
  | [] => [new]
  | a :: l => if p a then u a :: l else a :: upsert p u new l

section upsert
variable {α : Type} {p : α → Bool} {u : α → α} {new : α}

theorem find?_upsert_self (hu : ∀ a, p a = true → p (u a) = true) (hn : p new = true)
    (l : List α) :
    (upsert p u new l).find? p = some (match l.find? p with | some a => u a | none => new) := by
  induction l with
  | nil => rw [upsert, List.find?_cons, hn]; rfl
  | cons a l ih =>
    rw [upsert, List.find?_cons]
    cases h : p a with
    | false => rw [if_neg Bool.false_ne_true, List.find?_cons, h]; exact ih
    | true => rw [if_pos rfl, List.find?_cons, hu a h]

theorem find?_upsert_other {q : α → Bool} (hpq : ∀ a, p a = true → q a = false)
    (hu : ∀ a, q (u a) = q a) (hn : q new = false) (l : List α) :
    (upsert p u new l).find? q = l.find? q := by
  induction l with
  | nil => rw [upsert, List.find?_cons, hn]
  | cons a l ih =>
    rw [upsert]
    cases h : p a with
    | false => rw [if_neg Bool.false_ne_true, List.find?_cons, List.find?_cons, ih]
    | true => rw [if_pos rfl, List.find?_cons, List.find?_cons, hu, hpq a h]

theorem sum_upsert (w : α → Nat) (hu : ∀ a, p a = true → w (u a) = w a + 1) (hn : w new = 1)
    (l : List α) : ((upsert p u new l).map w).sum = (l.map w).sum + 1 := by
  induction l with
  | nil => rw [upsert, List.map_cons, hn]; rfl
  | cons a l ih =>
    rw [upsert]
    cases h : p a with
    | false =>
      rw [if_neg Bool.false_ne_true, List.map_cons, List.sum_cons, ih, List.map_cons, List.sum_cons,
        Nat.add_assoc]
    | true =>
      rw [if_pos rfl, List.map_cons, List.sum_cons, hu a h, List.map_cons, List.sum_cons,
        Nat.add_right_comm]

theorem map_upsert {κ} (key : α → κ) (hu : ∀ a, key (u a) = key a) (l : List α) :
    (upsert p u new l).map key = if l.any p then l.map key else l.map key ++ [key new] := by
  induction l with
  | nil => rfl
  | cons a l ih =>
    rw [upsert, List.any_cons]
    cases h : p a with
    | false =>
      rw [if_neg Bool.false_ne_true, List.map_cons, ih, Bool.false_or, List.map_cons]
      split <;> rfl
    | true => rw [if_pos rfl, Bool.true_or, if_pos rfl, List.map_cons, hu, List.map_cons]

theorem keys_upsert {κ} (key : α → κ) (hu : ∀ a, key (u a) = key a)
    (hp : ∀ a, p a = true ↔ key a = key new) (l : List α) :
    (∀ k, k ∈ (upsert p u new l).map key ↔ k = key new ∨ k ∈ l.map key) ∧
    ((l.map key).Nodup → ((upsert p u new l).map key).Nodup) := by
  have hk : l.any p = true ↔ key new ∈ l.map key := by
    rw [List.any_eq_true, List.mem_map]
    exact exists_congr fun a => and_congr_right fun _ => hp a
  rw [map_upsert key hu]
  split
  · rename_i hany
    exact ⟨fun k => ⟨.inr, fun h => h.elim (fun e => e ▸ hk.mp hany) id⟩, id⟩
  · rename_i hany
    refine ⟨fun k => ?_, fun h => nodup_append_singleton h (mt hk.mpr hany)⟩
    rw [List.mem_append, List.mem_singleton, Or.comm]

end upsert

theorem addToDb_eq (k : DbKey) (x : PRec) (dbs : Dbs) :
    addToDb dbs k x = upsert (fun d => d.1 = k) (fun d => (d.1, d.2 ++ [x])) (k, [x]) dbs := by
  induction dbs with
  | nil => rfl
  | cons d rest ih => rw [addToDb, upsert, ih]; simp only [decide_eq_true_eq]

theorem addPeptide_eq (x : PRec) (pool : List PRec) :
    addPeptide pool x =
      upsert (fun q => q.seq = x.seq) (fun q => ⟨q.seq, q.header ++ x.header⟩) x pool := by
  induction pool with
  | nil => rfl
  | cons q qs ih => rw [addPeptide, upsert, ih]; simp only [decide_eq_true_eq]

theorem bump_eq (k : Nat) (l : List (Nat × Nat)) :
    bump l k = upsert (fun e => e.1 = k) (fun e => (e.1, e.2 + 1)) (k, 1) l := by
  induction l with
  | nil => rfl
  | cons e rest ih => rw [bump, upsert, ih]; simp only [decide_eq_true_eq]

theorem sumAdd_eq (s : SrcSet) (m : Nat) (t : SumTable) :
    sumAdd t s m =
      upsert (fun e => sameSet e.1 s) (fun e => (e.1, e.2.1 + 1, bump e.2.2 m)) (s, 1, [(m, 1)])
        t := by
  induction t with
  | nil => rfl
  | cons e rest ih => rw [sumAdd, upsert, ih]

def dbGet (dbs : Dbs) (k : DbKey) : List PRec :=
  match dbs.find? (fun d => d.1 = k) with
  | some d => d.2
  | none => []

theorem dbGet_addToDb (dbs : Dbs) (k : DbKey) (p : PRec) (k' : DbKey) :
    dbGet (addToDb dbs k p) k' = if k' = k then dbGet dbs k ++ [p] else dbGet dbs k' := by
  rw [addToDb_eq]
  unfold dbGet
  by_cases h : k' = k
  · rw [if_pos h, h, find?_upsert_self]
    · cases dbs.find? _ <;> rfl
    · exact fun _ h => h
    · exact decide_eq_true rfl
  · rw [if_neg h, find?_upsert_other]
    · exact fun a ha => decide_eq_false fun e => h (e.symm.trans (of_decide_eq_true ha))
    · exact fun _ => rfl
    · exact decide_eq_false fun e => h e.symm

theorem addToDb_keys (dbs : Dbs) (k : DbKey) (p : PRec) :
    (∀ k', k' ∈ (addToDb dbs k p).map (·.1) ↔ k' = k ∨ k' ∈ dbs.map (·.1)) ∧
    ((dbs.map (·.1)).Nodup → ((addToDb dbs k p).map (·.1)).Nodup) := by
  rw [addToDb_eq]
  exact keys_upsert (u := fun d : DbKey × List PRec => (d.1, d.2 ++ [p])) (new := (k, [p])) (·.1)
    (fun _ => rfl) (fun _ => decide_eq_true_iff) dbs

theorem sizes_addToDb (dbs : Dbs) (k : DbKey) (p : PRec) :
    ((addToDb dbs k p).map (·.2.length)).sum = (dbs.map (·.2.length)).sum + 1 := by
  rw [addToDb_eq]
  refine sum_upsert _ (fun _ _ => ?_) ?_ dbs
  · exact List.length_append
  · rfl

theorem foldl_addToDb (as : List (DbKey × PRec)) :
    ∀ dbs : Dbs, (dbs.map (·.1)).Nodup →
      let r := as.foldl (fun dbs a => addToDb dbs a.1 a.2) dbs
      (r.map (·.1)).Nodup ∧
      (∀ k, dbGet r k = dbGet dbs k ++ (as.filter (fun a => a.1 = k)).map (·.2)) ∧
      (r.map (·.2.length)).sum = (dbs.map (·.2.length)).sum + as.length := by
  induction as with
  | nil => exact fun dbs h => ⟨h, fun k => (List.append_nil _).symm, rfl⟩
  | cons a as ih =>
    intro dbs h
    obtain ⟨i1, i2, i3⟩ := ih (addToDb dbs a.1 a.2) ((addToDb_keys dbs a.1 a.2).2 h)
    refine ⟨i1, fun k => ?_, ?_⟩
    · rw [List.foldl_cons, i2 k, dbGet_addToDb, List.filter_cons]
      by_cases hk : k = a.1
      · rw [if_pos hk, hk, if_pos (decide_eq_true rfl), List.map_cons, List.append_assoc]; rfl
      · rw [if_neg hk, if_neg (by rw [decide_eq_true_eq]; exact fun e => hk e.symm)]
    · rw [List.foldl_cons, i3, sizes_addToDb, List.length_cons, Nat.add_assoc, Nat.add_comm 1]

theorem split_ok {c : SplitCfg} {pool : List PRec} {dbs : Dbs} (h : split c pool = .ok dbs) :
    ∃ as, pool.mapM (splitPep c) = .ok as ∧ (dbs.map (·.1)).Nodup ∧
      (∀ k, dbGet dbs k = (as.filter (fun a => a.1 = k)).map (·.2)) ∧
      (dbs.map (·.2.length)).sum = as.length := by
  unfold split at h
  split at h
  · cases h
  · rename_i as h₁
    cases h
    obtain ⟨f₁, f₂, f₃⟩ := foldl_addToDb as [] .nil
    exact ⟨as, splitAssign_eq_mapM c pool ▸ h₁, f₁, f₂, f₃.trans (Nat.zero_add _)⟩

/-- header of the first record with sequence `s` (`[]` when absent) -/
def hdrOf (pool : List PRec) (s : Pep) : Header :=
  match pool.find? (fun q => q.seq = s) with
  | some q => q.header
  | none => []

theorem addPeptide_seqs (pool : List PRec) (p : PRec) :
    (∀ s, s ∈ (addPeptide pool p).map (·.seq) ↔ s = p.seq ∨ s ∈ pool.map (·.seq)) ∧
    ((pool.map (·.seq)).Nodup → ((addPeptide pool p).map (·.seq)).Nodup) := by
  rw [addPeptide_eq]
  exact keys_upsert (u := fun q : PRec => ⟨q.seq, q.header ++ p.header⟩) (·.seq) (fun _ => rfl)
    (fun _ => decide_eq_true_iff) pool

theorem addPeptide_hdr (pool : List PRec) (p : PRec) (s : Pep) :
    hdrOf (addPeptide pool p) s = if s = p.seq then hdrOf pool s ++ p.header else hdrOf pool s := by
  rw [addPeptide_eq]
  unfold hdrOf
  by_cases h : s = p.seq
  · rw [if_pos h, h, find?_upsert_self]
    · cases pool.find? _ <;> rfl
    · exact fun _ h => h
    · exact decide_eq_true rfl
  · rw [if_neg h, find?_upsert_other]
    · exact fun a ha => decide_eq_false fun e => h (e.symm.trans (of_decide_eq_true ha))
    · exact fun _ => rfl
    · exact decide_eq_false fun e => h e.symm

theorem bump_sum (l : List (Nat × Nat)) (k : Nat) :
    ((bump l k).map (·.2)).sum = (l.map (·.2)).sum + 1 := by
  rw [bump_eq]
  refine sum_upsert _ (fun _ _ => ?_) ?_ l <;> rfl

theorem sumAdd_total (t : SumTable) (s : SrcSet) (m : Nat) :
    (sumAdd t s m).total = t.total + 1 := by
  rw [sumAdd_eq]
  refine sum_upsert (fun e => e.2.1) (fun _ _ => ?_) ?_ t <;> rfl

theorem total_foldl_sumAdd (ks : List (SrcSet × Nat)) (t : SumTable) :
    (ks.foldl (fun t k => sumAdd t k.1 k.2) t).total = t.total + ks.length := by
  induction ks generalizing t with
  | nil => rfl
  | cons k ks ih => rw [List.foldl_cons, ih, sumAdd_total, List.length_cons, Nat.add_right_comm,
      Nat.add_assoc]

theorem summarize_ok {env : SrcEnv} {rule : Re} {exc : Option Re} {pool : List PRec} {t : SumTable}
    (h : summarize env rule exc pool = .ok t) :
    ∃ ks, sumKeys env rule exc pool = .ok ks ∧ t = ks.foldl (fun t k => sumAdd t k.1 k.2) [] := by
  unfold summarize at h
  split at h
  · cases h
  · cases h
    exact ⟨_, ‹_›, rfl⟩

end MoPepGen
