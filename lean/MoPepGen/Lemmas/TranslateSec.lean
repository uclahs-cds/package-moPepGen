/-
The two-cursor loop of `PVGNode.fix_selenocysteines` (`Model/Translate.lean`, `secLoopAux`).

One iteration looks at the heads of the two lists only and either stops, advances one cursor, or
records a position and advances the Sec cursor: `secBody` is that decision with the two possible
continuations as variables, and everything below is read off it.

Soundness (`mem_secLoopAux`, no assumption): every collected position comes from a location and a
Sec record that pass the tests of the loop body (`SecPair`).  Completeness
(`secLoopAux_complete`) for the inputs the loop is written for (`SecSorted`): the matched
locations of the node all usable (not empty, level 0) and in ONE frame `f`, their whole-codon
windows in ascending order without overlap, the Sec records in frame `f`, non-empty, ascending
without overlap; then EVERY pair with the record inside the window yields its position.  For
unsorted input or mixed frames only soundness holds (the cursors may run past a pair) — the
model follows the code there, the `G-translate-direct` stream exercises it.  Read in the DNA
coordinates of the node (`aaLoc_window`, `aaLoc_refCodonStart`) the two are `sec_hit_sound` and
`sec_hits_exact_of_sorted` of `Props/C01.lean`.
-/
import MoPepGen.Model.Translate
namespace MoPepGen.Translate
open MoPepGen MoPepGen.Spec MoPepGen.Graph

/-- transcript coordinate of the start of the node's codon that holds the first base of the
matched location `l` -/
def DLoc.codonStart (l : DLoc) : Int := (l.rStart : Int) - ((l.qStart % 3 : Nat) : Int)

/-- the stretch of the transcript covered by WHOLE codons of the node inside the matched location
(`ref_codon_start`, `ref_codon_end` of `fix_selenocysteines` after the offset guards) -/
def DLoc.codonWindow (l : DLoc) : Int × Int :=
  (if l.qStart % 3 > 0 then l.codonStart + 3 else l.codonStart,
   if l.qEnd % 3 > 0 then (l.rEnd : Int) - ((l.qEnd % 3 : Nat) : Int) else (l.rEnd : Int))

theorem codon_add_off (r x : Int) : r * 3 + (x - r * 3) = x := by
  rw [Int.add_comm, Int.sub_add_cancel]

/-- proved by writing `q = 3 a + m` and splitting on `m`: `omega` on the quotients themselves is slow
to check -/
theorem ceilDiv3_mul (q : Nat) : ceilDiv3 q * 3 = if q % 3 = 0 then q else q + (3 - q % 3) := by
  have hq := Nat.div_add_mod q 3
  have hm := Nat.mod_lt q (by decide : 3 > 0)
  have hc : ceilDiv3 q = q / 3 + (q % 3 + 2) / 3 := by
    rw [ceilDiv3]
    conv => lhs; rw [← hq, Nat.add_assoc, Nat.mul_add_div (by decide)]
  rw [hc]
  generalize q / 3 = a at hq ⊢
  generalize q % 3 = m at hq hm ⊢
  subst hq
  have : m = 0 ∨ m = 1 ∨ m = 2 := by omega
  rcases this with rfl | rfl | rfl
  · exact Nat.mul_comm _ _
  · show (a + 1) * 3 = 3 * a + 1 + 2; rw [Nat.add_mul, Nat.mul_comm]
  · show (a + 1) * 3 = 3 * a + 2 + 1; rw [Nat.add_mul, Nat.mul_comm]

theorem aaLoc_refCodonStart (l : DLoc) : (aaLoc l).refCodonStart = l.codonStart := by
  have hm := Nat.mod_le l.qStart 3
  rw [show (aaLoc l).refCodonStart = _ from codon_add_off _ _, Nat.div_mul_self_eq_mod_sub_self, DLoc.codonStart]
  omega

theorem aaLoc_window (l : DLoc) : (aaLoc l).window = l.codonWindow := by
  have hs := Nat.mod_le l.qStart 3
  have he := Nat.mod_lt l.qEnd (by decide : 3 > 0)
  unfold ALoc.window DLoc.codonWindow
  rw [aaLoc_refCodonStart, show (aaLoc l).refCodonEnd = _ from codon_add_off _ _,
    show (aaLoc l).qStartOff = l.qStart - l.qStart / 3 * 3 from rfl,
    show (aaLoc l).qEndOff = ceilDiv3 l.qEnd * 3 - l.qEnd from rfl, Nat.div_mul_self_eq_mod_sub_self, ceilDiv3_mul,
    Nat.sub_sub_self hs]
  generalize l.qEnd % 3 = b at he
  refine Prod.ext rfl ?_
  by_cases hb : b = 0
  · subst hb; simp
  · rw [if_neg hb, if_pos (Nat.pos_of_ne_zero hb), Nat.add_sub_cancel_left,
      if_pos (Nat.sub_pos_of_lt he)]
    omega

/-- the position the loop records for the pair -/
def hitOf (l : ALoc) (s : Nat × Nat) : Nat :=
  l.qStart + (Int.tdiv ((s.1 : Int) - l.refCodonStart) 3).toNat

/-- the body of the `while loc and sect` loop on the heads `loc`, `sect`, its tests written as
propositions: `A` stands for the run with the location cursor advanced, `B` for the run with the
Sec cursor advanced -/
def secBody (loc : ALoc) (sect : Nat × Nat) (A B : List Nat) : List Nat :=
  if loc.len = 0 then []
  else if loc.lvl0 = false then A
  else if loc.qRf ≠ sect.1 % 3 then
    if loc.refDnaStart > (sect.1 : Int) then B else A
  else if loc.window.1 ≥ loc.window.2 then A
  else if loc.window.1 ≤ (sect.1 : Int) ∧ loc.window.2 ≥ (sect.2 : Int) then hitOf loc sect :: B
  else if loc.window.1 > (sect.1 : Int) ∨
      (loc.window.1 = (sect.1 : Int) ∧ loc.window.2 > (sect.2 : Int)) then B
  else A

theorem secLoopAux_cons (fuel : Nat) (loc : ALoc) (ls : List ALoc) (sect : Nat × Nat)
    (ss : List (Nat × Nat)) :
    secLoopAux (fuel + 1) (loc :: ls) (sect :: ss) =
      secBody loc sect (secLoopAux fuel ls (sect :: ss)) (secLoopAux fuel (loc :: ls) ss) := by
  simp only [secLoopAux, secBody, hitOf, beq_iff_eq, bne_iff_ne, Bool.not_eq_true', Bool.and_eq_true,
    Bool.or_eq_true, decide_eq_true_eq]

/-- the tests of the loop body under which it records a position for the pair -/
def SecPair (loc : ALoc) (s : Nat × Nat) : Prop :=
  loc.len ≠ 0 ∧ loc.lvl0 = true ∧ loc.qRf = s.1 % 3 ∧ loc.window.1 < loc.window.2 ∧
    loc.window.1 ≤ (s.1 : Int) ∧ (s.2 : Int) ≤ loc.window.2

/-- the `if`s are taken one at a time: `split` on the whole cascade is slow to check -/
theorem mem_secBody {loc : ALoc} {sect : Nat × Nat} {A B : List Nat} {k : Nat}
    (h : k ∈ secBody loc sect A B) : k ∈ A ∨ k ∈ B ∨ (SecPair loc sect ∧ k = hitOf loc sect) := by
  unfold secBody at h
  by_cases hlen : loc.len = 0
  · rw [if_pos hlen] at h; cases h
  rw [if_neg hlen] at h
  by_cases hlvl : loc.lvl0 = false
  · rw [if_pos hlvl] at h; exact Or.inl h
  rw [if_neg hlvl] at h
  by_cases hrf : loc.qRf ≠ sect.1 % 3
  · rw [if_pos hrf] at h
    by_cases hd : loc.refDnaStart > (sect.1 : Int)
    · rw [if_pos hd] at h; exact Or.inr (Or.inl h)
    · rw [if_neg hd] at h; exact Or.inl h
  rw [if_neg hrf] at h
  by_cases hw : loc.window.1 ≥ loc.window.2
  · rw [if_pos hw] at h; exact Or.inl h
  rw [if_neg hw] at h
  by_cases hin : loc.window.1 ≤ (sect.1 : Int) ∧ loc.window.2 ≥ (sect.2 : Int)
  · rw [if_pos hin] at h
    rcases List.mem_cons.mp h with rfl | h
    · exact Or.inr (Or.inr ⟨⟨hlen, (Bool.not_eq_false _).mp hlvl, Decidable.not_not.mp hrf,
        Int.not_le.mp hw, hin.1, hin.2⟩, rfl⟩)
    · exact Or.inr (Or.inl h)
  rw [if_neg hin] at h
  by_cases hgt : loc.window.1 > (sect.1 : Int) ∨
      (loc.window.1 = (sect.1 : Int) ∧ loc.window.2 > (sect.2 : Int))
  · rw [if_pos hgt] at h; exact Or.inr (Or.inl h)
  · rw [if_neg hgt] at h; exact Or.inl h

theorem mem_secLoopAux {k : Nat} : ∀ (fuel : Nat) (locs : List ALoc) (sects : List (Nat × Nat)),
    k ∈ secLoopAux fuel locs sects → ∃ loc ∈ locs, ∃ s ∈ sects, SecPair loc s ∧ k = hitOf loc s
  | 0, _, _ | _ + 1, [], _ | _ + 1, _ :: _, [] => fun h => nomatch h
  | fuel + 1, loc :: ls, sect :: ss => fun h => by
    rw [secLoopAux_cons] at h
    rcases mem_secBody h with h | h | h
    · obtain ⟨l, hl, rest⟩ := mem_secLoopAux fuel ls (sect :: ss) h
      exact ⟨l, List.mem_cons_of_mem _ hl, rest⟩
    · obtain ⟨l, hl, s, hs, rest⟩ := mem_secLoopAux fuel (loc :: ls) ss h
      exact ⟨l, hl, s, List.mem_cons_of_mem _ hs, rest⟩
    · exact ⟨loc, List.mem_cons_self, sect, List.mem_cons_self, h⟩

/-- the positions `fix_selenocysteines` collects for the node made from `n` -/
def secHits (g : TGraphIn) (n : DNode) : List Nat := secLoop (n.locs.map aaLoc) g.sect

theorem secLoop_nil_right (locs : List ALoc) : secLoop locs [] = [] := by
  cases locs <;> rfl

structure SecSorted (f : Nat) (locs : List ALoc) (sects : List (Nat × Nat)) : Prop where
  locOk : ∀ l ∈ locs, l.len ≠ 0 ∧ l.lvl0 = true ∧ l.qRf = f
  secOk : ∀ s ∈ sects, s.1 % 3 = f ∧ s.1 < s.2
  locAsc : locs.Pairwise fun a b => a.window.2 ≤ b.window.1
  secAsc : sects.Pairwise fun a b => a.2 ≤ b.1

theorem SecSorted.tailLoc {f : Nat} {l : ALoc} {ls : List ALoc} {ss : List (Nat × Nat)}
    (h : SecSorted f (l :: ls) ss) : SecSorted f ls ss :=
  ⟨fun x hx => h.locOk x (List.mem_cons_of_mem _ hx), h.secOk, (List.pairwise_cons.mp h.locAsc).2, h.secAsc⟩

theorem SecSorted.tailSec {f : Nat} {ls : List ALoc} {s : Nat × Nat} {ss : List (Nat × Nat)}
    (h : SecSorted f ls (s :: ss)) : SecSorted f ls ss :=
  ⟨h.locOk, fun x hx => h.secOk x (List.mem_cons_of_mem _ hx), h.locAsc, (List.pairwise_cons.mp h.secAsc).2⟩

theorem secLoopAux_complete (f : Nat) : ∀ (fuel : Nat) (locs : List ALoc) (sects : List (Nat × Nat)),
    locs.length + sects.length ≤ fuel → SecSorted f locs sects →
    ∀ l ∈ locs, ∀ s ∈ sects, l.window.1 ≤ (s.1 : Int) → (s.2 : Int) ≤ l.window.2 →
      hitOf l s ∈ secLoopAux fuel locs sects
  | _, [], _ => fun _ _ _ hl => by cases hl
  | 0, _ :: _, _ => fun hlen => by simp at hlen
  | _ + 1, _ :: _, [] => fun _ _ _ _ _ hs => by cases hs
  | fuel + 1, loc :: ls, sect :: ss => by
    intro hlen hS l hl s hs hc1 hc2
    obtain ⟨hlen0, hlvl, hrf⟩ := hS.locOk loc List.mem_cons_self
    obtain ⟨hsf, hsne⟩ := hS.secOk sect List.mem_cons_self
    have hsne_s := (hS.secOk s hs).2
    have hlocAsc := (List.pairwise_cons.mp hS.locAsc).1
    have hsecAsc := (List.pairwise_cons.mp hS.secAsc).1
    simp only [List.length_cons] at hlen
    -- the two recursive calls, for the pair at hand
    have nextLoc : l ∈ ls → hitOf l s ∈ secLoopAux fuel ls (sect :: ss) := fun hl' =>
      secLoopAux_complete f fuel ls (sect :: ss) (Nat.le_of_succ_le_succ (Nat.succ_add .. ▸ hlen))
        hS.tailLoc l hl' s hs hc1 hc2
    have nextSec : s ∈ ss → hitOf l s ∈ secLoopAux fuel (loc :: ls) ss := fun hs' =>
      secLoopAux_complete f fuel (loc :: ls) ss (Nat.le_of_succ_le_succ hlen) hS.tailSec
        l hl s hs' hc1 hc2
    rw [secLoopAux_cons, secBody, if_neg hlen0, if_neg (hlvl ▸ Bool.noConfusion),
      if_neg (not_not_intro (hrf.trans hsf.symm))]
    clear hlen hS hlen0 hlvl hrf hsf
    by_cases hw : loc.window.1 ≥ loc.window.2
    · -- an empty window: the location is skipped
      rw [if_pos hw]
      rcases List.mem_cons.mp hl with rfl | hl'
      · omega
      · exact nextLoc hl'
    rw [if_neg hw]
    by_cases hin : loc.window.1 ≤ (sect.1 : Int) ∧ loc.window.2 ≥ (sect.2 : Int)
    · -- the record lies in the window of the first location
      rw [if_pos hin]
      rcases List.mem_cons.mp hs with rfl | hs'
      · rcases List.mem_cons.mp hl with rfl | hl'
        · exact List.mem_cons_self
        · have := hlocAsc l hl'
          omega
      · exact List.mem_cons_of_mem _ (nextSec hs')
    rw [if_neg hin]
    by_cases hgt : loc.window.1 > (sect.1 : Int) ∨
        (loc.window.1 = (sect.1 : Int) ∧ loc.window.2 > (sect.2 : Int))
    · -- the window lies behind the record: next record
      rw [if_pos hgt]
      rcases List.mem_cons.mp hs with rfl | hs'
      · rcases List.mem_cons.mp hl with rfl | hl'
        · omega
        · have := hlocAsc l hl'
          omega
      · exact nextSec hs'
    · -- the window lies in front of the record: next location
      rw [if_neg hgt]
      rcases List.mem_cons.mp hl with rfl | hl'
      · rcases List.mem_cons.mp hs with rfl | hs'
        · omega
        · have := hsecAsc s hs'
          omega
      · exact nextLoc hl'

theorem secLoopAux_fuel (k : Nat) : ∀ (fuel : Nat) (locs : List ALoc) (sects : List (Nat × Nat)),
    locs.length + sects.length ≤ fuel → secLoopAux (fuel + k) locs sects = secLoopAux fuel locs sects
  | 0, [], _ => fun _ => by cases k <;> rfl
  | 0, _ :: _, _ => fun hlen => by simp at hlen
  | _ + 1, [], _ | _ + 1, _ :: _, [] => fun _ => by rw [Nat.add_right_comm]; rfl
  | fuel + 1, loc :: ls, sect :: ss => fun hlen => by
    simp only [List.length_cons] at hlen
    rw [Nat.add_right_comm, secLoopAux_cons, secLoopAux_cons,
      secLoopAux_fuel k fuel ls (sect :: ss) (Nat.le_of_succ_le_succ (Nat.succ_add .. ▸ hlen)),
      secLoopAux_fuel k fuel (loc :: ls) ss (Nat.le_of_succ_le_succ hlen)]

theorem secLoop_fuel (locs : List ALoc) (sects : List (Nat × Nat)) (k : Nat) :
    secLoopAux (locs.length + sects.length + k) locs sects = secLoop locs sects :=
  secLoopAux_fuel _ _ _ _ (Nat.le_refl _)

end MoPepGen.Translate
