/-
Layer G: a map `f` of node indices that carries a part `S` of a graph `G`, closed under
successors, onto a part of a graph `H`, successor lists included (`Embeds`), carries the maximal
paths and the walks from a node of `S` over, in both directions.  This is the relation between
the transcript variant graph and the graph `ThreeFrameTVG.translate` builds from it (`Final.embeds` in
`Lemmas/Translate.lean`: `f = pix`, `S` = the nodes the search reaches).
-/
import MoPepGen.Lemmas.GraphExpand
namespace MoPepGen.Graph
open MoPepGen MoPepGen.Spec

structure Embeds (G H : Graph) (f : Nat → Nat) (S : Nat → Prop) : Prop where
  inj : ∀ {a b}, f a = f b → a = b
  ltG : ∀ {o}, S o → o < G.size
  ltH : ∀ {o}, S o → f o < H.size
  succs_iff : ∀ {o}, S o → ∀ q, q ∈ succs H (f o) ↔ ∃ o' ∈ succs G o, q = f o'
  closed : ∀ {o o'}, S o → o' ∈ succs G o → S o'

namespace Embeds
variable {G H : Graph} {f : Nat → Nat} {S : Nat → Prop}

theorem maxPath_map (h : Embeds G H f S) {o : Nat} {p : List Nat} (hm : MaxPath G o p) :
    S o → MaxPath H (f o) (p.map f) ∧ ∀ o' ∈ p, S o' := by
  induction hm with
  | @leaf i _ hs =>
    intro hS
    refine ⟨MaxPath.leaf (h.ltH hS) (List.eq_nil_iff_forall_not_mem.mpr fun q hq => ?_),
      fun o' ho' => List.mem_singleton.mp ho' ▸ hS⟩
    obtain ⟨o', ho', _⟩ := (h.succs_iff hS q).mp hq
    rw [hs] at ho'; cases ho'
  | @step i o' p _ ho' _ ih =>
    intro hS
    obtain ⟨h1, h2⟩ := ih (h.closed hS ho')
    exact ⟨MaxPath.step (h.ltH hS) ((h.succs_iff hS _).mpr ⟨o', ho', rfl⟩) h1,
      fun x hx => (List.mem_cons.mp hx).elim (· ▸ hS) (h2 x)⟩

theorem maxPath_of_map (h : Embeds G H f S) {i : Nat} {q : List Nat} (hm : MaxPath H i q) :
    ∀ o, i = f o → S o → ∃ p, MaxPath G o p ∧ q = p.map f := by
  induction hm with
  | @leaf i _ hs =>
    rintro o rfl hS
    refine ⟨[o], MaxPath.leaf (h.ltG hS) (List.eq_nil_iff_forall_not_mem.mpr fun o' ho' => ?_), rfl⟩
    have := (h.succs_iff hS (f o')).mpr ⟨o', ho', rfl⟩
    rw [hs] at this; cases this
  | @step i j q _ hj _ ih =>
    rintro o rfl hS
    obtain ⟨o', ho', rfl⟩ := (h.succs_iff hS j).mp hj
    obtain ⟨p, hp, rfl⟩ := ih o' rfl (h.closed hS ho')
    exact ⟨o :: p, MaxPath.step (h.ltG hS) ho' hp, rfl⟩

theorem maxPath_iff (h : Embeds G H f S) {o : Nat} (hS : S o) (q : List Nat) :
    MaxPath H (f o) q ↔ ∃ p, MaxPath G o p ∧ q = p.map f :=
  ⟨fun hm => h.maxPath_of_map hm o rfl hS, fun ⟨_, hm, hq⟩ => hq ▸ (h.maxPath_map hm hS).1⟩

theorem exists_maxPath_iff (h : Embeds G H f S) {o : Nat} (hS : S o) {α : Type} {Y X : List Nat → α}
    (hX : ∀ p, MaxPath G o p → Y (p.map f) = X p) (w : α) :
    (∃ q, MaxPath H (f o) q ∧ Y q = w) ↔ ∃ p, MaxPath G o p ∧ w = X p := by
  constructor
  · rintro ⟨q, hq, rfl⟩
    obtain ⟨p, hm, rfl⟩ := (h.maxPath_iff hS q).mp hq
    exact ⟨p, hm, hX p hm⟩
  · rintro ⟨p, hm, rfl⟩
    exact ⟨p.map f, (h.maxPath_iff hS _).mpr ⟨p, hm, rfl⟩, hX p hm⟩

theorem nwalk_map (h : Embeds G H f S) {t o : Nat} {p : List Nat} (hw : NWalk G t o p) :
    S o → NWalk H (f t) (f o) (p.map f) ∧ S t ∧ ∀ o' ∈ p, S o' := by
  induction hw with
  | here _ => exact fun hS => ⟨NWalk.here (h.ltH hS), hS, fun _ hx => nomatch hx⟩
  | @step i o' p _ ho' _ ih =>
    intro hS
    obtain ⟨h1, h2, h3⟩ := ih (h.closed hS ho')
    exact ⟨NWalk.step (h.ltH hS) ((h.succs_iff hS _).mpr ⟨o', ho', rfl⟩) h1, h2,
      fun x hx => (List.mem_cons.mp hx).elim (· ▸ hS) (h3 x)⟩

theorem nwalk_of_map (h : Embeds G H f S) {t' i : Nat} {q : List Nat} (hw : NWalk H t' i q) :
    ∀ o t, i = f o → t' = f t → S o → ∃ p, NWalk G t o p ∧ q = p.map f := by
  induction hw with
  | here _ =>
    intro o t hio ht hS
    cases h.inj (hio.symm.trans ht)
    exact ⟨[], NWalk.here (h.ltG hS), rfl⟩
  | @step i j q _ hj _ ih =>
    rintro o t rfl ht hS
    obtain ⟨o', ho', rfl⟩ := (h.succs_iff hS j).mp hj
    obtain ⟨p, hp, rfl⟩ := ih o' t rfl ht (h.closed hS ho')
    exact ⟨o :: p, NWalk.step (h.ltG hS) ho' hp, rfl⟩

end Embeds
end MoPepGen.Graph
