import MoPepGen.Model.DigestPos
/-!
The boundary list `[0] + sites + [n]` of `enzymatic_cleave` seen through the counting function
`rank`, for an arbitrary predicate `Q` on positions with `Q 0` — read `Q i` as "`i` is the
N-terminus or a site".  The list is then `(positions ≤ n satisfying Q) ++ [n]`: every index but the
last holds a `Q`-position `v`, at index `rank v`; index pairs `st < en` and position pairs
correspond (`idx_to_pos`, `pos_to_idx`).
-/
namespace MoPepGen
namespace Rank

variable (Q : Nat → Bool)

/-- number of `Q`-positions strictly below `v` -/
def rank (v : Nat) : Nat := ((List.range v).filter Q).length

/-- number of `Q`-positions strictly between `a` and `b` -/
def between (a b : Nat) : Nat := rank (fun i => decide (a < i) && Q i) b

def bs (n : Nat) : List Nat := (List.range (n + 1)).filter Q ++ [n]

theorem rank_succ (v : Nat) : rank Q (v + 1) = rank Q v + (if Q v then 1 else 0) := by
  rw [rank, rank, List.range_succ, List.filter_append, List.length_append, List.filter_cons]
  cases Q v <;> rfl

theorem rank_succ_pos {v : Nat} (h : Q v = true) : rank Q (v + 1) = rank Q v + 1 := by
  rw [rank_succ, if_pos h]

theorem rank_succ_neg {v : Nat} (h : Q v = false) : rank Q (v + 1) = rank Q v := by
  rw [rank_succ, h]; rfl

theorem filter_range_split {m v : Nat} (h : v ≤ m) :
    (List.range m).filter Q =
      (List.range v).filter Q ++ (List.range' v (m - v)).filter Q := by
  obtain ⟨k, rfl⟩ := Nat.exists_eq_add_of_le h
  rw [← List.filter_append, Nat.add_sub_cancel_left, List.range_eq_range', List.range_eq_range',
    ← List.range'_append_1, Nat.zero_add]

theorem rank_mono {a b : Nat} (h : a ≤ b) : rank Q a ≤ rank Q b := by
  rw [rank, rank, filter_range_split Q h, List.length_append]
  exact Nat.le_add_right _ _

theorem rank_lt {v m : Nat} (hv : Q v = true) (hm : v < m) : rank Q v < rank Q m :=
  Nat.lt_of_lt_of_le (by rw [rank_succ_pos Q hv]; exact Nat.lt_succ_self _) (rank_mono Q hm)

theorem rank_eq_zero_iff (h0 : Q 0 = true) (a : Nat) : rank Q a = 0 ↔ a = 0 :=
  ⟨fun h => Nat.eq_zero_of_not_pos fun ha => Nat.not_lt_zero _ (h ▸ rank_lt Q h0 ha),
    fun e => e.symm ▸ rfl⟩

theorem between_eq (a b : Nat) : between Q a b = rank Q b - rank Q (a + 1) := by
  induction b with
  | zero => exact (Nat.zero_sub _).symm
  | succ b ih =>
    rw [between, rank_succ, ← between, ih, rank_succ Q b]
    by_cases h : a < b
    · rw [decide_eq_true h, Bool.true_and]
      exact (Nat.sub_add_comm (rank_mono Q h)).symm
    · have := rank_mono Q (show b + 1 ≤ a + 1 by omega)
      rw [rank_succ Q b] at this
      rw [decide_eq_false h, Bool.false_and, if_neg Bool.false_ne_true, Nat.sub_eq_zero_of_le this,
        Nat.sub_eq_zero_of_le (Nat.le_trans (Nat.le_add_right _ _) this)]

theorem filter_range_getElem?_rank {m v : Nat} (hv : Q v = true) (hm : v < m) :
    ((List.range m).filter Q)[rank Q v]? = some v := by
  obtain ⟨k, hk⟩ := Nat.exists_eq_add_one_of_ne_zero (Nat.sub_ne_zero_of_lt hm)
  rw [filter_range_split Q (Nat.le_of_lt hm), hk, List.range'_succ, List.filter_cons, if_pos hv,
    List.getElem?_append_right (Nat.le_refl (rank Q v)), rank, Nat.sub_self]
  rfl

theorem filter_range_getElem?_inv {m k v : Nat} (h : ((List.range m).filter Q)[k]? = some v) :
    Q v = true ∧ v < m ∧ rank Q v = k := by
  have hmem := List.mem_of_getElem? h
  rw [List.mem_filter, List.mem_range] at hmem
  refine ⟨hmem.2, hmem.1, ?_⟩
  have h2 := filter_range_getElem?_rank Q hmem.2 hmem.1
  have hk := (List.getElem?_eq_some_iff.mp h).1
  exact ((List.getElem?_inj hk (List.nodup_range.filter _)).mp (h.trans h2.symm)).symm

theorem bs_length (n : Nat) : (bs Q n).length = rank Q (n + 1) + 1 :=
  List.length_append

theorem bs_getD_last (n : Nat) : (bs Q n).getD (rank Q (n + 1)) 0 = n := by
  rw [List.getD_eq_getElem?_getD, bs, List.getElem?_append_right (Nat.le_refl (rank Q (n + 1))),
    rank, Nat.sub_self]
  rfl

theorem bs_getD_rank {n v : Nat} (hv : Q v = true) (hn : v ≤ n) :
    (bs Q n).getD (rank Q v) 0 = v := by
  have hl := rank_lt Q hv (Nat.lt_succ_of_le hn)
  rw [List.getD_eq_getElem?_getD, bs, List.getElem?_append_left hl,
    filter_range_getElem?_rank Q hv (Nat.lt_succ_of_le hn)]
  rfl

theorem bs_getD_bnd {n b : Nat} (hb : Q b = true ∨ b = n) (hn : b ≤ n) :
    (bs Q n).getD (rank Q b) 0 = b := by
  cases hq : Q b with
  | true => exact bs_getD_rank Q hq hn
  | false =>
    have e : b = n := hb.resolve_left (by rw [hq]; exact Bool.false_ne_true)
    subst e
    rw [← rank_succ_neg Q hq]
    exact bs_getD_last Q b

theorem bs_getD_lt {n k : Nat} (h : k < rank Q (n + 1)) :
    Q ((bs Q n).getD k 0) = true ∧ (bs Q n).getD k 0 ≤ n ∧ rank Q ((bs Q n).getD k 0) = k := by
  have hget := List.getElem?_eq_getElem (l := (List.range (n + 1)).filter Q) h
  obtain ⟨hq, hlt, hr⟩ := filter_range_getElem?_inv Q hget
  rw [List.getD_eq_getElem?_getD, bs, List.getElem?_append_left h, hget]
  exact ⟨hq, Nat.le_of_lt_succ hlt, hr⟩

theorem idx_to_pos (n : Nat) (h0 : Q 0 = true) {st en a b : Nat} (h1 : st < en)
    (h2 : en < (bs Q n).length) (ha : (bs Q n).getD st 0 = a) (hb : (bs Q n).getD en 0 = b) :
    Q a = true ∧ (Q b = true ∨ b = n) ∧ (a < b ∨ (a = n ∧ b = n)) ∧
      between Q a b ≤ en - st - 1 ∧ (st = 0 ↔ a = 0) := by
  rw [bs_length] at h2
  obtain ⟨qa, han, ra⟩ := bs_getD_lt Q (n := n) (k := st) (by omega)
  rw [ha] at qa han ra
  subst ra
  rw [between_eq, rank_succ_pos Q qa]
  rcases Nat.lt_or_ge en (rank Q (n + 1)) with hen | hen
  · obtain ⟨qb, -, rb⟩ := bs_getD_lt Q hen
    rw [hb] at qb rb
    subst rb
    have hab : a < b := Nat.lt_of_not_le fun h => absurd (rank_mono Q h) (by omega)
    exact ⟨qa, Or.inl qb, Or.inl hab, by omega, rank_eq_zero_iff Q h0 a⟩
  · obtain rfl : en = rank Q (n + 1) := by omega
    rw [bs_getD_last] at hb
    subst hb
    have := rank_mono Q (Nat.le_add_right n 1)
    refine ⟨qa, Or.inr rfl, ?_, by omega, rank_eq_zero_iff Q h0 a⟩
    rcases Nat.lt_or_ge a n with h | h
    · exact Or.inl h
    · exact Or.inr ⟨Nat.le_antisymm han h, rfl⟩

theorem pos_to_idx (n : Nat) (h0 : Q 0 = true) {a b : Nat} (qa : Q a = true)
    (hb : Q b = true ∨ b = n) (hbn : b ≤ n) (hab : a < b ∨ (a = n ∧ b = n)) :
    ∃ st en, st < en ∧ en < (bs Q n).length ∧ (bs Q n).getD st 0 = a ∧
      (bs Q n).getD en 0 = b ∧ en - st - 1 ≤ between Q a b ∧ (st = 0 ↔ a = 0) := by
  have hsa := rank_succ_pos Q qa
  rw [bs_length, between_eq, hsa]
  rcases hab with hab | ⟨ea, eb⟩
  · have := rank_lt Q qa hab
    have := rank_mono Q (Nat.le_add_right_of_le (k := 1) hbn)
    exact ⟨rank Q a, rank Q b, ‹_›, by omega, bs_getD_rank Q qa (by omega), bs_getD_bnd Q hb hbn,
      by omega, rank_eq_zero_iff Q h0 a⟩
  · rw [ea] at qa hsa
    rw [ea, eb]
    exact ⟨rank Q n, rank Q (n + 1), by omega, by omega, bs_getD_rank Q qa (Nat.le_refl n),
      bs_getD_last Q n, by omega, rank_eq_zero_iff Q h0 n⟩

end Rank

/-! ### the boundary list of `enzymatic_cleave`

`bounds sites n = 0 :: (sites ++ [n])` for the sites given by a predicate `P` with `P 0 = false`
is the list above for `Q i = (i = 0 ∨ P i)`. -/

open Rank

def orZero (P : Nat → Bool) (i : Nat) : Bool := i == 0 || P i

theorem orZero_iff {P : Nat → Bool} {i : Nat} : orZero P i = true ↔ i = 0 ∨ P i = true := by
  rw [orZero, Bool.or_eq_true, beq_iff_eq]

theorem bounds_eq_bs (P : Nat → Bool) (h0 : P 0 = false) (n : Nat) :
    bounds ((List.range (n + 1)).filter P) n = bs (orZero P) n := by
  have e : (List.map Nat.succ (List.range n)).filter (orZero P) =
      (List.map Nat.succ (List.range n)).filter P := by
    apply List.filter_congr
    intro x hx
    obtain ⟨y, -, rfl⟩ := List.mem_map.mp hx
    rfl
  rw [bounds, bs, List.range_succ_eq_map, List.filter_cons, List.filter_cons, h0, e]
  rfl

theorem between_orZero (P : Nat → Bool) (a b : Nat) : between (orZero P) a b = between P a b := by
  rw [between, between]
  congr 2
  funext i
  cases i with
  | zero => rw [Nat.not_lt_zero a |> decide_eq_false]; rfl
  | succ i => rfl

theorem posPair_iff (c : CleaveCfg) (s : Pep) (a b : Nat) :
    posPair c s a b = true ↔
      (a = 0 ∨ isSite c.rule c.exc s a = true ∨ a = s.length) ∧
      (b = 0 ∨ isSite c.rule c.exc s b = true ∨ b = s.length) ∧
      (a < b ∨ (a = s.length ∧ b = s.length ∧
        (s.length = 0 ∨ isSite c.rule c.exc s s.length = true))) ∧
      ((List.range b).filter fun i => decide (a < i) && isSite c.rule c.exc s i).length ≤ c.misc := by
  simp only [posPair, isBoundary, endTwice, Bool.and_eq_true, Bool.or_eq_true, beq_iff_eq,
    decide_eq_true_eq, and_assoc, or_assoc]
  rfl

end MoPepGen
