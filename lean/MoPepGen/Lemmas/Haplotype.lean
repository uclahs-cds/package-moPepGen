/-
Lemmas about the haplotypes of the definitional layer (`Spec/CallVariant.lean`): a strictly
separated list of records with `start ≤ stop` is strictly ascending in `start`,
hence duplicate-free, and is the unique start-sorted arrangement of its elements — so the
insertion sort `sortByStart` of any permutation of it returns it, and it is the sort of a
sub-list of any pool that contains its records.  Plus: every record of `recordPool` starts
behind the start codon; and the unfolding lemmas that relate the protein language of Layer G
(`protLang`) to its DNA language (`tvgLang`).
-/
import MoPepGen.Model.Graph
namespace MoPepGen.Hap
open MoPepGen MoPepGen.Spec MoPepGen.Graph

theorem separated_tail : ∀ (a : Var) (rest : List Var),
    separated (a :: rest) = true → separated rest = true := by
  intro a rest h
  cases rest with
  | nil => rfl
  | cons b r =>
    simp only [separated, Bool.and_eq_true] at h
    exact h.2

theorem strictStarts_of_separated : ∀ (h : List Var),
    separated h = true → (∀ v ∈ h, v.start ≤ v.stop) →
    h.Pairwise (fun a b => a.start < b.start) := by
  intro h
  induction h with
  | nil => intros; exact List.Pairwise.nil
  | cons a rest ih =>
    intro hsep hpos
    have hrest := ih (separated_tail a rest hsep) (fun v hv => hpos v (List.mem_cons_of_mem _ hv))
    refine List.pairwise_cons.mpr ⟨?_, hrest⟩
    cases rest with
    | nil => intro x hx; cases hx
    | cons b r =>
      have hab : a.start < b.start := by
        simp only [separated, Bool.and_eq_true, decide_eq_true_eq] at hsep
        exact Nat.lt_of_le_of_lt (hpos a List.mem_cons_self) hsep.1
      intro x hx
      rcases List.mem_cons.mp hx with rfl | hx
      · exact hab
      · exact Nat.lt_trans hab ((List.pairwise_cons.mp hrest).1 x hx)

theorem nodup_of_strictStarts {h : List Var}
    (hs : h.Pairwise (fun a b => a.start < b.start)) : h.Nodup :=
  hs.imp (S := (· ≠ ·)) fun hab he => Nat.lt_irrefl _ (he ▸ hab)

theorem eq_of_start_eq {h : List Var} (hs : h.Pairwise (fun a b => a.start < b.start)) :
    ∀ a ∈ h, ∀ b ∈ h, a.start = b.start → a = b :=
  List.Pairwise.forall_of_forall_of_flip (fun _ _ _ => rfl)
    (hs.imp fun hlt e => absurd e (Nat.ne_of_lt hlt))
    (hs.imp fun hlt e => absurd e.symm (Nat.ne_of_lt hlt))

theorem sortByStart_eq_of_perm {s h : List Var} (hp : s.Perm h)
    (hs : h.Pairwise (fun a b => a.start < b.start)) : sortByStart s = h := by
  have hperm : (sortByStart s).Perm h := (sortByStart_perm s).trans hp
  refine List.Perm.eq_of_pairwise (le := fun a b => a.start ≤ b.start) ?_
    (sortByStart_ascending s) (hs.imp Nat.le_of_lt) hperm
  intro a b ha hb h1 h2
  exact eq_of_start_eq hs a (hperm.subset ha) b hb (Nat.le_antisymm h1 h2)

theorem sortByStart_id {h : List Var} (hs : h.Pairwise (fun a b => a.start < b.start)) :
    sortByStart h = h :=
  sortByStart_eq_of_perm (List.Perm.refl h) hs

theorem filter_mem_perm {pool h : List Var} (hpool : pool.Nodup) (hh : h.Nodup)
    (hsub : ∀ v ∈ h, v ∈ pool) : (pool.filter fun v => decide (v ∈ h)).Perm h := by
  rw [List.perm_ext_iff_of_nodup (List.Nodup.sublist List.filter_sublist hpool) hh]
  intro a
  simp only [List.mem_filter, decide_eq_true_eq]
  exact ⟨fun ⟨_, h2⟩ => h2, fun h2 => ⟨hsub a h2, h2⟩⟩

/-- no `Nodup` asked of the pool: `s` takes the first occurrence of each record -/
theorem exists_sublist_perm : ∀ (pool h : List Var), h.Nodup → (∀ v ∈ h, v ∈ pool) →
    ∃ s : List Var, s.Sublist pool ∧ s.Perm h := by
  intro pool
  induction pool with
  | nil =>
    intro h _ hsub
    cases h with
    | nil => exact ⟨[], List.Sublist.slnil, List.Perm.refl _⟩
    | cons a _ => exact absurd (hsub a (by simp)) (by simp)
  | cons x p ih =>
    intro h hnd hsub
    by_cases hx : x ∈ h
    · have hsub' : ∀ v ∈ h.erase x, v ∈ p := by
        intro v hv
        obtain ⟨hne, hv'⟩ := (List.Nodup.mem_erase_iff hnd).mp hv
        exact (List.mem_cons.mp (hsub v hv')).resolve_left hne
      obtain ⟨s, hs, hp⟩ := ih (h.erase x) (hnd.erase x) hsub'
      exact ⟨x :: s, hs.cons_cons x, (List.Perm.cons x hp).trans (List.perm_cons_erase hx).symm⟩
    · have hsub' : ∀ v ∈ h, v ∈ p := fun v hv =>
        (List.mem_cons.mp (hsub v hv)).resolve_left fun e => hx (e ▸ hv)
      obtain ⟨s, hs, hp⟩ := ih h hnd hsub'
      exact ⟨s, hs.cons x, hp⟩

theorem exists_sublist_sort_eq {pool h : List Var}
    (hsep : separated h = true) (hpos : ∀ v ∈ h, v.start ≤ v.stop)
    (hsub : ∀ v ∈ h, v ∈ pool) : ∃ s, s.Sublist pool ∧ h = sortByStart s := by
  have hs := strictStarts_of_separated h hsep hpos
  obtain ⟨s, hsl, hp⟩ := exists_sublist_perm pool h (nodup_of_strictStarts hs) hsub
  exact ⟨s, hsl, (sortByStart_eq_of_perm hp hs).symm⟩

theorem filter_sort_eq {pool h : List Var} (hpool : pool.Nodup)
    (hsep : separated h = true) (hpos : ∀ v ∈ h, v.start ≤ v.stop)
    (hsub : ∀ v ∈ h, v ∈ pool) : sortByStart (pool.filter fun v => decide (v ∈ h)) = h := by
  have hs := strictStarts_of_separated h hsep hpos
  exact sortByStart_eq_of_perm (filter_mem_perm hpool (nodup_of_strictStarts hs) hsub) hs

theorem three_le_startIndex (t : TxIn) : 3 ≤ startIndex t := Nat.le_add_left 3 _

theorem usable_start_ge (t : TxIn) (v u : Var) (h : usable t v = some u) :
    startIndex t ≤ u.start := by
  -- whichever form of the record is tested, the first test drops it when it starts too early
  simp only [usable, Option.ite_none_left_eq_some, Option.some.injEq] at h
  obtain ⟨hge, _, rfl⟩ := h
  exact Nat.le_of_not_lt hge

/-- a merged pair starts where its first record starts -/
theorem pool_start_ge (t : TxIn) (vs : List Var) :
    ∀ v ∈ recordPool t vs, startIndex t ≤ v.start := by
  intro v hv
  have hus : ∀ u ∈ vs.filterMap (usable t), startIndex t ≤ u.start := by
    intro u hu
    obtain ⟨w, _, hw⟩ := List.mem_filterMap.mp hu
    exact usable_start_ge t w u hw
  simp only [recordPool, List.mem_append] at hv
  rcases hv with hv | hv
  · exact hus v hv
  · simp only [mergedPairs, List.mem_flatMap, List.mem_map, List.mem_filter] at hv
    obtain ⟨a, ha, b, _, rfl⟩ := hv
    exact hus a ha

theorem pool_start_pos (t : TxIn) (vs : List Var) : ∀ v ∈ recordPool t vs, 0 < v.start := by
  intro v hv
  exact Nat.lt_of_lt_of_le (by decide)
    (Nat.le_trans (three_le_startIndex t) (pool_start_ge t vs v hv))

/-! ### Layer G: the protein language is the translation of the DNA language -/

/-- translation of one reading frame given as the already-cut sequence `s = seq.drop f`: the
codon at offset `3 i` of `s` sits at transcript position `f + 3 i`, where an annotated Sec
codon reads `U` -/
def frameTranslation (s : List Char) (sec : List Nat) (f : Nat) : List Char :=
  let aa := translate s
  (List.range aa.length).zip aa |>.map fun (i, c) =>
    if c == '*' && sec.contains (f + 3 * i) then 'U' else c

theorem fullTranslation_eq_frame (seq : List Char) (sec : List Nat) (f : Nat) :
    fullTranslation seq sec f = frameTranslation (seq.drop f) sec f := rfl

/-- annotated Sec codons at or behind `f`, relative to `f` -/
def secFrom (sec : List Nat) (f : Nat) : List Nat :=
  sec.filterMap fun x => if f ≤ x then some (x - f) else none

theorem secFrom_contains (sec : List Nat) (f k : Nat) :
    (secFrom sec f).contains k = sec.contains (f + k) := by
  rw [Bool.eq_iff_iff]
  simp only [secFrom, List.contains_iff_mem, List.mem_filterMap, Option.ite_none_right_eq_some,
    Option.some.injEq]
  constructor
  · rintro ⟨x, hx, hle, rfl⟩
    rwa [Nat.add_sub_cancel' hle]
  · exact fun h => ⟨f + k, h, Nat.le_add_right f k, Nat.add_sub_cancel_left f k⟩

theorem fullTranslation_drop (seq : List Char) (sec : List Nat) (f : Nat) :
    fullTranslation seq sec f = fullTranslation (seq.drop f) (secFrom sec f) 0 := by
  simp only [fullTranslation, List.drop_zero, secFrom_contains, Nat.zero_add]

end MoPepGen.Hap
