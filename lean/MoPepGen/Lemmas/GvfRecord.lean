import MoPepGen.Lemmas.Gvf
/-! The two GVF record codecs: the line written for a variant record or a circRNA record, read
back (`roundtrip_core`, `circ_core`).  Both go through `gvf_line`, the statement about a
tab-separated line whose INFO column is a `;`-joined list of `KEY=value` cells, each with a codec
of its own (`Cell`). -/
namespace MoPepGen.Gvf

/-! ## the INFO column: `KEY=value` cells joined by `;` -/

theorem of_cellOK {t : Str} (h : cellOK t = true) : '\t' ∉ t ∧ ';' ∉ t ∧ '=' ∉ t := by
  simpa only [cellOK, Bool.and_eq_true, Bool.not_eq_true', contains_eq_false, and_assoc] using h

theorem not_mem_cell {c : Char} {k v : Str} (hk : c ∉ k) (hc : c ≠ '=') (hv : c ∉ v) :
    c ∉ k ++ '=' :: v := by
  rw [List.mem_append, List.mem_cons, not_or, not_or]
  exact ⟨hk, hc, hv⟩

theorem splitOn_cell {k v : Str} (hk : '=' ∉ k) (hv : '=' ∉ v) :
    splitOn '=' (k ++ '=' :: v) = [k, v] := by
  rw [splitOn_append_sep _ hk, splitOn_of_not_mem hv]

/-- a `KEY=value;` cell with a codec: key and text stay inside the cell, and a step of the
reader's loop on the cell stores the value `v` under the key -/
structure Cell {β : Type} (step : List (Str × β) → Str → Except Err (List (Str × β)))
    (k t : Str) (v : β) : Prop where
  key : cellOK k = true
  text : cellOK t = true
  stored : ∀ acc, step acc (k ++ '=' :: t) = .ok (dictSet acc k v)

/-- **A GVF line, generic in the record kind**: seven columns without tab, then the INFO
column of cells with distinct keys, the last text not ending in white space.  `rstrip()`
and `split('\t')` give the columns back, and the reader's loop over `split(';')` of the INFO
column builds the dict of the cells' values.  The INFO text comes back as a variable `inf`
with its defining equation, so that the parsers' goals carry `inf` and not the join. -/
theorem gvf_line {α β : Type} {step : List (Str × β) → Str → Except Err (List (Str × β))}
    {key text : α → Str} {val : α → β} {l : List α} {x : α} (hl : l.getLast? = some x)
    (hs : noTrailSpace (text x) = true) (hc : ∀ y ∈ l, Cell step (key y) (text y) (val y))
    (hnd : (l.map key).Nodup) {f0 f1 f2 f3 f4 f5 f6 : Str} (h0 : '\t' ∉ f0) (h1 : '\t' ∉ f1)
    (h2 : '\t' ∉ f2) (h3 : '\t' ∉ f3) (h4 : '\t' ∉ f4) (h5 : '\t' ∉ f5) (h6 : '\t' ∉ f6) :
    ∃ inf, joinWith ';' (l.map fun y => key y ++ '=' :: text y) = inf ∧
      splitOn '\t' (rstrip (joinWith '\t' [f0, f1, f2, f3, f4, f5, f6, inf])) =
        [f0, f1, f2, f3, f4, f5, f6, inf] ∧
      (splitOn ';' inf).foldlM step [] = .ok (l.map fun y => (key y, val y)) := by
  have hmem : ∀ p ∈ l.map (fun y => key y ++ '=' :: text y), '\t' ∉ p ∧ ';' ∉ p := by
    refine List.forall_mem_map.mpr fun y hy => ?_
    obtain ⟨k1, k2, _⟩ := of_cellOK (hc y hy).key
    obtain ⟨t1, t2, _⟩ := of_cellOK (hc y hy).text
    exact ⟨not_mem_cell k1 (by decide) t1, not_mem_cell k2 (by decide) t2⟩
  obtain ⟨init, rfl⟩ := List.getLast?_eq_some_iff.mp hl
  have hx : key x ++ '=' :: text x ≠ [] :=
    List.append_ne_nil_of_right_ne_nil _ (List.cons_ne_nil _ _)
  refine ⟨_, rfl, splitOn_rstrip_joinWith (last := joinWith ';' _) rfl ?_ ?_ ?_, ?_⟩
  · rw [List.map_append, List.map_singleton, joinWith_snoc]
    exact List.append_ne_nil_of_right_ne_nil _ hx
  · rw [List.map_append, List.map_singleton, joinWith_snoc, noTrailSpace_append hx]
    exact noTrailSpace_cell _ hs
  · simp only [List.forall_mem_cons, List.not_mem_nil, false_imp_iff, implies_true, and_true]
    exact ⟨h0, h1, h2, h3, h4, h5, h6, not_mem_joinWith (by decide) (fun p hp => (hmem p hp).1)⟩
  · rw [splitOn_joinWith ';' _ (by simp) (fun p hp => (hmem p hp).2)]
    exact foldlM_dictSet _ [] (fun y hy => (hc y hy).stored) hnd

/-! ## attributes of a variant record -/

theorem of_keyOK {k : Str} (h : keyOK k = true) : cellOK k = true ∧ upper k = k := by
  rw [keyOK, Bool.and_eq_true, beq_iff_eq] at h
  exact h

theorem of_textOK {t : Str} (h : textOK t = true) :
    cellOK t = true ∧ t.head? ≠ some '"' ∧ t.getLast? ≠ some '"' := by
  rw [textOK, Bool.and_eq_true, Bool.and_eq_true, bne_iff_ne, bne_iff_ne] at h
  exact ⟨h.1.1, h.1.2, h.2⟩

theorem of_attrOK {C : Consts} {kv : Str × AttrVal} (h : attrOK C kv = true) :
    keyOK kv.1 = true ∧ attrText C kv.1 kv.2 = .ok (textOf C kv) ∧
      textOK (textOf C kv) = true := by
  unfold attrOK at h
  unfold textOf
  cases ht : attrText C kv.1 kv.2 with
  | ok t => rw [ht, Bool.and_eq_true] at h; exact ⟨h.1, rfl, h.2⟩
  | error e => rw [ht, Bool.and_false] at h; cases h

theorem info_eq {C : Consts} {attrs : List (Str × AttrVal)}
    (h : ∀ kv ∈ attrs, attrOK C kv = true) :
    info C attrs = .ok (joinWith ';' (attrs.map fun kv => kv.1 ++ '=' :: textOf C kv)) := by
  unfold info
  rw [mapE_ok (g := (· ++ [';']) ∘ fun kv => kv.1 ++ '=' :: textOf C kv) attrs]
  · dsimp only
    rw [← List.map_map, rstripChar_flatten]
    refine List.forall_mem_map.mpr fun kv hkv => ?_
    obtain ⟨hk, _, ht⟩ := of_attrOK (h kv hkv)
    exact ⟨List.append_ne_nil_of_right_ne_nil _ (List.cons_ne_nil _ _),
      not_mem_cell (of_cellOK (of_keyOK hk).1).2.1 (by decide) (of_cellOK (of_textOK ht).1).2.1⟩
  · intro kv hkv
    obtain ⟨hk, ht, _⟩ := of_attrOK (h kv hkv)
    rw [ht, (of_keyOK hk).2]
    rfl

/-- the text written for an attribute, and the value `parse_attrs` stores for it: a position
value goes out `+1` and comes back `-1`, in canonical decimal; any other value comes back as
its text -/
theorem attrText_ok {C : Consts} {k : Str} {v : AttrVal} {t : Str} (h : attrText C k v = .ok t) :
    (C.attrsPosition.contains k = true ∧
      ∃ z, t = intToStr (z + 1) ∧ parsedVal C k v = .str (intToStr z)) ∨
    (C.attrsPosition.contains k = false ∧ parsedVal C k v = .str t) := by
  unfold attrText at h
  unfold parsedVal
  cases hp : C.attrsPosition.contains k with
  | true =>
    rw [hp, if_pos rfl] at h
    rw [if_pos rfl]
    cases v with
    | list xs => cases h
    | str s =>
      dsimp only at h ⊢
      cases hz : parseInt s with
      | error e => rw [hz] at h; cases h
      | ok z =>
        rw [hz] at h
        exact Or.inl ⟨rfl, z, (Except.ok.inj h).symm, rfl⟩
  | false =>
    rw [hp, if_neg Bool.false_ne_true] at h
    rw [if_neg Bool.false_ne_true]
    cases v with
    | list xs => exact Or.inr ⟨rfl, congrArg AttrVal.str (Except.ok.inj h)⟩
    | str s => exact Or.inr ⟨rfl, congrArg AttrVal.str (Except.ok.inj h)⟩

theorem parseAttrStep_cell (C : Consts) (acc : List (Str × AttrVal)) {k t : Str} (hk : '=' ∉ k)
    (ht : '=' ∉ t) (h1 : t.head? ≠ some '"') (h2 : t.getLast? ≠ some '"') :
    parseAttrStep C acc (k ++ '=' :: t) =
      if C.attrsPosition.contains k then
        match parseInt t with
        | .ok z => .ok (dictSet acc k (.str (intToStr (z - 1))))
        | .error e => .error e
      else .ok (dictSet acc k (.str t)) := by
  rw [parseAttrStep, splitOn_cell hk ht]
  simp only [stripChar_eq_self h1 h2]
  rfl

theorem cell_of_attrOK {C : Consts} {kv : Str × AttrVal} (h : attrOK C kv = true) :
    Cell (parseAttrStep C) kv.1 (textOf C kv) (parsedVal C kv.1 kv.2) := by
  obtain ⟨hk, ht, hto⟩ := of_attrOK h
  obtain ⟨hc, t1, t2⟩ := of_textOK hto
  refine ⟨(of_keyOK hk).1, hc, fun acc => ?_⟩
  rw [parseAttrStep_cell C acc (of_cellOK (of_keyOK hk).1).2.2 (of_cellOK hc).2.2 t1 t2]
  rcases attrText_ok ht with ⟨hp, z, hz, hv⟩ | ⟨hp, hv⟩
  · rw [hp, if_pos rfl, hz, parseInt_intToStr, hv]
    dsimp only
    rw [Int.add_sub_cancel]
  · rw [hp, if_neg Bool.false_ne_true, hv]

theorem parseAttrsGo_eq_foldlM (C : Consts) (fs : List Str) (acc : List (Str × AttrVal)) :
    parseAttrsGo C acc fs = fs.foldlM (parseAttrStep C) acc := by
  induction fs generalizing acc with
  | nil => rfl
  | cons f fs ih =>
    rw [parseAttrsGo, List.foldlM_cons]
    cases parseAttrStep C acc f with
    | ok a => exact ih a
    | error e => rfl

/-! ### the normal form of the attributes is written as the attributes are -/

theorem attrText_parsedVal {C : Consts} {k : Str} {v : AttrVal} {t : Str}
    (h : attrText C k v = .ok t) : attrText C k (parsedVal C k v) = .ok t := by
  rcases attrText_ok h with ⟨hp, z, hz, hv⟩ | ⟨hp, hv⟩
  · rw [hv, attrText, hp, if_pos rfl, parseInt_intToStr, hz]
  · rw [hv, attrText, hp, if_neg Bool.false_ne_true]

theorem info_normAttrs {C : Consts} {attrs : List (Str × AttrVal)}
    (h : ∀ kv ∈ attrs, attrOK C kv = true) : info C (normAttrs C attrs) = info C attrs := by
  unfold info normAttrs
  rw [mapE_map_congr attrs]
  intro kv hkv
  have ht := (of_attrOK (h kv hkv)).2.1
  dsimp only
  rw [attrText_parsedVal ht, ht]

theorem parseInt_parsedVal (C : Consts) (k : Str) {s : Str} {e : Int} (h : parseInt s = .ok e) :
    ∃ s', parsedVal C k (.str s) = .str s' ∧ parseInt s' = .ok e := by
  unfold parsedVal
  split
  · exact ⟨intToStr e, by dsimp only; rw [h], parseInt_intToStr e⟩
  · exact ⟨s, rfl, h⟩

theorem attrEnd_normAttrs {C : Consts} {attrs : List (Str × AttrVal)} {e : Int}
    (h : attrEnd attrs = .ok e) : attrEnd (normAttrs C attrs) = .ok e := by
  unfold attrEnd at h ⊢
  rw [normAttrs, dictGet_map (parsedVal C)]
  cases hg : dictGet attrs kEND with
  | none => rw [hg] at h; cases h
  | some v =>
    rw [hg] at h
    cases v with
    | list xs => cases h
    | str sv =>
      obtain ⟨s', hs', he⟩ := parseInt_parsedVal C kEND h
      rw [Option.map_some, hs']
      exact he

/-! ## the eight record kinds -/

theorem of_ConstsOK {C : Consts} (h : ConstsOK C = true) :
    (∀ ty ∈ snsKinds, C.sns.contains ty = true) ∧ (∀ ty ∈ symKinds, C.sns.contains ty = false) := by
  rw [ConstsOK, Bool.and_eq_true, List.all_eq_true, List.all_eq_true] at h
  exact ⟨h.1, fun ty hty => Bool.not_eq_true' _ ▸ h.2 ty hty⟩

theorem ctorOk_of {r : VarRec}
    (h1 : r.stop - r.start = (r.ref.length : Int) ∨ r.type = tDeletion ∨ r.type = tSubstitution)
    (h2 : variantTypes.contains r.type = true) : ctorOk r = true := by
  unfold ctorOk
  rw [h2, Bool.and_true]
  rcases h1 with h | h | h <;> simp [h]

/-- the type the reader gives a record with literal REF / ALT -/
def litType (ref alt : Str) : Str :=
  if ref.length = 1 && alt.length = 1 then tSNV
  else if ref.length = 1 || alt.length = 1 then tINDEL else tMNV

theorem litType_mem (ref alt : Str) : litType ref alt ∈ snsKinds := by
  unfold litType
  split
  · exact .head _
  · split
    · exact .tail _ (.head _)
    · exact .tail _ (.tail _ (.head _))

theorem snsKinds_variantTypes : ∀ ty ∈ snsKinds, variantTypes.contains ty = true := by
  decide +kernel

theorem endType_lit {alt : Str} (h : startsWith ['<'] alt = false) (start : Int) (ref : Str)
    (attrs : List (Str × AttrVal)) :
    endType start ref alt attrs = .ok (start + ref.length, litType ref alt) := by
  rw [endType, h]
  rfl

/-- the symbolic kinds: type, ALT column, and whether the reader takes `end` from the `END`
attribute (otherwise `start + 1`) -/
def symKindTable : List (Str × Str × Bool) :=
  [(tFusion, aFUSION, false), (tInsertion, aINS, false), (tDeletion, aDEL, true),
    (tSubstitution, aSUB, true)]

theorem symKindTable_spec : ∀ row ∈ symKindTable, row.1 ∈ symKinds ∧
    variantTypes.contains row.1 = true ∧ '\t' ∉ row.2.1 ∧
    (row.2.2 = false ∨ row.1 = tDeletion ∨ row.1 = tSubstitution) := by
  decide +kernel

theorem refAlt_sym {C : Consts} {r : VarRec} {ty a : Str} {b : Bool}
    (hrow : (ty, a, b) ∈ symKindTable) (hty : r.type = ty) (h0 : C.sns.contains ty = false)
    {c : Char} {t : Str} (hr : r.ref = c :: t) : refAlt C r = .ok ([c], a) := by
  rw [refAlt, hty, h0, if_neg Bool.false_ne_true, hr]
  simp only [symKindTable, List.mem_cons, Prod.mk.injEq, List.not_mem_nil, or_false] at hrow
  rcases hrow with ⟨rfl, rfl, _⟩ | ⟨rfl, rfl, _⟩ | ⟨rfl, rfl, _⟩ | ⟨rfl, rfl, _⟩ <;> rfl

theorem endType_sym {ty a : Str} {b : Bool} (hrow : (ty, a, b) ∈ symKindTable) (start : Int)
    (ref : Str) (attrs : List (Str × AttrVal)) :
    endType start ref a attrs =
      if b then
        match attrEnd attrs with
        | .ok e => .ok (e, ty)
        | .error e => .error e
      else .ok (start + 1, ty) := by
  simp only [symKindTable, List.mem_cons, Prod.mk.injEq, List.not_mem_nil, or_false] at hrow
  rcases hrow with ⟨rfl, rfl, rfl⟩ | ⟨rfl, rfl, rfl⟩ | ⟨rfl, rfl, rfl⟩ | ⟨rfl, rfl, rfl⟩ <;> rfl

theorem kindOK_sns {r : VarRec} (h : kindOK r = true) (hs : snsKinds.contains r.type = true) :
    startsWith ['<'] r.alt = false ∧ '\t' ∉ r.ref ∧ '\t' ∉ r.alt ∧
      r.stop - r.start = (r.ref.length : Int) := by
  rw [kindOK, if_pos hs] at h
  simpa only [Bool.and_eq_true, Bool.not_eq_true', decide_eq_true_eq, noTab, contains_eq_false,
    and_assoc] using h

theorem refHead_ok {ref : Str}
    (h : (match ref with | [] => false | c :: _ => c != '\t') = true) :
    ∃ c t, ref = c :: t ∧ c ≠ '\t' := by
  cases ref with
  | nil => cases h
  | cons c t => exact ⟨c, t, rfl, bne_iff_ne.mp h⟩

theorem kindOK_sym {r : VarRec} (h : kindOK r = true) (hs : snsKinds.contains r.type = false) :
    ∃ a b, (r.type, a, b) ∈ symKindTable ∧ ∃ c t, r.ref = c :: t ∧ c ≠ '\t' ∧
      (b = true → ∃ e, attrEnd r.attrs = .ok e ∧ r.start ≤ e) := by
  rw [kindOK, hs, if_neg Bool.false_ne_true] at h
  split at h
  · next hty =>
    obtain ⟨c, t, hr, hc⟩ := refHead_ok h
    rw [Bool.or_eq_true, decide_eq_true_eq, decide_eq_true_eq] at hty
    rcases hty with hty | hty
    · exact ⟨aFUSION, false, by rw [hty]; exact .head _, c, t, hr, hc, Bool.noConfusion⟩
    · exact ⟨aINS, false, by rw [hty]; exact .tail _ (.head _), c, t, hr, hc, Bool.noConfusion⟩
  · split at h
    · next hty =>
      rw [Bool.and_eq_true] at h
      obtain ⟨c, t, hr, hc⟩ := refHead_ok h.1
      have he : ∃ e, attrEnd r.attrs = .ok e ∧ r.start ≤ e := by
        cases hE : attrEnd r.attrs with
        | error _ => rw [hE] at h; cases h.2
        | ok e => rw [hE] at h; exact ⟨e, rfl, of_decide_eq_true h.2⟩
      rw [Bool.or_eq_true, decide_eq_true_eq, decide_eq_true_eq] at hty
      rcases hty with hty | hty
      · exact ⟨aDEL, true, by rw [hty]; exact .tail _ (.tail _ (.head _)), c, t, hr, hc,
          fun _ => he⟩
      · exact ⟨aSUB, true, by rw [hty]; exact .tail _ (.tail _ (.tail _ (.head _))), c, t, hr,
          hc, fun _ => he⟩
    · cases h

/-- what a well-formed record writes into the REF / ALT columns, and what the reader then
computes as `end` and `type` -/
theorem refAlt_endType {C : Consts} (hC : ConstsOK C = true) {r : VarRec}
    (hk : kindOK r = true) :
    ∃ ref alt stop ty, refAlt C r = .ok (ref, alt) ∧ '\t' ∉ ref ∧ '\t' ∉ alt ∧
      endType r.start ref alt (normAttrs C r.attrs) = .ok (stop, ty) ∧ r.start ≤ stop ∧
      ctorOk { r with stop := stop, ref := ref, alt := alt, type := ty,
                      attrs := normAttrs C r.attrs } = true ∧
      refAlt C { r with stop := stop, ref := ref, alt := alt, type := ty,
                        attrs := normAttrs C r.attrs } = .ok (ref, alt) := by
  obtain ⟨hsns, hsym⟩ := of_ConstsOK hC
  cases hs : snsKinds.contains r.type with
  | true =>
    -- literal REF / ALT: written as they are; `end` and `type` follow from their lengths
    obtain ⟨ha, hr, hal, hlen⟩ := kindOK_sns hk hs
    have hty := litType_mem r.ref r.alt
    refine ⟨r.ref, r.alt, r.start + r.ref.length, litType r.ref r.alt, ?_, hr, hal,
      endType_lit ha _ _ _, Int.le_add_of_nonneg_right (Int.natCast_nonneg _),
      ctorOk_of (Or.inl (by dsimp only; rw [Int.add_comm, Int.add_sub_cancel]))
        (snsKinds_variantTypes _ hty), ?_⟩
    · rw [refAlt, if_pos (hsns _ (List.contains_iff_mem.mp hs))]
    · rw [refAlt, if_pos (hsns _ hty)]
  | false =>
    -- symbolic ALT: first base of REF and the `<KIND>` of the type's row
    obtain ⟨a, b, hrow, c, t, hr, hc, he⟩ := kindOK_sym hk hs
    obtain ⟨h1, h2, h3, h4⟩ := symKindTable_spec _ hrow
    have h0 := hsym _ h1
    have hend : ∃ stop, endType r.start [c] a (normAttrs C r.attrs) = .ok (stop, r.type) ∧
        r.start ≤ stop ∧ (b = false → stop - r.start = 1) := by
      rw [endType_sym hrow]
      cases b with
      | false => exact ⟨r.start + 1, rfl, Int.le_add_of_nonneg_right (by decide),
          fun _ => by rw [Int.add_comm, Int.add_sub_cancel]⟩
      | true =>
        obtain ⟨e, hE, hle⟩ := he rfl
        exact ⟨e, by rw [if_pos rfl, attrEnd_normAttrs hE], hle, Bool.noConfusion⟩
    obtain ⟨stop, het, hle, hlen⟩ := hend
    refine ⟨[c], a, stop, r.type, refAlt_sym hrow rfl h0 hr, ?_, h3, het, hle,
      ctorOk_of (h4.imp_left hlen) h2,
      refAlt_sym (r := { r with stop := stop, ref := [c], alt := a, attrs := _ }) hrow rfl h0 rfl⟩
    rw [List.mem_singleton]
    exact Ne.symm hc

theorem of_lastOK {C : Consts} {attrs : List (Str × AttrVal)} (h : lastOK C attrs = true) :
    ∃ kv, attrs.getLast? = some kv ∧ noTrailSpace (textOf C kv) = true := by
  unfold lastOK at h
  cases hg : attrs.getLast? with
  | none => rw [hg] at h; cases h
  | some kv => rw [hg] at h; exact ⟨kv, rfl, h⟩

theorem of_WFrec {C : Consts} {r : VarRec} (h : WFrec C r = true) :
    '\t' ∉ r.seqname ∧ '\t' ∉ r.id ∧ kindOK r = true ∧ (∀ kv ∈ r.attrs, attrOK C kv = true) ∧
      lastOK C r.attrs = true ∧ (r.attrs.map (·.1)).Nodup := by
  simpa only [WFrec, noTab, Bool.and_eq_true, Bool.not_eq_true', decide_eq_true_eq,
    List.all_eq_true, contains_eq_false, and_assoc] using h

theorem roundtrip_core {C : Consts} (hC : ConstsOK C = true) {r : VarRec}
    (h : WFrec C r = true) :
    ∃ l, toLine C r = .ok l ∧ parseLine C l = .ok (normalise C r) ∧
      toLine C (normalise C r) = .ok l := by
  obtain ⟨hsn, hid, hk, ha, hl, hnd⟩ := of_WFrec h
  obtain ⟨ref, alt, stop, ty, hra, hr1, hr2, het, hle, hct, hra'⟩ := refAlt_endType hC hk
  obtain ⟨kv, hg, hts⟩ := of_lastOK hl
  have hdot : '\t' ∉ ['.'] := by decide
  obtain ⟨inf, hinf, hsp, hgo⟩ := gvf_line (key := (·.1)) (text := textOf C) hg hts
    (fun kv hkv => cell_of_attrOK (ha kv hkv)) hnd hsn
    (not_mem_intToStr (by decide) (by decide) (r.start + 1)) hid hr1 hr2 hdot hdot
  have hnorm : normalise C r =
      VarRec.mk r.seqname r.start stop ref alt ty r.id (normAttrs C r.attrs) := by
    unfold normalise; rw [hra]; dsimp only; rw [het]
  refine ⟨joinWith '\t' [r.seqname, intToStr (r.start + 1), r.id, ref, alt, ['.'], ['.'], inf],
    ?_, ?_, ?_⟩
  · rw [toLine, hra]
    dsimp only
    rw [info_eq ha, hinf]
  · rw [parseLine, hsp]
    dsimp only
    rw [parseInt_intToStr]
    dsimp only
    rw [parseAttrs, parseAttrsGo_eq_foldlM, hgo, ← normAttrs]
    dsimp only
    rw [Int.add_sub_cancel, het]
    dsimp only
    rw [if_neg (Int.not_lt.mpr hle), hnorm, if_pos hct]
  · rw [hnorm, toLine, hra']
    dsimp only
    rw [info_normAttrs ha, info_eq ha, hinf]

/-- both GVF record parsers start with `line.rstrip()` -/
theorem parseLine_rstrip (C : Consts) (l : Str) : parseLine C (rstrip l) = parseLine C l := by
  unfold parseLine; rw [rstrip_idem]

/-! ## circRNA records -/

theorem circFragments_eq (s0 : Int) (fs : List (Int × Int)) (h : ∀ f ∈ fs, f.1 ≤ f.2) :
    circFragments s0 (fs.map fun f => f.1 - s0) (fs.map fun f => f.2 - f.1) = .ok fs := by
  induction fs with
  | nil => rfl
  | cons f fs ih =>
    rw [List.forall_mem_cons] at h
    have e (a b : Int) : a + (b - a) = b := by rw [Int.add_comm, Int.sub_add_cancel]
    rw [List.map_cons, List.map_cons, circFragments,
      if_neg (Int.not_lt.mpr (Int.sub_nonneg_of_le h.1)), ih h.2]
    dsimp only
    rw [e, e]

theorem cellOK_ints (l : List Int) : cellOK (joinWith ',' (l.map intToStr)) = true := by
  have h (c : Char) (h1 : isDigit c = false) (h2 : c ≠ '-') (h3 : c ≠ ',') :
      (joinWith ',' (l.map intToStr)).contains c = false :=
    contains_eq_false.mpr
      (not_mem_joinWith h3 (List.forall_mem_map.mpr fun z _ => not_mem_intToStr h1 h2 z))
  rw [cellOK, h _ (by decide) (by decide) (by decide), h _ (by decide) (by decide) (by decide),
    h _ (by decide) (by decide) (by decide)]
  rfl

theorem ints_roundtrip {l : List Int} (h : l ≠ []) :
    mapE parseInt (splitOn ',' (joinWith ',' (l.map intToStr))) = .ok l := by
  rw [splitOn_joinWith ',' _ (by simpa using h)
      (List.forall_mem_map.mpr fun z _ => not_mem_intToStr (by decide) (by decide) z),
    mapE_map_ok l (fun z _ => parseInt_intToStr z)]

theorem joinWith_ints_ne_nil {l : List Int} (h : l ≠ []) : joinWith ',' (l.map intToStr) ≠ [] := by
  obtain ⟨init, last, rfl⟩ := (List.eq_nil_or_concat l).resolve_left h
  rw [List.concat_eq_append, List.map_append, List.map_singleton, joinWith_snoc]
  exact List.append_ne_nil_of_right_ne_nil _ (intToStr_ne_nil last)

theorem cell_ints {k : Str} (hk : k = kOFFSET ∨ k = kLENGTH) {l : List Int} (hl : l ≠ []) :
    Cell circAttrStep k (joinWith ',' (l.map intToStr)) (.ints l) := by
  have h1 : cellOK k = true := by rcases hk with rfl | rfl <;> decide +kernel
  have h2 := cellOK_ints l
  refine ⟨h1, h2, fun acc => ?_⟩
  rw [circAttrStep, splitOn_cell (of_cellOK h1).2.2 (of_cellOK h2).2.2]
  dsimp only
  rw [if_pos (by rw [Bool.or_eq_true, decide_eq_true_eq, decide_eq_true_eq]; exact hk),
    ints_roundtrip hl]

/-- `INTRON=` with no value is the empty list -/
theorem cell_intron (l : List Int) :
    Cell circAttrStep kINTRON (joinWith ',' (l.map intToStr)) (.ints l) := by
  have h2 := cellOK_ints l
  refine ⟨by decide +kernel, h2, fun acc => ?_⟩
  rw [circAttrStep, splitOn_cell (by decide +kernel) (of_cellOK h2).2.2]
  dsimp only
  rw [if_neg (by decide), if_pos rfl]
  by_cases hl : l = []
  · rw [hl]; rfl
  · rw [if_neg (joinWith_ints_ne_nil hl), ints_roundtrip hl]

theorem cell_str {k v : Str} (hk : cellOK k = true) (hv : cellOK v = true)
    (h : k ∉ [kOFFSET, kLENGTH, kINTRON]) : Cell circAttrStep k v (.s v) := by
  simp only [List.mem_cons, List.not_mem_nil, or_false, not_or] at h
  refine ⟨hk, hv, fun acc => ?_⟩
  rw [circAttrStep, splitOn_cell (of_cellOK hk).2.2 (of_cellOK hv).2.2]
  dsimp only
  rw [if_neg (by simp [h.1, h.2.1]), if_neg h.2.2]

theorem circAttrsGo_eq_foldlM (fs : List Str) (acc : List (Str × CircVal)) :
    circAttrsGo acc fs = fs.foldlM circAttrStep acc := by
  induction fs generalizing acc with
  | nil => rfl
  | cons f fs ih =>
    rw [circAttrsGo, List.foldlM_cons]
    cases circAttrStep acc f with
    | ok a => exact ih a
    | error e => rfl

/-- the two kinds of cells of the circRNA INFO column, as (key, written text, value) -/
abbrev intsCell (k : Str) (l : List Int) : Str × Str × CircVal :=
  (k, joinWith ',' (l.map intToStr), .ints l)

abbrev strCell (k v : Str) : Str × Str × CircVal := (k, v, .s v)

/-- the INFO column of a circRNA record whose first fragment starts at `s0`, written under
the key `wk` for the genomic position -/
def circCells (wk : Str) (c : Circ) (s0 : Int) : List (Str × Str × CircVal) :=
  [intsCell kOFFSET (c.fragments.map fun f => f.1 - s0),
    intsCell kLENGTH (c.fragments.map fun f => f.2 - f.1), intsCell kINTRON c.intron,
    strCell kTRANSCRIPT_ID c.txId, strCell kGENE_SYMBOL c.geneName,
    strCell wk c.genomicPosition]

theorem of_WFcirc {k : Str} {c : Circ} (h : WFcirc k c = true) :
    '\t' ∉ c.geneId ∧ '\t' ∉ c.id ∧ c.fragments ≠ [] ∧ (∀ f ∈ c.fragments, f.1 ≤ f.2) ∧
      cellOK c.txId = true ∧ cellOK c.geneName = true ∧ cellOK c.genomicPosition = true ∧
      cellOK k = true ∧ noTrailSpace c.genomicPosition = true ∧ k ∉ circFixedKeys := by
  simpa only [WFcirc, noTab, Bool.and_eq_true, Bool.not_eq_true', bne_iff_ne, ne_eq,
    List.all_eq_true, decide_eq_true_eq, contains_eq_false, and_assoc] using h

theorem WFcirc_noGP {k : Str} {c : Circ} (h : WFcirc k c = true) :
    WFcirc k { c with genomicPosition := [] } = true := by
  simp only [WFcirc, Bool.and_eq_true] at h ⊢
  exact ⟨⟨⟨⟨h.1.1.1.1, rfl⟩, h.1.1.2⟩, rfl⟩, h.2⟩

/-- the circRNA line, and what a reader that looks the genomic position up under `rk` makes
of a line whose writer used `wk` -/
theorem circ_core {wk rk : Str} {c : Circ} (h : WFcirc wk c = true) (hrk : rk ∉ circFixedKeys) :
    ∃ l, circToLine wk c = .ok l ∧
      circParseLine rk l = .ok (Circ.mk c.geneId c.fragments c.intron c.id c.txId c.geneName
        (if rk = wk then c.genomicPosition else [])) := by
  obtain ⟨hg, hid, hfr, hle, htx, hsym, hgp, hwk, hts, hk⟩ := of_WFcirc h
  cases hfs : c.fragments with
  | nil => exact absurd hfs hfr
  | cons f0 fs =>
    have hcells : ∀ x ∈ circCells wk c f0.1, Cell circAttrStep x.1 x.2.1 x.2.2 := by
      simp only [circCells, intsCell, strCell, List.forall_mem_cons, List.not_mem_nil,
        false_imp_iff, implies_true, and_true]
      exact ⟨cell_ints (.inl rfl) (by rw [hfs]; exact List.cons_ne_nil _ _),
        cell_ints (.inr rfl) (by rw [hfs]; exact List.cons_ne_nil _ _), cell_intron _,
        cell_str (by decide +kernel) htx (by decide),
        cell_str (by decide +kernel) hsym (by decide),
        cell_str hwk hgp (fun hm => hk (List.mem_append_left _ hm))⟩
    have hnd : (circFixedKeys ++ [wk]).Nodup := List.nodup_append.mpr ⟨by decide +kernel, by simp,
      fun a ha b hb e => hk (List.mem_singleton.mp hb ▸ e ▸ ha)⟩
    have hdot : '\t' ∉ ['.'] := by decide
    obtain ⟨inf, hinf, hsp, hgo⟩ := gvf_line (key := Prod.fst) (text := (·.2.1)) (val := (·.2.2))
      (l := circCells wk c f0.1) (x := strCell wk c.genomicPosition) rfl hts hcells hnd hg
      (not_mem_intToStr (by decide) (by decide) f0.1) hid hdot hdot hdot hdot
    refine ⟨joinWith '\t' [c.geneId, intToStr f0.1, c.id, ['.'], ['.'], ['.'], ['.'], inf], ?_, ?_⟩
    · rw [circToLine, ← hinf]
      simp only [hfs, circCells, intsCell, strCell, List.map_cons, List.map_nil, List.map_map,
        Function.comp_def]
    rw [circParseLine, hsp]
    dsimp only
    rw [parseInt_intToStr]
    dsimp only
    rw [circAttrsGo_eq_foldlM, hgo]
    dsimp only
    have hget {i : Nat} {k : Str} {v : CircVal}
        (h : ((circCells wk c f0.1).map fun x => (x.1, x.2.2))[i]? = some (k, v)) :
        dictGet ((circCells wk c f0.1).map fun x => (x.1, x.2.2)) k = some v :=
      dictGet_of_getElem? hnd h
    rw [getInts, hget (i := 0) rfl, getInts, hget (i := 1) rfl, getInts, hget (i := 2) rfl,
      getStr, hget (i := 3) rfl, getStr, hget (i := 4) rfl]
    dsimp only
    rw [circFragments_eq f0.1 c.fragments hle, hfs]
    by_cases hrw : rk = wk
    · rw [if_pos hrw, hrw, hget (i := 5) rfl]
    · rw [if_neg hrw, dictGet_eq_none (fun hm => (List.mem_append.mp hm).elim hrk
        (fun hm => hrw (List.mem_singleton.mp hm)))]

theorem circParseLine_rstrip (rk : Str) (l : Str) :
    circParseLine rk (rstrip l) = circParseLine rk l := by
  unfold circParseLine; rw [rstrip_idem]

end MoPepGen.Gvf
