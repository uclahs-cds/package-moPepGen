/-
The partition invariant of the function-level model of `create_variant_graph` (`Model/Tvg.lean`),
by induction over the graph operations (`reach_inv`).

`Inv t s`: in the graph `s` over the transcript `t`
  * every reference node of frame `f` is a non-empty stretch `[a, b)` with `f ≤ a < b ≤ |t|` whose
    sequence is the transcript slice, every position `p ∈ [f, |t|)` lies in exactly one reference
    node of frame `f` (`cover` + `disjoint`: the reference nodes of a frame tile `[f, |t|)`),
  * every edge agrees with the positions (`edgeOk`): a `reference` edge joins the reference node
    ending at `b` to the one starting at `b` in the same frame (or a root to its child), a
    `variant_start` edge leaves the reference node ENDING at `start v` of the variant node's
    frame, a `variant_end` edge enters a reference node STARTING at `stop v`,
  * consecutive reference nodes of a frame are joined by a `reference` edge (`refLinked`), and a
    reference node has at most one `reference` out-edge and at most one `reference` in-edge
    (`outRef`, `inRef`: `get_reference_next` / `get_reference_prev` never depend on the iteration
    order of the edge sets).
`VarLinked t s`: every variant node has its `variant_start` in-edge and — unless the record
reaches the end of the transcript — its `variant_end` out-edge.
`Mid t s s' f g v`: the state `s'` inside one `apply_variant` call on `s` (source frame `f`, target
frame `g`), once the variant node of `v` exists: the invariant holds, and what has changed so far
is said in the terms the loops of `create_variant_graph` need (`Lemmas/TvgLoop.lean` for the
cursors, `Lemmas/TvgLive.lean` for which frame carries which record).
Under `Inv` and `VarLinked` the graph is the position automaton `Walk` of `Lemmas/Graph.lean`: every
maximal path spells the `applyHap` sequence of the records it takes (`tpath_language_sound`; the
converse is `Lemmas/TvgLang.lean`).
-/
import MoPepGen.Model.Tvg
import MoPepGen.Model.TvgLang
import MoPepGen.Lemmas.Graph
import MoPepGen.Lemmas.ListAux
namespace MoPepGen.Tvg
open MoPepGen MoPepGen.Spec

theorem tvg_bind_ok {α β : Type} {e : R α} {f : α → R β} {r : β} :
    (e >>= f) = .ok r ↔ ∃ x, e = .ok x ∧ f x = .ok r :=
  ⟨bind_ok, fun ⟨_, hx, hf⟩ => hx ▸ hf⟩

theorem eq_ok_of_toOption {α : Type} {e : R α} {a : α} (h : e.toOption = some a) : e = .ok a := by
  cases e with
  | error m => cases h
  | ok x => cases h; rfl

/-! ### predicates on nodes -/

/-- node `i` is the reference stretch `[a, b)` of frame `f` -/
def IsRef (s : TState) (i f a b : Nat) : Prop := ∃ sq, s.nodes[i]? = some ⟨f, .ref a b, sq⟩

/-- node `i` is the variant node of record `v`, created in frame `f` -/
def IsVar (s : TState) (i f : Nat) (v : Rec) : Prop := ∃ sq, s.nodes[i]? = some ⟨f, .var v, sq⟩

/-- node `i` is a null node (`seq = None`) with `reading_frame_index = f` (3 = `None`) -/
def IsNull (s : TState) (i f : Nat) : Prop := ∃ sq, s.nodes[i]? = some ⟨f, .root, sq⟩

def NodeOk (t : List Char) (n : TNode) : Prop :=
  match n.kind with
  | .root => True
  | .ref a b => n.rf < 3 ∧ n.rf ≤ a ∧ a < b ∧ b ≤ t.length ∧ n.seq = (t.drop a).take (b - a)
  | .var v => n.rf < 3 ∧ n.seq = v.alt ∧ n.rf < v.start ∧ v.start < v.stop ∧ v.stop ≤ t.length

/-- an edge agrees with the positions of its end nodes -/
def EdgeOk (s : TState) (e : TEdge) : Prop :=
  match e.ty with
  | .reference =>
    (∃ f a b c, IsRef s e.src f a b ∧ IsRef s e.dst f b c) ∨
    (∃ f b, f < 3 ∧ IsNull s e.src f ∧ IsRef s e.dst f f b) ∨
    (∃ f, f < 3 ∧ IsNull s e.src 3 ∧ IsNull s e.dst f)
  | .variantStart => ∃ f a b v, IsRef s e.src f a b ∧ IsVar s e.dst f v ∧ b = v.start
  | .variantEnd => ∃ f v g c d, IsVar s e.src f v ∧ IsRef s e.dst g c d ∧ c = v.stop

def outRefCount (s : TState) (i : Nat) : Nat :=
  (s.edges.filter fun e => e.src == i && e.ty == .reference).length

def inRefCount (s : TState) (i : Nat) : Nat :=
  (s.edges.filter fun e => e.dst == i && e.ty == .reference).length

/-- the partition invariant -/
structure Inv (t : List Char) (s : TState) : Prop where
  nodesOk : ∀ (i : Nat) (n : TNode), s.nodes[i]? = some n → NodeOk t n
  cover : ∀ (f p : Nat), f < 3 → f ≤ p → p < t.length → ∃ i a b, IsRef s i f a b ∧ a ≤ p ∧ p < b
  disjoint : ∀ (i j f a b a' b' : Nat), IsRef s i f a b → IsRef s j f a' b' → a < b' → a' < b → i = j
  edgesIn : ∀ e ∈ s.edges, e.src < s.nodes.length ∧ e.dst < s.nodes.length
  edgeOk : ∀ e ∈ s.edges, EdgeOk s e
  refLinked : ∀ (i j f a b c : Nat), IsRef s i f a b → IsRef s j f b c → ⟨i, j, .reference⟩ ∈ s.edges
  /-- counted in the multiset of edges: no duplicate `TVGEdge` either -/
  outRef : ∀ (i f a b : Nat), IsRef s i f a b → outRefCount s i ≤ 1
  inRef : ∀ (i f a b : Nat), IsRef s i f a b → inRefCount s i ≤ 1

def StartLinked (s : TState) (k : Nat) : Prop := ∃ e ∈ s.edges, e.dst = k ∧ e.ty = .variantStart

def EndLinked (s : TState) (k : Nat) : Prop := ∃ e ∈ s.edges, e.src = k ∧ e.ty = .variantEnd

/-- `VarLinked` with node `x` exempted: inside an `apply_variant` call the new variant node has no
edges yet -/
def VarLinkedExcept (t : List Char) (s : TState) (x : Option Nat) : Prop :=
  ∀ k f v, IsVar s k f v → some k ≠ x →
    StartLinked s k ∧ (v.stop < t.length → EndLinked s k)

/-- every variant node hangs between its two reference nodes -/
def VarLinked (t : List Char) (s : TState) : Prop := VarLinkedExcept t s none

variable {t : List Char} {s : TState}

theorem IsRef.lt {i f a b : Nat} (h : IsRef s i f a b) : i < s.nodes.length := by
  obtain ⟨sq, h⟩ := h
  exact (List.getElem?_eq_some_iff.mp h).1

theorem IsVar.lt {i f : Nat} {v : Rec} (h : IsVar s i f v) : i < s.nodes.length := by
  obtain ⟨sq, h⟩ := h
  exact (List.getElem?_eq_some_iff.mp h).1

/-- on a concrete graph `decide` can check the hypothesis (no `∃ sq`) -/
theorem isRef_of_map {i f a b : Nat}
    (h : (s.nodes[i]?.map fun n => (n.rf, n.kind)) = some (f, .ref a b)) : IsRef s i f a b := by
  cases hn : s.nodes[i]? with
  | none => rw [hn] at h; cases h
  | some n =>
    obtain ⟨rf, kind, sq⟩ := n
    rw [hn] at h
    cases h
    exact ⟨sq, hn⟩

theorem IsRef.not_var {i f a b g : Nat} {v : Rec} (h : IsRef s i f a b)
    (h' : IsVar s i g v) : False := by
  obtain ⟨sq, h⟩ := h; obtain ⟨sq', h'⟩ := h'
  rw [h] at h'; cases h'

theorem IsRef.not_null {i f a b g : Nat} (h : IsRef s i f a b)
    (h' : IsNull s i g) : False := by
  obtain ⟨sq, h⟩ := h; obtain ⟨sq', h'⟩ := h'
  rw [h] at h'; cases h'

theorem IsVar.not_null {i f g : Nat} {v : Rec} (h : IsVar s i f v)
    (h' : IsNull s i g) : False := by
  obtain ⟨sq, h⟩ := h; obtain ⟨sq', h'⟩ := h'
  rw [h] at h'; cases h'

theorem IsRef.inj {i f a b f' a' b' : Nat} (h : IsRef s i f a b)
    (h' : IsRef s i f' a' b') : f = f' ∧ a = a' ∧ b = b' := by
  obtain ⟨sq, h⟩ := h; obtain ⟨sq', h'⟩ := h'
  rw [h] at h'; cases h'; exact ⟨rfl, rfl, rfl⟩

theorem IsVar.inj {i f f' : Nat} {v v' : Rec} (h : IsVar s i f v)
    (h' : IsVar s i f' v') : f = f' ∧ v = v' := by
  obtain ⟨sq, h⟩ := h; obtain ⟨sq', h'⟩ := h'
  rw [h] at h'; cases h'; exact ⟨rfl, rfl⟩

theorem Inv.ref_node (hI : Inv t s) {i f a b : Nat} {sq : List Char}
    (h : s.nodes[i]? = some ⟨f, .ref a b, sq⟩) :
    f < 3 ∧ f ≤ a ∧ a < b ∧ b ≤ t.length ∧ sq = (t.drop a).take (b - a) := hI.nodesOk i _ h

theorem Inv.ref_ok (hI : Inv t s) {i f a b : Nat}
    (h : IsRef s i f a b) : f < 3 ∧ f ≤ a ∧ a < b ∧ b ≤ t.length := by
  obtain ⟨sq, h⟩ := h
  have := hI.ref_node h
  exact ⟨this.1, this.2.1, this.2.2.1, this.2.2.2.1⟩

theorem Inv.var_ok (hI : Inv t s) {i f : Nat} {v : Rec}
    (h : IsVar s i f v) : f < 3 ∧ f < v.start ∧ v.start < v.stop ∧ v.stop ≤ t.length := by
  obtain ⟨sq, h⟩ := h
  have := hI.nodesOk i _ h
  exact ⟨this.1, this.2.2.1, this.2.2.2.1, this.2.2.2.2⟩

theorem Inv.ref_unique (hI : Inv t s) {i j f a b a' b' : Nat}
    (hi : IsRef s i f a b) (hj : IsRef s j f a' b') (h1 : a < b') (h2 : a' < b) :
    i = j ∧ a = a' ∧ b = b' := by
  have := hI.disjoint i j f a b a' b' hi hj h1 h2
  subst this
  exact ⟨rfl, (hi.inj hj).2⟩

theorem Inv.next_ref (hI : Inv t s) {i f a b : Nat}
    (h : IsRef s i f a b) (hb : b < t.length) : ∃ j c, IsRef s j f b c := by
  obtain ⟨hf, hfa, hab, _⟩ := hI.ref_ok h
  obtain ⟨j, a', b', hj, h1, h2⟩ := hI.cover f b hf (Nat.le_trans hfa (Nat.le_of_lt hab)) hb
  rcases Nat.lt_or_ge a' b with hlt | hge
  · exact absurd ((hI.ref_unique h hj (Nat.lt_trans hab h2) hlt).2.2 ▸ h2) (Nat.lt_irrefl _)
  · obtain rfl : a' = b := Nat.le_antisymm h1 hge
    exact ⟨j, b', hj⟩

/-! ### an edge, read from the kind of one of its ends -/

theorem EdgeOk.of_src_ref {e : TEdge} (hok : EdgeOk s e) {f a b : Nat}
    (h : IsRef s e.src f a b) :
    (e.ty = .reference ∧ ∃ c, IsRef s e.dst f b c) ∨
      (e.ty = .variantStart ∧ ∃ v, IsVar s e.dst f v ∧ b = v.start) := by
  obtain ⟨src, dst, ty⟩ := e
  cases ty <;> simp only [EdgeOk] at hok
  · rcases hok with ⟨f', x, y, z, h1, h2⟩ | ⟨_, _, _, h1, _⟩ | ⟨_, _, h1, _⟩
    · obtain ⟨rfl, _, rfl⟩ := h.inj h1
      exact Or.inl ⟨rfl, z, h2⟩
    · exact (h.not_null h1).elim
    · exact (h.not_null h1).elim
  · obtain ⟨f', x, y, v, h1, h2, h3⟩ := hok
    obtain ⟨rfl, _, rfl⟩ := h.inj h1
    exact Or.inr ⟨rfl, v, h2, h3⟩
  · obtain ⟨_, _, _, _, _, h1, _⟩ := hok
    exact (h.not_var h1).elim

theorem EdgeOk.of_src_var {e : TEdge} (hok : EdgeOk s e) {f : Nat} {v : Rec}
    (h : IsVar s e.src f v) : e.ty = .variantEnd ∧ ∃ g d, IsRef s e.dst g v.stop d := by
  obtain ⟨src, dst, ty⟩ := e
  cases ty <;> simp only [EdgeOk] at hok
  · rcases hok with ⟨_, _, _, _, h1, _⟩ | ⟨_, _, _, h1, _⟩ | ⟨_, _, h1, _⟩
    · exact (h1.not_var h).elim
    · exact (h.not_null h1).elim
    · exact (h.not_null h1).elim
  · obtain ⟨_, _, _, _, h1, _, _⟩ := hok
    exact (h1.not_var h).elim
  · obtain ⟨f', v', g, c, d, h1, h2, h3⟩ := hok
    obtain ⟨rfl, rfl⟩ := h.inj h1
    exact ⟨rfl, g, d, h3 ▸ h2⟩

theorem EdgeOk.of_dst_var {e : TEdge} (hok : EdgeOk s e) {f : Nat} {v : Rec}
    (h : IsVar s e.dst f v) : e.ty = .variantStart ∧ ∃ a, IsRef s e.src f a v.start := by
  obtain ⟨src, dst, ty⟩ := e
  cases ty <;> simp only [EdgeOk] at hok
  · rcases hok with ⟨_, _, _, _, _, h2⟩ | ⟨_, _, _, _, h2⟩ | ⟨_, _, _, h2⟩
    · exact (h2.not_var h).elim
    · exact (h2.not_var h).elim
    · exact (h.not_null h2).elim
  · obtain ⟨f', a, b, v', h1, h2, h3⟩ := hok
    obtain ⟨rfl, rfl⟩ := h.inj h2
    exact ⟨rfl, a, h3 ▸ h1⟩
  · obtain ⟨_, _, _, _, _, _, h2, _⟩ := hok
    exact (h2.not_var h).elim

theorem EdgeOk.of_dst_ref {e : TEdge} (hok : EdgeOk s e) (hty : e.ty = .reference)
    {f a b : Nat} (h : IsRef s e.dst f a b) (hfa : f < a) : ∃ x, IsRef s e.src f x a := by
  obtain ⟨src, dst, ty⟩ := e
  subst hty
  simp only [EdgeOk] at hok
  rcases hok with ⟨f', x, y, z, h1, h2⟩ | ⟨f', y, _, _, h2⟩ | ⟨_, _, _, h2⟩
  · obtain ⟨rfl, rfl, _⟩ := h.inj h2
    exact ⟨x, h1⟩
  · obtain ⟨rfl, rfl, _⟩ := h.inj h2
    exact absurd hfa (Nat.lt_irrefl _)
  · exact (h.not_null h2).elim

/-- `EdgeOk` only looks at the frame and END of a reference source and at the frame and START of a
reference target: it survives a change of state (and a renaming `ρ` of sources) that keeps those -/
theorem EdgeOk.transport {s s' : TState} (ρ : Nat → Nat)
    (hE : ∀ {i f a b}, IsRef s i f a b → ∃ a', IsRef s' (ρ i) f a' b)
    (hS : ∀ {i f a b}, IsRef s i f a b → ∃ b', IsRef s' i f a b')
    (hV : ∀ {i f v}, IsVar s i f v → IsVar s' i f v ∧ ρ i = i)
    (hN : ∀ {i f}, IsNull s i f → IsNull s' i f ∧ ρ i = i)
    {e : TEdge} (h : EdgeOk s e) : EdgeOk s' { e with src := ρ e.src } := by
  obtain ⟨src, dst, ty⟩ := e
  cases ty <;> simp only [EdgeOk] at h ⊢
  · rcases h with ⟨f, a, b, c, h1, h2⟩ | ⟨f, b, hf, h1, h2⟩ | ⟨f, hf, h1, h2⟩
    · obtain ⟨a', h1'⟩ := hE h1
      obtain ⟨c', h2'⟩ := hS h2
      exact Or.inl ⟨f, a', b, c', h1', h2'⟩
    · obtain ⟨b', h2'⟩ := hS h2
      exact Or.inr (Or.inl ⟨f, b', hf, (hN h1).2.symm ▸ (hN h1).1, h2'⟩)
    · exact Or.inr (Or.inr ⟨f, hf, (hN h1).2.symm ▸ (hN h1).1, (hN h2).1⟩)
  · obtain ⟨f, a, b, w, h1, h2, h3⟩ := h
    obtain ⟨a', h1'⟩ := hE h1
    exact ⟨f, a', b, w, h1', (hV h2).1, h3⟩
  · obtain ⟨f, w, g, c, d, h1, h2, h3⟩ := h
    obtain ⟨d', h2'⟩ := hS h2
    exact ⟨f, w, g, c, d', (hV h1).2.symm ▸ (hV h1).1, h2', h3⟩

/-! ### the primitives: what the nodes and edges are afterwards -/

theorem addNode_node (s : TState) (vn : TNode) (i : Nat) :
    (addNode s vn).1.nodes[i]? = if i = s.nodes.length then some vn else s.nodes[i]? := by
  simp only [addNode]
  by_cases h : i = s.nodes.length
  · subst h; simp
  · simp only [h, if_false]
    rcases Nat.lt_or_ge i s.nodes.length with h3 | h3
    · rw [List.getElem?_append_left h3]
    · rw [List.getElem?_eq_none (by simp; omega), List.getElem?_eq_none h3]

theorem addNode_snd (s : TState) (vn : TNode) : (addNode s vn).2 = s.nodes.length := rfl

theorem addNode_edges (s : TState) (vn : TNode) : (addNode s vn).1.edges = s.edges := rfl

theorem addNode_length (s : TState) (vn : TNode) :
    (addNode s vn).1.nodes.length = s.nodes.length + 1 := by simp [addNode]

theorem addNode_kind {vn : TNode} {i f : Nat} {κ : NKind} :
    (∃ q, (addNode s vn).1.nodes[i]? = some ⟨f, κ, q⟩) ↔
      (∃ q, s.nodes[i]? = some ⟨f, κ, q⟩) ∨ (i = s.nodes.length ∧ vn.rf = f ∧ vn.kind = κ) := by
  rw [addNode_node]
  by_cases h : i = s.nodes.length
  · subst h
    obtain ⟨rf, kind, sq⟩ := vn
    simp
  · simp [h]

theorem addVar_isRef {rf : Nat} {v : Rec} {sq : List Char} {i f a b : Nat} :
    IsRef (addNode s ⟨rf, .var v, sq⟩).1 i f a b ↔ IsRef s i f a b := by
  simp only [IsRef, addNode_kind, reduceCtorEq, and_false, or_false]

theorem addVar_isNull {rf : Nat} {v : Rec} {sq : List Char} {i f : Nat} :
    IsNull (addNode s ⟨rf, .var v, sq⟩).1 i f ↔ IsNull s i f := by
  simp only [IsNull, addNode_kind, reduceCtorEq, and_false, or_false]

theorem addVar_isVar {rf : Nat} {v : Rec} {sq : List Char} {i f : Nat} {w : Rec} :
    IsVar (addNode s ⟨rf, .var v, sq⟩).1 i f w ↔
      IsVar s i f w ∨ (i = s.nodes.length ∧ rf = f ∧ v = w) := by
  simp only [IsVar, addNode_kind, NKind.var.injEq]

theorem spliceAt_nodes_length (s : TState) (n : Nat) (nd : TNode) (a b k : Nat) (ty : EType) :
    (spliceAt s n nd a b k ty).nodes.length = s.nodes.length + 1 := by
  simp [spliceAt]

theorem spliceAt_node {n : Nat} {nd : TNode} (a b k : Nat) (ty : EType)
    (hn : s.nodes[n]? = some nd) (i : Nat) :
    (spliceAt s n nd a b k ty).nodes[i]? =
      if i = n then some { nd with kind := .ref a (a + k), seq := nd.seq.take k }
      else if i = s.nodes.length then
        some { rf := nd.rf, kind := .ref (a + k) b, seq := nd.seq.drop k }
      else s.nodes[i]? := by
  have hlt : n < s.nodes.length := (List.getElem?_eq_some_iff.mp hn).1
  simp only [spliceAt]
  by_cases h1 : i = n
  · subst h1
    simp [List.getElem?_append_left, hlt]
  · simp only [h1, if_false]
    by_cases h2 : i = s.nodes.length
    · subst h2
      simp
    · simp only [h2, if_false]
      rcases Nat.lt_or_ge i s.nodes.length with h3 | h3
      · rw [List.getElem?_append_left (by simpa using h3)]
        rw [List.getElem?_set_ne (by omega)]
      · rw [List.getElem?_eq_none (by simp; omega), List.getElem?_eq_none h3]

theorem spliceAt_kind {n rf a b : Nat} {sq : List Char} (k : Nat) (ty : EType)
    (hn : s.nodes[n]? = some ⟨rf, .ref a b, sq⟩) {i f : Nat} {κ : NKind} :
    (∃ q, (spliceAt s n ⟨rf, .ref a b, sq⟩ a b k ty).nodes[i]? = some ⟨f, κ, q⟩) ↔
      (i = n ∧ f = rf ∧ κ = .ref a (a + k)) ∨
      (i = s.nodes.length ∧ f = rf ∧ κ = .ref (a + k) b) ∨
      (i ≠ n ∧ ∃ q, s.nodes[i]? = some ⟨f, κ, q⟩) := by
  have hlt : n < s.nodes.length := (List.getElem?_eq_some_iff.mp hn).1
  rw [spliceAt_node a b k ty hn]
  by_cases h1 : i = n
  · subst h1
    have : i ≠ s.nodes.length := Nat.ne_of_lt hlt
    simp [this, eq_comm]
  · by_cases h2 : i = s.nodes.length
    · subst h2
      simp [h1, eq_comm]
    · simp [h1, h2]

theorem spliceAt_isRef {n rf a b : Nat} {sq : List Char} (k : Nat) (ty : EType)
    (hn : s.nodes[n]? = some ⟨rf, .ref a b, sq⟩) {i f x y : Nat} :
    IsRef (spliceAt s n ⟨rf, .ref a b, sq⟩ a b k ty) i f x y ↔
      (i = n ∧ f = rf ∧ x = a ∧ y = a + k) ∨
      (i = s.nodes.length ∧ f = rf ∧ x = a + k ∧ y = b) ∨ (i ≠ n ∧ IsRef s i f x y) := by
  simp only [IsRef, spliceAt_kind k ty hn, NKind.ref.injEq]

theorem spliceAt_isVar {n rf a b : Nat} {sq : List Char} (k : Nat) (ty : EType)
    (hn : s.nodes[n]? = some ⟨rf, .ref a b, sq⟩) {i f : Nat} {v : Rec} :
    IsVar (spliceAt s n ⟨rf, .ref a b, sq⟩ a b k ty) i f v ↔ IsVar s i f v := by
  simp only [IsVar, spliceAt_kind k ty hn, reduceCtorEq, and_false, false_or, and_iff_right_iff_imp]
  rintro ⟨q, hq⟩ rfl
  rw [hn] at hq
  cases hq

theorem spliceAt_isNull {n rf a b : Nat} {sq : List Char} (k : Nat) (ty : EType)
    (hn : s.nodes[n]? = some ⟨rf, .ref a b, sq⟩) {i f : Nat} :
    IsNull (spliceAt s n ⟨rf, .ref a b, sq⟩ a b k ty) i f ↔ IsNull s i f := by
  simp only [IsNull, spliceAt_kind k ty hn, reduceCtorEq, and_false, false_or, and_iff_right_iff_imp]
  rintro ⟨q, hq⟩ rfl
  rw [hn] at hq
  cases hq

theorem spliceAt_edges (s : TState) (n : Nat) (nd : TNode) (a b k : Nat) (ty : EType) :
    (spliceAt s n nd a b k ty).edges =
      s.edges.map (fun e => { e with src := if e.src = n then s.nodes.length else e.src }) ++
        [⟨n, s.nodes.length, ty⟩] := by
  simp only [spliceAt]
  congr 1
  apply List.map_congr_left
  intro e _
  by_cases h : e.src = n <;> simp [h]

theorem spliceAt_mem_edges {n : Nat} {nd : TNode} {a b k : Nat} {ty : EType}
    {e' : TEdge} :
    e' ∈ (spliceAt s n nd a b k ty).edges ↔
      (∃ e ∈ s.edges, { e with src := if e.src = n then s.nodes.length else e.src } = e') ∨
        e' = ⟨n, s.nodes.length, ty⟩ := by
  simp only [spliceAt_edges, List.mem_append, List.mem_map, List.mem_singleton]

/-- the renaming `n ↦ r` of `splice` on the sources `x < r` of old edges, read backwards -/
theorem rename_eq_iff {x n r i : Nat} (hx : x < r) (hn : n < r) :
    (if x = n then r else x) = i ↔ i ≠ n ∧ x = if i = r then n else i := by
  by_cases h1 : x = n
  · rw [if_pos h1]
    by_cases h2 : i = r
    · rw [if_pos h2]
      exact ⟨fun _ => ⟨h2 ▸ Nat.ne_of_gt hn, h1⟩, fun _ => h2.symm⟩
    · rw [if_neg h2]
      exact ⟨fun h => absurd h.symm h2, fun h => absurd (h1 ▸ h.2).symm h.1⟩
  · rw [if_neg h1]
    by_cases h2 : i = r
    · rw [if_pos h2]
      exact ⟨fun h => absurd (h.trans h2) (Nat.ne_of_lt hx), fun h => absurd h.2 h1⟩
    · rw [if_neg h2]
      exact ⟨fun h => ⟨h ▸ h1, h⟩, fun h => h.2⟩

theorem outRefCount_spliceAt {n : Nat} (nd : TNode) (a b k : Nat)
    (hn : n < s.nodes.length) (hsrc : ∀ e ∈ s.edges, e.src < s.nodes.length) (i : Nat) :
    outRefCount (spliceAt s n nd a b k .reference) i =
      if i = n then 1 else outRefCount s (if i = s.nodes.length then n else i) := by
  have hcongr : ∀ e ∈ s.edges,
      ((if e.src = n then s.nodes.length else e.src) == i && e.ty == .reference) =
        (decide (i ≠ n) && (e.src == (if i = s.nodes.length then n else i) && e.ty == .reference)) := by
    intro e he
    rw [← Bool.and_assoc]
    congr 1
    rw [Bool.eq_iff_iff]
    simp only [beq_iff_eq, Bool.and_eq_true, decide_eq_true_eq]
    exact rename_eq_iff (hsrc e he) hn
  simp only [outRefCount, spliceAt_edges, List.filter_append, List.length_append, List.filter_map,
    List.length_map, Function.comp_def]
  rw [List.filter_congr hcongr]
  by_cases h1 : i = n
  · simp [h1]
  · have h1' : ¬ n = i := fun h => h1 h.symm
    simp [h1, h1']

theorem inRefCount_spliceAt (n : Nat) (nd : TNode) (a b k : Nat)
    (hdst : ∀ e ∈ s.edges, e.dst < s.nodes.length) (j : Nat) :
    inRefCount (spliceAt s n nd a b k .reference) j =
      if j = s.nodes.length then 1 else inRefCount s j := by
  simp only [inRefCount, spliceAt_edges, List.filter_append, List.length_append, List.filter_map,
    List.length_map, Function.comp_def]
  by_cases h : j = s.nodes.length
  · subst h
    have : (s.edges.filter fun e => e.dst == s.nodes.length && e.ty == .reference) = [] := by
      rw [List.filter_eq_nil_iff]
      intro e he
      have := Nat.ne_of_lt (hdst e he)
      simp [this]
    simp [this]
  · have h' : ¬ s.nodes.length = j := fun h' => h h'.symm
    simp [h, h']

/-! ### the primitives keep the invariant -/

theorem inv_spliceAt (hI : Inv t s) {n rf a b k : Nat} {sq : List Char}
    (hn : s.nodes[n]? = some ⟨rf, .ref a b, sq⟩) (hk0 : 0 < k) (hkb : k < b - a) :
    Inv t (spliceAt s n ⟨rf, .ref a b, sq⟩ a b k .reference) := by
  have hnref : IsRef s n rf a b := ⟨sq, hn⟩
  have hlt : n < s.nodes.length := hnref.lt
  obtain ⟨hrf, hrfa, hab, hbL, hsq⟩ := hI.ref_node hn
  have hR := @spliceAt_isRef s n rf a b sq k .reference hn
  have hV := @spliceAt_isVar s n rf a b sq k .reference hn
  have hN := @spliceAt_isNull s n rf a b sq k .reference hn
  have keep : ∀ {i f x y : Nat}, i ≠ n → IsRef s i f x y →
      IsRef (spliceAt s n ⟨rf, .ref a b, sq⟩ a b k .reference) i f x y :=
    fun h1 h2 => hR.mpr (Or.inr (Or.inr ⟨h1, h2⟩))
  have hleft : IsRef (spliceAt s n ⟨rf, .ref a b, sq⟩ a b k .reference) n rf a (a + k) :=
    hR.mpr (Or.inl ⟨rfl, rfl, rfl, rfl⟩)
  have hright : IsRef (spliceAt s n ⟨rf, .ref a b, sq⟩ a b k .reference) s.nodes.length rf (a + k) b :=
    hR.mpr (Or.inr (Or.inl ⟨rfl, rfl, rfl, rfl⟩))
  have hak : a + k < b := Nat.add_lt_of_lt_sub' hkb
  have haa : a < a + k := Nat.lt_add_of_pos_right hk0
  have hsep : ∀ {j x y : Nat}, j ≠ n → IsRef s j rf x y → a < y → x < b → False :=
    fun hj h h1 h2 => hj (hI.disjoint _ _ _ _ _ _ _ hnref h h1 h2).symm
  refine ⟨?_, ?_, ?_, ?_, ?_, ?_, ?_, ?_⟩
  · -- nodesOk
    intro i n' h
    rw [spliceAt_node a b k .reference hn] at h
    split at h
    · cases h
      refine ⟨hrf, hrfa, haa, Nat.le_trans (Nat.le_of_lt hak) hbL, ?_⟩
      rw [hsq, List.take_take, Nat.min_eq_left (Nat.le_of_lt hkb), Nat.add_sub_cancel_left]
    · split at h
      · cases h
        refine ⟨hrf, Nat.le_trans hrfa (Nat.le_add_right a k), hak, hbL, ?_⟩
        rw [hsq, List.drop_take, List.drop_drop, Nat.sub_add_eq]
      · exact hI.nodesOk i n' h
  · -- cover
    intro f p hf hfp hp
    obtain ⟨i, a', b', hi, h1, h2⟩ := hI.cover f p hf hfp hp
    by_cases hin : i = n
    · subst hin
      obtain ⟨rfl, rfl, rfl⟩ := hnref.inj hi
      rcases Nat.lt_or_ge p (a + k) with h | h
      · exact ⟨i, a, a + k, hleft, h1, h⟩
      · exact ⟨s.nodes.length, a + k, b, hright, h, h2⟩
    · exact ⟨i, a', b', keep hin hi, h1, h2⟩
  · -- disjoint
    intro i j f x y x' y' hi hj h1 h2
    rcases hR.mp hi with ⟨rfl, rfl, rfl, rfl⟩ | ⟨rfl, rfl, rfl, rfl⟩ | ⟨hi1, hi3⟩
    · rcases hR.mp hj with ⟨rfl, -⟩ | ⟨rfl, -, rfl, rfl⟩ | ⟨hj1, hj3⟩
      · rfl
      · exact absurd h2 (Nat.lt_irrefl _)
      · exact (hsep hj1 hj3 h1 (Nat.lt_trans h2 hak)).elim
    · rcases hR.mp hj with ⟨rfl, -, rfl, rfl⟩ | ⟨rfl, -⟩ | ⟨hj1, hj3⟩
      · exact absurd h1 (Nat.lt_irrefl _)
      · rfl
      · exact (hsep hj1 hj3 (Nat.lt_trans haa h1) h2).elim
    · rcases hR.mp hj with ⟨rfl, rfl, rfl, rfl⟩ | ⟨rfl, rfl, rfl, rfl⟩ | ⟨hj1, hj3⟩
      · exact (hsep hi1 hi3 h2 (Nat.lt_trans h1 hak)).elim
      · exact (hsep hi1 hi3 (Nat.lt_trans haa h2) h1).elim
      · exact hI.disjoint _ _ _ _ _ _ _ hi3 hj3 h1 h2
  · -- edgesIn
    intro e' he'
    rw [spliceAt_nodes_length]
    rcases spliceAt_mem_edges.mp he' with ⟨e, he, rfl⟩ | rfl
    · refine ⟨?_, Nat.lt_succ_of_lt (hI.edgesIn e he).2⟩
      dsimp only
      split
      · exact Nat.lt_succ_self _
      · exact Nat.lt_succ_of_lt (hI.edgesIn e he).1
    · exact ⟨Nat.lt_succ_of_lt hlt, Nat.lt_succ_self _⟩
  · -- edgeOk: the right half keeps the end of `n`, `n` itself keeps its start
    intro e' he'
    rcases spliceAt_mem_edges.mp he' with ⟨e, he, rfl⟩ | rfl
    · refine (hI.edgeOk e he).transport (fun i => if i = n then s.nodes.length else i) ?_ ?_ ?_ ?_
      · intro i f x y hi
        by_cases hin : i = n
        · subst hin
          obtain ⟨rfl, rfl, rfl⟩ := hnref.inj hi
          exact ⟨_, by simpa using hright⟩
        · exact ⟨x, by simpa [hin] using keep hin hi⟩
      · intro i f x y hi
        by_cases hin : i = n
        · subst hin
          obtain ⟨rfl, rfl, rfl⟩ := hnref.inj hi
          exact ⟨_, hleft⟩
        · exact ⟨y, keep hin hi⟩
      · intro i f v hi
        exact ⟨hV.mpr hi, if_neg fun h => hnref.not_var (h ▸ hi)⟩
      · intro i f hi
        exact ⟨hN.mpr hi, if_neg fun h => hnref.not_null (h ▸ hi)⟩
    · exact Or.inl ⟨rf, a, a + k, b, hleft, hright⟩
  · -- refLinked
    intro i j f x y z hi hj
    rcases hR.mp hi with ⟨rfl, rfl, rfl, rfl⟩ | ⟨rfl, rfl, rfl, rfl⟩ | ⟨hi1, hi3⟩
    · rcases hR.mp hj with ⟨-, -, hj1, -⟩ | ⟨rfl, -⟩ | ⟨hj1, hj3⟩
      · exact absurd (hj1 ▸ haa) (Nat.lt_irrefl _)
      · exact spliceAt_mem_edges.mpr (Or.inr rfl)
      · exact (hsep hj1 hj3 (Nat.lt_trans haa (hI.ref_ok hj3).2.2.1) hak).elim
    · rcases hR.mp hj with ⟨-, -, hj1, -⟩ | ⟨-, -, hj1, -⟩ | ⟨hj1, hj3⟩
      · exact absurd (hj1 ▸ Nat.lt_trans haa hak) (Nat.lt_irrefl _)
      · exact absurd (hj1 ▸ hak) (Nat.lt_irrefl _)
      · -- the old edge `n → j` leaves the right half
        exact spliceAt_mem_edges.mpr (Or.inl ⟨_, hI.refLinked _ _ _ _ _ _ hnref hj3, by simp⟩)
    · rcases hR.mp hj with ⟨rfl, rfl, rfl, -⟩ | ⟨-, rfl, rfl, -⟩ | ⟨hj1, hj3⟩
      · exact spliceAt_mem_edges.mpr (Or.inl ⟨_, hI.refLinked _ _ _ _ _ _ hi3 hnref, by simp [hi1]⟩)
      · exact (hsep hi1 hi3 haa (Nat.lt_trans (hI.ref_ok hi3).2.2.1 hak)).elim
      · exact spliceAt_mem_edges.mpr (Or.inl ⟨_, hI.refLinked _ _ _ _ _ _ hi3 hj3, by simp [hi1]⟩)
  · -- outRef
    intro i f x y hi
    rw [outRefCount_spliceAt _ a b k hlt (fun e he => (hI.edgesIn e he).1)]
    rcases hR.mp hi with ⟨rfl, -⟩ | ⟨rfl, -⟩ | ⟨hi1, hi3⟩
    · simp
    · simpa [Nat.ne_of_gt hlt] using hI.outRef _ _ _ _ hnref
    · simpa [hi1, Nat.ne_of_lt hi3.lt] using hI.outRef _ _ _ _ hi3
  · -- inRef
    intro j f x y hj
    rw [inRefCount_spliceAt _ _ a b k (fun e he => (hI.edgesIn e he).2)]
    rcases hR.mp hj with ⟨rfl, -⟩ | ⟨rfl, -⟩ | ⟨-, hj3⟩
    · simpa [Nat.ne_of_lt hlt] using hI.inRef _ _ _ _ hnref
    · simp
    · simpa [Nat.ne_of_lt hj3.lt] using hI.inRef _ _ _ _ hj3

theorem inv_addVar (hI : Inv t s) {rf : Nat} {v : Rec} {sq : List Char}
    (hok : NodeOk t ⟨rf, .var v, sq⟩) : Inv t (addNode s ⟨rf, .var v, sq⟩).1 := by
  refine ⟨?_, by simpa only [addVar_isRef] using hI.cover,
    by simpa only [addVar_isRef] using hI.disjoint, ?_, ?_,
    by simpa only [addVar_isRef, addNode_edges] using hI.refLinked,
    by simpa only [addVar_isRef, outRefCount, addNode_edges] using hI.outRef,
    by simpa only [addVar_isRef, inRefCount, addNode_edges] using hI.inRef⟩
  · intro i n' h
    rw [addNode_node] at h
    split at h
    · cases h; exact hok
    · exact hI.nodesOk i n' h
  · intro e he
    rw [addNode_length]
    exact ⟨Nat.lt_succ_of_lt (hI.edgesIn e he).1, Nat.lt_succ_of_lt (hI.edgesIn e he).2⟩
  · intro e he
    exact (hI.edgeOk e he).transport id (fun h => ⟨_, addVar_isRef.mpr h⟩)
      (fun h => ⟨_, addVar_isRef.mpr h⟩) (fun h => ⟨addVar_isVar.mpr (Or.inl h), rfl⟩)
      (fun h => ⟨addVar_isNull.mpr h, rfl⟩)

theorem mem_addEdge {i o : Nat} {ty : EType} {e : TEdge} :
    e ∈ (addEdge s i o ty).edges ↔ e ∈ s.edges ∨ e = ⟨i, o, ty⟩ := by
  simp only [addEdge, List.mem_append, List.mem_singleton]

theorem inv_addEdge (hI : Inv t s) {i o : Nat} {ty : EType}
    (hi : i < s.nodes.length) (ho : o < s.nodes.length) (hok : EdgeOk s ⟨i, o, ty⟩)
    (hty : ty ≠ .reference := by decide) :
    Inv t (addEdge s i o ty) := by
  have hb : (ty == EType.reference) = false := by simpa using hty
  refine ⟨hI.nodesOk, hI.cover, hI.disjoint, ?_, ?_, ?_, ?_, ?_⟩
  · intro e he
    rcases mem_addEdge.mp he with he | rfl
    · exact hI.edgesIn e he
    · exact ⟨hi, ho⟩
  · intro e he
    rcases mem_addEdge.mp he with he | rfl
    · exact hI.edgeOk e he
    · exact hok
  · intro i' j f a b c h1 h2
    exact mem_addEdge.mpr (Or.inl (hI.refLinked i' j f a b c h1 h2))
  · intro i' f a b h
    have := hI.outRef i' f a b h
    simpa [outRefCount, addEdge, List.filter_append, hb] using this
  · intro i' f a b h
    have := hI.inRef i' f a b h
    simpa [inRefCount, addEdge, List.filter_append, hb] using this

/-! ### `VarLinked` through the primitives -/

theorem startLinked_spliceAt {k : Nat} (n : Nat) (nd : TNode) (a b kk : Nat) (ty : EType)
    (h : StartLinked s k) : StartLinked (spliceAt s n nd a b kk ty) k := by
  obtain ⟨e, he, h1, h2⟩ := h
  exact ⟨_, spliceAt_mem_edges.mpr (Or.inl ⟨e, he, rfl⟩), h1, h2⟩

theorem endLinked_spliceAt {k n : Nat} (nd : TNode) (a b kk : Nat) (ty : EType)
    (h : EndLinked s k) (hkn : k ≠ n) : EndLinked (spliceAt s n nd a b kk ty) k := by
  obtain ⟨e, he, h1, h2⟩ := h
  exact ⟨_, spliceAt_mem_edges.mpr (Or.inl ⟨e, he, rfl⟩), (if_neg (h1 ▸ hkn)).trans h1, h2⟩

theorem varLinkedExcept_spliceAt {x : Option Nat} {n rf a b : Nat}
    {sq : List Char} (k : Nat) (ty : EType) (hn : s.nodes[n]? = some ⟨rf, .ref a b, sq⟩)
    (h : VarLinkedExcept t s x) :
    VarLinkedExcept t (spliceAt s n ⟨rf, .ref a b, sq⟩ a b k ty) x := by
  intro k' f v hv hx
  have hv' := (spliceAt_isVar k ty hn).mp hv
  obtain ⟨h1, h2⟩ := h k' f v hv' hx
  have hne : k' ≠ n := fun h => IsRef.not_var ⟨sq, hn⟩ (h ▸ hv')
  exact ⟨startLinked_spliceAt n _ a b k ty h1, fun hs => endLinked_spliceAt _ a b k ty (h2 hs) hne⟩

theorem varLinkedExcept_addVar {rf : Nat} {v : Rec} {sq : List Char}
    (h : VarLinked t s) :
    VarLinkedExcept t (addNode s ⟨rf, .var v, sq⟩).1 (some s.nodes.length) := by
  intro k f w hw hx
  rcases addVar_isVar.mp hw with hw' | ⟨rfl, _, _⟩
  · exact h k f w hw' (by simp)
  · exact absurd rfl hx

theorem startLinked_addEdge {k : Nat} (i o : Nat) (ty : EType) (h : StartLinked s k) :
    StartLinked (addEdge s i o ty) k := by
  obtain ⟨e, he, h1, h2⟩ := h
  exact ⟨e, mem_addEdge.mpr (Or.inl he), h1, h2⟩

theorem endLinked_addEdge {k : Nat} (i o : Nat) (ty : EType) (h : EndLinked s k) :
    EndLinked (addEdge s i o ty) k := by
  obtain ⟨e, he, h1, h2⟩ := h
  exact ⟨e, mem_addEdge.mpr (Or.inl he), h1, h2⟩

theorem varLinkedExcept_addEdge {x : Option Nat} (i o : Nat) (ty : EType)
    (h : VarLinkedExcept t s x) : VarLinkedExcept t (addEdge s i o ty) x := by
  intro k f v hv hx
  obtain ⟨h1, h2⟩ := h k f v hv hx
  exact ⟨startLinked_addEdge i o ty h1, fun hs => endLinked_addEdge i o ty (h2 hs)⟩

theorem isVar_addEdge {s : TState} {i o : Nat} {ty : EType} {k f : Nat} {v : Rec} :
    IsVar (addEdge s i o ty) k f v ↔ IsVar s k f v := Iff.rfl

theorem isRef_addEdge {s : TState} {i o : Nat} {ty : EType} {k f a b : Nat} :
    IsRef (addEdge s i o ty) k f a b ↔ IsRef s k f a b := Iff.rfl

theorem startLinked_new (s : TState) (i k : Nat) : StartLinked (addEdge s i k .variantStart) k :=
  ⟨⟨i, k, .variantStart⟩, mem_addEdge.mpr (Or.inr rfl), rfl, rfl⟩

theorem endLinked_new (s : TState) (k o : Nat) : EndLinked (addEdge s k o .variantEnd) k :=
  ⟨⟨k, o, .variantEnd⟩, mem_addEdge.mpr (Or.inr rfl), rfl, rfl⟩

theorem varLinked_of_except {k f : Nat} {v : Rec}
    (hL : VarLinkedExcept t s (some k)) (hv : IsVar s k f v) (h1 : StartLinked s k)
    (h2 : v.stop < t.length → EndLinked s k) : VarLinked t s := by
  intro k' f' v' hv' _
  by_cases hk : k' = k
  · subst hk
    obtain ⟨_, rfl⟩ := hv.inj hv'
    exact ⟨h1, h2⟩
  · exact hL k' f' v' hv' (by simpa using hk)

/-! ### the model functions on a reference node -/

theorem nodeLoc_ref {i f a b : Nat} (h : IsRef s i f a b) (hab : a < b) :
    nodeLoc s i = .ok (a, b) := by
  obtain ⟨sq, h⟩ := h
  simp [nodeLoc, h, hab]

theorem nodeFrame_isRef {i f a b : Nat} (h : IsRef s i f a b) : nodeFrame s i = f := by
  obtain ⟨sq, h⟩ := h
  simp [nodeFrame, h]

theorem nodeLoc_ok {i a b : Nat} (h : nodeLoc s i = .ok (a, b)) :
    ∃ f, IsRef s i f a b ∧ a < b := by
  unfold nodeLoc at h
  split at h
  · cases h
  · rename_i n hn
    obtain ⟨rf, kind, sq⟩ := n
    cases kind with
    | root => cases h
    | var v => cases h
    | ref x y =>
      dsimp only at h
      split at h
      · cases h
        exact ⟨rf, ⟨sq, hn⟩, by assumption⟩
      · cases h

theorem getQueryIndex_ref {i f a b : Nat} (h : IsRef s i f a b) (x : Nat) :
    getQueryIndex s i x = .ok (if a ≤ x ∧ x < b then ((x - a : Nat) : Int) else -1) := by
  obtain ⟨sq, h⟩ := h
  simp only [getQueryIndex, h]
  split <;> rfl

theorem pyIndex_nat (k len : Nat) (h : k ≤ len) : pyIndex (k : Int) len = k := by
  have : ¬ ((k : Int) < 0) := by omega
  simp only [pyIndex, this, if_false, Int.toNat_natCast]
  exact Nat.min_eq_left h

theorem Inv.ref_seq_length (hI : Inv t s) {i rf a b : Nat} {sq : List Char}
    (h : s.nodes[i]? = some ⟨rf, .ref a b, sq⟩) : sq.length = b - a := by
  obtain ⟨_, _, _, hb, hsq⟩ := hI.ref_node h
  rw [hsq, List.length_take, List.length_drop, Nat.min_eq_left (Nat.sub_le_sub_right hb a)]

/-- what `splice` at reference position `x` strictly inside the reference node `n = [a, b)` gives -/
structure SpliceRes (t : List Char) (s : TState) (n f a x b : Nat) (s' : TState) : Prop where
  inv : Inv t s'
  left : IsRef s' n f a x
  right : IsRef s' s.nodes.length f x b
  length : s'.nodes.length = s.nodes.length + 1
  keep : ∀ {i g c d : Nat}, i ≠ n → IsRef s i g c d → IsRef s' i g c d
  isRef : ∀ {i g c d : Nat}, IsRef s' i g c d →
    (i = n ∧ g = f ∧ c = a ∧ d = x) ∨ (i = s.nodes.length ∧ g = f ∧ c = x ∧ d = b) ∨
      (i ≠ n ∧ IsRef s i g c d)
  isVar : ∀ {i g : Nat} {v : Rec}, IsVar s' i g v ↔ IsVar s i g v
  linked : ∀ {y : Option Nat}, VarLinkedExcept t s y → VarLinkedExcept t s' y
  startLinked : ∀ {k : Nat}, StartLinked s k → StartLinked s' k
  endLinked : ∀ {k : Nat}, k ≠ n → EndLinked s k → EndLinked s' k

theorem splice_at_pos (hI : Inv t s) {n f a b x : Nat}
    (hn : IsRef s n f a b) (h1 : a < x) (h2 : x < b) :
    ∃ s', getQueryIndex s n x = .ok ((x - a : Nat) : Int) ∧
      splice s n ((x - a : Nat) : Int) .reference = .ok (s', n, s.nodes.length) ∧
      SpliceRes t s n f a x b s' ∧
      (∀ e' ∈ s'.edges, ∀ m r, IsVar s' e'.src m r → e' ∈ s.edges) := by
  obtain ⟨sq, hsq⟩ := hn
  have hlen := hI.ref_seq_length hsq
  have e : a + (x - a) = x := Nat.add_sub_cancel' (Nat.le_of_lt h1)
  have hR := @spliceAt_isRef s n f a b sq (x - a) .reference hsq
  rw [e] at hR
  have hleft := hR.mpr (Or.inl ⟨rfl, rfl, rfl, rfl⟩)
  have hright := hR.mpr (Or.inr (Or.inl ⟨rfl, rfl, rfl, rfl⟩))
  refine ⟨spliceAt s n ⟨f, .ref a b, sq⟩ a b (x - a) .reference, ?_, ?_,
    ⟨inv_spliceAt hI hsq (Nat.sub_pos_of_lt h1) (Nat.sub_lt_sub_right (Nat.le_of_lt h1) h2),
      hleft, hright, spliceAt_nodes_length _ _ _ _ _ _ _,
      fun hne hi => hR.mpr (Or.inr (Or.inr ⟨hne, hi⟩)), hR.mp, spliceAt_isVar _ _ hsq,
      varLinkedExcept_spliceAt _ _ hsq, startLinked_spliceAt _ _ _ _ _ _,
      fun hk1 hk2 => endLinked_spliceAt _ _ _ _ _ hk2 hk1⟩, ?_⟩
  · rw [getQueryIndex_ref ⟨sq, hsq⟩, if_pos ⟨Nat.le_of_lt h1, h2⟩]
  · simp only [splice, hsq]
    rw [pyIndex_nat _ _ (hlen ▸ Nat.sub_le_sub_right (Nat.le_of_lt h2) a)]
  · intro e' he' m r hv
    rcases spliceAt_mem_edges.mp he' with ⟨e, he, rfl⟩ | rfl
    · by_cases hs : e.src = n
      · exact (hright.not_var (by simpa [hs] using hv)).elim
      · simpa [hs] using he
    · exact (hleft.not_var hv).elim

theorem SpliceRes.keepStart {s s' : TState} {n f a x b : Nat}
    (hres : SpliceRes t s n f a x b s') (hn : IsRef s n f a b) {i h x0 y0 : Nat}
    (hi : IsRef s i h x0 y0) : ∃ y', IsRef s' i h x0 y' := by
  by_cases hin : i = n
  · subst hin
    obtain ⟨rfl, rfl, rfl⟩ := hn.inj hi
    exact ⟨_, hres.left⟩
  · exact ⟨_, hres.keep hin hi⟩

/-! ### `get_reference_prev`, `get_reference_next`, the walk to the variant end -/

theorem mem_outEdges {i : Nat} {e : TEdge} : e ∈ outEdges s i ↔ e ∈ s.edges ∧ e.src = i := by
  simp [outEdges]

theorem mem_inEdges {i : Nat} {e : TEdge} : e ∈ inEdges s i ↔ e ∈ s.edges ∧ e.dst = i := by
  simp [inEdges]

theorem eq_singleton_of_mem {α : Type} {l : List α} {x : α} (hx : x ∈ l) (hl : l.length ≤ 1) :
    l = [x] := by
  match l, hx, hl with
  | [y], hx, _ => rw [List.mem_singleton.mp hx]

theorem Inv.ref_end_lt_of_outEdge (hI : Inv t s) {i f a b : Nat}
    (h : IsRef s i f a b) {e : TEdge} (he : e ∈ s.edges) (hsrc : e.src = i) : b < t.length := by
  subst hsrc
  rcases (hI.edgeOk e he).of_src_ref h with ⟨_, c, h2⟩ | ⟨_, v, h2, h3⟩
  · exact Nat.lt_of_lt_of_le (hI.ref_ok h2).2.2.1 (hI.ref_ok h2).2.2.2
  · exact h3 ▸ Nat.lt_of_lt_of_le (hI.var_ok h2).2.2.1 (hI.var_ok h2).2.2.2

theorem Inv.outEdges_eq_nil_iff (hI : Inv t s) {i f a b : Nat}
    (h : IsRef s i f a b) : outEdges s i = [] ↔ b = t.length := by
  constructor
  · intro hout
    rcases Nat.lt_or_ge b t.length with hb | hb
    · obtain ⟨j, c, hj⟩ := hI.next_ref h hb
      have : (⟨i, j, .reference⟩ : TEdge) ∈ outEdges s i :=
        mem_outEdges.mpr ⟨hI.refLinked _ _ _ _ _ _ h hj, rfl⟩
      rw [hout] at this
      cases this
    · exact Nat.le_antisymm (hI.ref_ok h).2.2.2 hb
  · intro hb
    apply List.eq_nil_iff_forall_not_mem.mpr
    intro e he
    obtain ⟨h1, h2⟩ := mem_outEdges.mp he
    exact absurd (hI.ref_end_lt_of_outEdge h h1 h2) (hb ▸ Nat.lt_irrefl _)

/-- `get_reference_prev` of a reference node never depends on the iteration order of the edge
set (there is at most one `reference` in-edge); for a node that is not the first of its frame it is
the reference node ending where this one starts -/
theorem getReferencePrev_spec (hI : Inv t s) {i f a b : Nat} (h : IsRef s i f a b) :
    ∃ r, getReferencePrev s i = .ok r ∧ ∀ p, r = some p → f < a → ∃ x, IsRef s p f x a := by
  have hc := hI.inRef i f a b h
  have e : ((inEdges s i).filter fun e => e.ty == .reference) =
      s.edges.filter fun e => e.dst == i && e.ty == .reference := by
    simp only [inEdges, List.filter_filter]
    exact List.filter_congr fun e _ => Bool.and_comm _ _
  unfold getReferencePrev
  rw [e]
  match hl : s.edges.filter fun e => e.dst == i && e.ty == .reference with
  | [] => rw [hl]; exact ⟨none, rfl, nofun⟩
  | [e] =>
    rw [hl]
    refine ⟨some e.src, rfl, fun p hp hfa => ?_⟩
    cases hp
    obtain ⟨he, hcond⟩ := List.mem_filter.mp (hl ▸ List.mem_singleton_self e)
    simp only [Bool.and_eq_true, beq_iff_eq] at hcond
    exact (hI.edgeOk e he).of_dst_ref hcond.2 (hcond.1 ▸ h) hfa
  | _ :: _ :: _ => rw [inRefCount, hl] at hc; simp at hc

/-- `get_reference_next` of a reference node never raises and never depends on the iteration
order of the edge set: it is `None` at the end of the transcript and otherwise THE reference node
of the frame that starts where this one ends -/
theorem getReferenceNext_total (hI : Inv t s) {i f a b : Nat}
    (h : IsRef s i f a b) :
    (b = t.length ∧ getReferenceNext s i = .ok none) ∨
      (∃ j c, IsRef s j f b c ∧ getReferenceNext s i = .ok (some j)) := by
  cases hout : outEdges s i with
  | nil => exact Or.inl ⟨(hI.outEdges_eq_nil_iff h).mp hout, by simp [getReferenceNext, hout]⟩
  | cons e0 es =>
    right
    obtain ⟨h1, h2⟩ := mem_outEdges.mp (hout ▸ List.mem_cons_self : e0 ∈ outEdges s i)
    obtain ⟨j, c, hj⟩ := hI.next_ref h (hI.ref_end_lt_of_outEdge h h1 h2)
    have hl := hI.refLinked _ _ _ _ _ _ h hj
    refine ⟨j, c, hj, ?_⟩
    cases es with
    | nil =>
      have := mem_outEdges.mpr ⟨hl, rfl⟩
      rw [hout, List.mem_singleton] at this
      simp [getReferenceNext, hout, ← this]
    | cons e1 es' =>
      -- the candidates are exactly the `reference` out-edges: one
      have ecand : ((outEdges s i).filter fun e => e.ty == .reference || e.ty == .variantEnd) =
          s.edges.filter fun e => e.src == i && e.ty == .reference := by
        simp only [outEdges, List.filter_filter]
        apply List.filter_congr
        intro e he
        by_cases hs : e.src = i
        · subst hs
          rcases (hI.edgeOk e he).of_src_ref h with ⟨hty, _⟩ | ⟨hty, _⟩ <;> simp [hty]
        · have : (e.src == i) = false := by simpa using hs
          simp [this]
      have hone := eq_singleton_of_mem (List.mem_filter.mpr ⟨hl, by simp⟩) (hI.outRef i f a b h)
      simp only [getReferenceNext, hout]
      rw [← hout, ecand, hone]

/-- the loop of `apply_variant` that looks for the node holding the variant end: it stays on the
reference nodes of the frame and stops at the node that contains `stop`, or starts there, or at
the last node of the frame -/
theorem walkToEnd_ref (hI : Inv t s) (stop : Nat) :
    ∀ (fuel cur g x y c' : Nat), IsRef s cur g x y → x ≤ stop →
      walkToEnd s fuel cur stop = .ok c' →
      ∃ x' y', IsRef s c' g x' y' ∧ x' ≤ stop ∧ (stop < y' ∨ y' = t.length) := by
  intro fuel
  induction fuel with
  | zero => intro cur g x y c' _ _ h; cases h
  | succ n ih =>
    intro cur g x y c' hc hx h
    have hxy := (hI.ref_ok hc).2.2.1
    simp only [walkToEnd, nodeLoc_ref hc hxy, bind, Except.bind] at h
    split at h
    · rename_i hcond
      simp only [Bool.and_eq_true, decide_eq_true_eq] at hcond
      rcases getReferenceNext_total hI hc with ⟨_, h0⟩ | ⟨nx, c, hn, h1⟩
      · rw [h0] at h; cases h
      · rw [h1] at h
        exact ih nx g y c c' hn hcond.1 h
    · rename_i hcond
      cases h
      refine ⟨x, y, hc, hx, ?_⟩
      simp only [Bool.and_eq_true, decide_eq_true_eq, Bool.not_eq_true', List.isEmpty_eq_false_iff,
        not_and] at hcond
      rcases Nat.lt_or_ge stop y with hlt | hge
      · exact Or.inl hlt
      · exact Or.inr ((hI.outEdges_eq_nil_iff hc).mp (by simpa using hcond hge))

/-- the state `s'` inside the call `apply_variant(source, target, v)` on `s`, once the variant node
(index `|s.nodes|`, frame `f` of the source) exists: the invariant holds and every OTHER variant node
is linked; the variant nodes are those of `s` and the new one; an edge out of a variant node is an
old edge whose target keeps its frame, or leaves the new node towards frame `g` of the target; the
reference nodes of frames other than `f`, `g` are untouched -/
structure Mid (t : List Char) (s s' : TState) (f g : Nat) (v : Rec) : Prop where
  inv : Inv t s'
  linked : VarLinkedExcept t s' (some s.nodes.length)
  isVar : ∀ {k m : Nat} {r : Rec}, IsVar s' k m r ↔ IsVar s k m r ∨ (k = s.nodes.length ∧ m = f ∧ r = v)
  out : ∀ e' ∈ s'.edges, ∀ m r, IsVar s' e'.src m r →
    (IsVar s e'.src m r ∧ e' ∈ s.edges ∧ nodeFrame s' e'.dst = nodeFrame s e'.dst) ∨
      (e'.src = s.nodes.length ∧ nodeFrame s' e'.dst = g)
  keepOther : ∀ {i h x y : Nat}, IsRef s i h x y → h ≠ f → h ≠ g → IsRef s' i h x y

theorem Mid.newVar {s s' : TState} {f g : Nat} {v : Rec} (hM : Mid t s s' f g v) :
    IsVar s' s.nodes.length f v := hM.isVar.mpr (Or.inr ⟨rfl, rfl, rfl⟩)

theorem Mid.varLinked {s s' : TState} {f g : Nat} {v : Rec} (hM : Mid t s s' f g v)
    (h1 : StartLinked s' s.nodes.length) (h2 : v.stop < t.length → EndLinked s' s.nodes.length) :
    VarLinked t s' := varLinked_of_except hM.linked hM.newVar h1 h2

theorem Mid.addVar (hI : Inv t s) (hL : VarLinked t s) {f : Nat} {v : Rec}
    (hok : NodeOk t ⟨f, .var v, v.alt⟩) (g : Nat) : Mid t s (addNode s ⟨f, .var v, v.alt⟩).1 f g v := by
  refine ⟨inv_addVar hI hok, varLinkedExcept_addVar hL,
    addVar_isVar.trans (or_congr_right (by rw [eq_comm (a := f), eq_comm (a := v)])), ?_,
    fun h _ _ => addVar_isRef.mpr h⟩
  intro e' he' m r hv
  have hlt := hI.edgesIn e' he'
  rcases addVar_isVar.mp hv with h | ⟨h, _⟩
  · exact Or.inl ⟨h, he', by simp [nodeFrame, addNode_node, Nat.ne_of_lt hlt.2]⟩
  · exact absurd (h ▸ hlt.1) (Nat.lt_irrefl _)

theorem Mid.addStart {s s1 : TState} {f g : Nat} {v : Rec} (hM : Mid t s s1 f g v)
    {i a : Nat} (hi : IsRef s1 i f a v.start) :
    Mid t s (addEdge s1 i s.nodes.length .variantStart) f g v := by
  refine ⟨inv_addEdge hM.inv hi.lt hM.newVar.lt ⟨f, a, _, v, hi, hM.newVar, rfl⟩,
    varLinkedExcept_addEdge _ _ _ hM.linked, hM.isVar, ?_, hM.keepOther⟩
  intro e' he' m r hv
  rcases mem_addEdge.mp he' with he' | rfl
  · exact hM.out e' he' m r hv
  · exact (hi.not_var hv).elim

theorem Mid.addEnd {s s1 : TState} {f g : Nat} {v : Rec} (hM : Mid t s s1 f g v)
    {o d : Nat} (ho : IsRef s1 o g v.stop d) :
    Mid t s (addEdge s1 s.nodes.length o .variantEnd) f g v := by
  refine ⟨inv_addEdge hM.inv hM.newVar.lt ho.lt ⟨f, v, g, _, d, hM.newVar, ho, rfl⟩,
    varLinkedExcept_addEdge _ _ _ hM.linked, hM.isVar, ?_, hM.keepOther⟩
  intro e' he' m r hv
  rcases mem_addEdge.mp he' with he' | rfl
  · exact hM.out e' he' m r hv
  · exact Or.inr ⟨rfl, nodeFrame_isRef ho⟩

theorem Mid.splice {s s1 s2 : TState} {f g : Nat} {v : Rec} (hM : Mid t s s1 f g v)
    {n h a x b : Nat} (hn : IsRef s1 n h a b) (hh : h = f ∨ h = g)
    (hres : SpliceRes t s1 n h a x b s2)
    (hed : ∀ e' ∈ s2.edges, ∀ m r, IsVar s2 e'.src m r → e' ∈ s1.edges) : Mid t s s2 f g v := by
  refine ⟨hres.inv, hres.linked hM.linked, hres.isVar.trans hM.isVar, ?_, ?_⟩
  · intro e' he' m r hv
    have he1 := hed e' he' m r hv
    have hv1 := hres.isVar.mp hv
    -- the target is a reference node: it keeps its frame
    obtain ⟨_, g', d, hd⟩ := (hM.inv.edgeOk e' he1).of_src_var hv1
    obtain ⟨d', hd'⟩ := hres.keepStart hn hd
    rw [nodeFrame_isRef hd', ← nodeFrame_isRef hd]
    exact hM.out e' he1 m r hv1
  · intro i h' x0 y0 hi hf hg
    refine hres.keep ?_ (hM.keepOther hi hf hg)
    rintro rfl
    have := (hn.inj (hM.keepOther hi hf hg)).1
    rcases hh with rfl | rfl
    · exact hf this.symm
    · exact hg this.symm

/-- "# variant start" of `apply_variant`: the new variant node gets its `variant_start` edge from
the reference node ending at `v.start`; `ret0` is a reference node of the source frame and `target'`
one of the target frame with the old end `d`, both starting at or before `v.start` -/
theorem avStart_spec {s0 s : TState} {f g : Nat} {v : Rec} (hM : Mid t s0 s f g v)
    {source a b : Nat} (hs : IsRef s source f a b) (h1 : a ≤ v.start) (h2 : v.start < b)
    (hf : f < v.start) {target c d : Nat} (ht : IsRef s target g c d) (hc : c ≤ v.start)
    {s' : TState} {ret0 target' : Nat}
    (h : avStart s source target s0.nodes.length v a (source == target) = .ok (s', ret0, target')) :
    Mid t s0 s' f g v ∧ StartLinked s' s0.nodes.length ∧
      (∃ c', IsRef s' target' g c' d ∧ c' ≤ v.start) ∧ (∃ x y, IsRef s' ret0 f x y ∧ x ≤ v.start) := by
  unfold avStart at h
  split at h
  · -- the variant starts where the source node starts: no need to splice
    rename_i heq
    have heq : v.start = a := by simpa using heq
    obtain ⟨o, ho, h⟩ := tvg_bind_ok.mp h
    cases o with
    | none => cases h
    | some prev =>
      cases h
      obtain ⟨r, hr, hp⟩ := getReferencePrev_spec hM.inv hs
      obtain ⟨x, hp⟩ := hp prev (Except.ok.inj (hr.symm.trans ho)) (heq ▸ hf)
      exact ⟨hM.addStart (heq ▸ hp), startLinked_new _ _ _, ⟨c, ht, hc⟩, ⟨a, b, hs, h1⟩⟩
  · rename_i hne
    have hne : v.start ≠ a := by simpa using hne
    obtain ⟨sr, hq, hsp, hres, hed⟩ :=
      splice_at_pos hM.inv hs (Nat.lt_of_le_of_ne h1 (Ne.symm hne)) h2
    simp only [hq, bind, Except.bind, hsp] at h
    cases h
    refine ⟨(hM.splice hs (Or.inl rfl) hres hed).addStart hres.left, startLinked_new _ _ _, ?_,
      ⟨a, v.start, hres.left, h1⟩⟩
    by_cases hst : source = target
    · subst hst
      obtain ⟨rfl, rfl, rfl⟩ := hs.inj ht
      simp only [beq_self_eq_true, if_true]
      exact ⟨v.start, hres.right, Nat.le_refl _⟩
    · have : (source == target) = false := by simpa using hst
      simp only [this, Bool.false_eq_true, if_false]
      exact ⟨c, hres.keep (fun h => hst h.symm) ht, hc⟩

/-- `splice` at `v.stop` strictly inside the reference node `n` of the target frame, followed by the
`variant_end` edge to the right half -/
theorem Mid.spliceEnd {s0 s : TState} {f g : Nat} {v : Rec} (hM : Mid t s0 s f g v)
    (hSL : StartLinked s s0.nodes.length) {n x y : Nat} (hn : IsRef s n g x y) (h1 : x < v.stop)
    (h2 : v.stop < y) :
    ∃ s1, getQueryIndex s n v.stop = .ok ((v.stop - x : Nat) : Int) ∧
      Tvg.splice s n ((v.stop - x : Nat) : Int) .reference = .ok (s1, n, s.nodes.length) ∧
      SpliceRes t s n g x v.stop y s1 ∧
      Mid t s0 (addEdge s1 s0.nodes.length s.nodes.length .variantEnd) f g v ∧
      VarLinked t (addEdge s1 s0.nodes.length s.nodes.length .variantEnd) := by
  obtain ⟨s1, hq, hsp, hres, hed⟩ := splice_at_pos hM.inv hn h1 h2
  have hM' := (hM.splice hn (Or.inr rfl) hres hed).addEnd hres.right
  exact ⟨s1, hq, hsp, hres, hM', hM'.varLinked (startLinked_addEdge _ _ _ (hres.startLinked hSL))
    fun _ => endLinked_new _ _ _⟩

/-- "# variant end" of `apply_variant`: the variant node gets its `variant_end` edge to the
reference node starting at `v.stop` (none when the record reaches the end of the transcript).
About the returned cursors: `r0` is a reference node of the source frame `f` starting at or before
`v.start`; `r1` one of the target frame, and when the call bridges two frames and the target node
reached beyond `v.start`, so does `r1`. -/
theorem avEnd_spec {s0 s : TState} {f g : Nat} {v : Rec} (hM : Mid t s0 s f g v)
    (hSL : StartLinked s s0.nodes.length)
    {target c d : Nat} (ht : IsRef s target g c d) (hc : c ≤ v.start)
    {ret0 : Nat} (hr0 : ∃ x y, IsRef s ret0 f x y ∧ x ≤ v.start)
    {inFrame atStart : Bool} (hin : inFrame = true → g = f)
    {s' : TState} {r0 r1 : Nat}
    (h : avEnd s target s0.nodes.length v d ret0 inFrame atStart = .ok (s', r0, r1)) :
    Mid t s0 s' f g v ∧ VarLinked t s' ∧ (∃ x y, IsRef s' r0 f x y ∧ x ≤ v.start) ∧
      (∃ x y, IsRef s' r1 g x y ∧ x ≤ v.start ∧ (inFrame = false → v.start < d → v.start < y)) := by
  obtain ⟨_, _, hss, hsL⟩ := hM.inv.var_ok hM.newVar
  obtain ⟨rx, ry, hr0, hrx⟩ := hr0
  unfold avEnd at h
  by_cases hlt : v.stop < d
  · -- the variant ends inside the target node
    rw [if_pos hlt] at h
    obtain ⟨sr, hq, hsp, hres, hM', hL'⟩ := hM.spliceEnd hSL ht (Nat.lt_of_le_of_lt hc hss) hlt
    have hhead : IsRef (addEdge sr s0.nodes.length s.nodes.length .variantEnd) target g c v.stop :=
      hres.left
    obtain ⟨ry', hr0'⟩ := hres.keepStart ht hr0
    simp only [hq, bind, Except.bind, hsp] at h
    cases inFrame with
    | false =>
      cases h
      exact ⟨hM', hL', ⟨rx, ry', hr0', hrx⟩, ⟨c, v.stop, hhead, hc, fun _ _ => hss⟩⟩
    | true =>
      obtain rfl := hin rfl
      cases atStart with
      | false =>
        cases h
        exact ⟨hM', hL', ⟨rx, ry', hr0', hrx⟩, ⟨rx, ry', hr0', hrx, fun h => by cases h⟩⟩
      | true =>
        cases h
        exact ⟨hM', hL', ⟨c, v.stop, hhead, hc⟩, ⟨c, v.stop, hhead, hc, fun h => by cases h⟩⟩
  · -- the variant ends at or behind the end of the target node
    rw [if_neg hlt] at h
    obtain ⟨cur, hw, h⟩ := tvg_bind_ok.mp h
    obtain ⟨x', y', hcur, hx', hy'⟩ := walkToEnd_ref hM.inv v.stop _ _ _ _ _ _ ht (Nat.le_trans hc (Nat.le_of_lt hss)) hw
    have hxy := (hM.inv.ref_ok hcur).2.2.1
    have hcd := (hM.inv.ref_ok ht).2.2.1
    simp only [nodeLoc_ref hcur hxy, bind, Except.bind] at h
    -- whatever the branch: the result state `s2`, with the target node and `ret0` kept
    suffices hmain : ∀ s2, Mid t s0 s2 f g v → VarLinked t s2 → IsRef s2 target g c d →
        (∃ ry', IsRef s2 ret0 f rx ry') →
        (s2, ret0, if inFrame = true then ret0 else target) = (s', r0, r1) →
        Mid t s0 s' f g v ∧ VarLinked t s' ∧ (∃ x y, IsRef s' r0 f x y ∧ x ≤ v.start) ∧
          (∃ x y, IsRef s' r1 g x y ∧ x ≤ v.start ∧
            (inFrame = false → v.start < d → v.start < y)) by
      by_cases hgt : y' > v.stop
      · simp only [hgt, if_true, getQueryIndex_ref hcur, hx', and_self] at h
        by_cases hz : x' = v.stop
        · -- the node starts exactly at the variant end
          have : ((v.stop - x' : Nat) : Int) == 0 := by simp [hz]
          simp only [this, if_true, pure, Except.pure, Except.ok.injEq] at h
          have hM' := hM.addEnd (hz ▸ hcur)
          exact hmain _ hM' (hM'.varLinked (startLinked_addEdge _ _ _ hSL) fun _ => endLinked_new _ _ _)
            ht ⟨ry, hr0⟩ h
        · have hx : x' < v.stop := Nat.lt_of_le_of_ne hx' hz
          have : (((v.stop - x' : Nat) : Int) == 0) = false := by
            simpa using Nat.sub_ne_zero_of_lt hx
          obtain ⟨sr, hq, hsp, hres, hM', hL'⟩ := hM.spliceEnd hSL hcur hx hgt
          simp only [this, Bool.false_eq_true, if_false, hsp, pure, Except.pure, Except.ok.injEq] at h
          -- `cur` is not the target node: the target ends at or before `v.stop`
          have hne : target ≠ cur := by
            rintro rfl
            exact hlt ((hcur.inj ht).2.2 ▸ hgt)
          exact hmain _ hM' hL' (hres.keep hne ht) (hres.keepStart hcur hr0) h
      · -- the record reaches the end of the transcript: no `variant_end` edge
        simp only [hgt, if_false, pure, Except.pure, Except.ok.injEq] at h
        exact hmain _ hM (hM.varLinked hSL fun hlt => by omega) ht ⟨ry, hr0⟩ h
    intro s2 hM2 hL2 ht2 ⟨ry', hr0'⟩ heq
    cases heq
    refine ⟨hM2, hL2, ⟨rx, ry', hr0', hrx⟩, ?_⟩
    cases inFrame with
    | true =>
      obtain rfl := hin rfl
      exact ⟨rx, ry', hr0', hrx, fun h => by cases h⟩
    | false => exact ⟨c, d, ht2, hc, fun _ h => h⟩

/-- the precondition of `apply_variant(source, target, variant)` under which the invariant is
kept: the record is a non-empty stretch inside the transcript; `source` is a reference node
`[a, b)` of some frame `f` with `a ≤ start < b` and `f < start` (it is not asked to hang a
variant on the frame root); `target` is a reference node starting at or before `start`.
(`create_variant_graph` guarantees them: its filter drops records before `start_index ≥ 3`, the
cursor checks of its loop give `a ≤ start < b`.) -/
structure ApplyPre (t : List Char) (s : TState) (source target : Nat) (v : Rec) : Prop where
  wf : v.start < v.stop ∧ v.stop ≤ t.length
  src : ∃ f a b, IsRef s source f a b ∧ f < v.start ∧ a ≤ v.start ∧ v.start < b
  tgt : ∃ g c d, IsRef s target g c d ∧ c ≤ v.start

/-- `apply_variant` keeps the partition invariant and links the new variant node (`Mid`: the
only new variant node is that of `v` in the source frame `f`, its `variant_end` edge leads into
the target frame `g`, only reference nodes of those two frames are touched); the returned cursors
are reference nodes of those frames starting at or before `v.start`, and the cursor of a bridged
target frame still reaches beyond `v.start` if the target node did -/
theorem applyVariant_spec (hI : Inv t s) (hL : VarLinked t s)
    {source target : Nat} {v : Rec} (hw : v.start < v.stop ∧ v.stop ≤ t.length)
    {f a b : Nat} (hs : IsRef s source f a b) (hf : f < v.start) (ha : a ≤ v.start) (hb : v.start < b)
    {g c d : Nat} (ht : IsRef s target g c d) (hc : c ≤ v.start)
    {s' : TState} {r0 r1 : Nat} (h : applyVariant s source target v = .ok (s', r0, r1)) :
    Mid t s s' f g v ∧ VarLinked t s' ∧ (∃ x y, IsRef s' r0 f x y ∧ x ≤ v.start) ∧
      (∃ x y, IsRef s' r1 g x y ∧ x ≤ v.start ∧ (source ≠ target → v.start < d → v.start < y)) := by
  have hab := (hI.ref_ok hs).2.2.1
  have hcd := (hI.ref_ok ht).2.2.1
  have hrf : (s.nodes[source]?.map (·.rf)).getD 3 = f := nodeFrame_isRef hs
  have c1 : (decide (v.start < a) || decide (v.start > b)) = false := by
    rw [Bool.or_eq_false_iff, decide_eq_false_iff_not, decide_eq_false_iff_not]
    exact ⟨Nat.not_lt.mpr ha, Nat.lt_asymm hb⟩
  simp only [applyVariant, nodeLoc_ref hs hab, nodeLoc_ref ht hcd, bind, Except.bind, hrf, c1,
    Bool.false_eq_true, if_false, addNode_snd] at h
  split at h
  · -- `raise ValueError` when the record starts outside the target node
    cases h
  split at h
  · cases h
  rename_i res hst
  obtain ⟨s2, ret0, target'⟩ := res
  have hM1 : Mid t s (addNode s ⟨f, .var v, v.alt⟩).1 f g v :=
    Mid.addVar hI hL ⟨(hI.ref_ok hs).1, rfl, hf, hw.1, hw.2⟩ g
  obtain ⟨hM2, hSL2, ⟨c', ht2, hc2⟩, hret0⟩ :=
    avStart_spec hM1 (addVar_isRef.mpr hs) ha hb hf (addVar_isRef.mpr ht) hc hst
  have hin : (source == target) = true → g = f := by
    intro he
    obtain rfl : source = target := by simpa using he
    exact (ht.inj hs).1
  obtain ⟨hM3, hL3, hr0, x, y, hr1, hx, hy⟩ := avEnd_spec hM2 hSL2 ht2 hc2 hret0 hin h
  exact ⟨hM3, hL3, hr0, x, y, hr1, hx, fun hne => hy (by simpa using hne)⟩

theorem applyVariant_inv (hI : Inv t s) (hL : VarLinked t s)
    {source target : Nat} {v : Rec} (hpre : ApplyPre t s source target v)
    {s' : TState} {r0 r1 : Nat} (h : applyVariant s source target v = .ok (s', r0, r1)) :
    Inv t s' ∧ VarLinked t s' := by
  obtain ⟨hw, ⟨f, a, b, hs, hf, ha, hb⟩, ⟨g, c, d, ht, hc⟩⟩ := hpre
  obtain ⟨h1, h2, _⟩ := applyVariant_spec hI hL hw hs hf ha hb ht hc h
  exact ⟨h1.inv, h2⟩

/-! ### `init_three_frames`; the reachable states satisfy the invariant -/

theorem initThreeFrames_node {i : Nat} {n : TNode}
    (h : (initThreeFrames t).nodes[i]? = some n) :
    (i = 0 ∧ n = ⟨3, .root, []⟩) ∨ (∃ f, f < 3 ∧ i = f + 1 ∧ n = ⟨f, .root, []⟩) ∨
      (∃ f, f < 3 ∧ i = f + 4 ∧ n = ⟨f, .ref f t.length, t.drop f⟩) := by
  match i, h with
  | 0, h => cases h; exact Or.inl ⟨rfl, rfl⟩
  | 1, h => cases h; exact Or.inr (Or.inl ⟨0, by decide, rfl, rfl⟩)
  | 2, h => cases h; exact Or.inr (Or.inl ⟨1, by decide, rfl, rfl⟩)
  | 3, h => cases h; exact Or.inr (Or.inl ⟨2, by decide, rfl, rfl⟩)
  | 4, h => cases h; exact Or.inr (Or.inr ⟨0, by decide, rfl, rfl⟩)
  | 5, h => cases h; exact Or.inr (Or.inr ⟨1, by decide, rfl, rfl⟩)
  | 6, h => cases h; exact Or.inr (Or.inr ⟨2, by decide, rfl, rfl⟩)
  | k + 7, h => cases h

theorem initThreeFrames_isRef {i f a b : Nat} :
    IsRef (initThreeFrames t) i f a b ↔ i = f + 4 ∧ f < 3 ∧ a = f ∧ b = t.length := by
  constructor
  · rintro ⟨sq, h⟩
    rcases initThreeFrames_node h with ⟨_, e⟩ | ⟨_, _, _, e⟩ | ⟨f', hf, rfl, e⟩
    · cases e
    · cases e
    · clear h; cases e; exact ⟨rfl, hf, rfl, rfl⟩
  · rintro ⟨rfl, hf, rfl, rfl⟩
    match a, hf with
    | 0, _ => exact ⟨_, rfl⟩
    | 1, _ => exact ⟨_, rfl⟩
    | 2, _ => exact ⟨_, rfl⟩

theorem initThreeFrames_noVar (t : List Char) {k m : Nat} {r : Rec} :
    ¬ IsVar (initThreeFrames t) k m r := by
  rintro ⟨sq, h⟩
  rcases initThreeFrames_node h with ⟨_, h⟩ | ⟨_, _, _, h⟩ | ⟨_, _, _, h⟩ <;> cases h

theorem initThreeFrames_mem_edges {e : TEdge} (he : e ∈ (initThreeFrames t).edges) :
    ∃ f, f < 3 ∧ (e = ⟨f + 1, f + 4, .reference⟩ ∨ e = ⟨0, f + 1, .reference⟩) := by
  simp only [initThreeFrames, List.mem_cons, List.not_mem_nil, or_false] at he
  rcases he with rfl | rfl | rfl | rfl | rfl | rfl
  · exact ⟨0, by decide, Or.inl rfl⟩
  · exact ⟨0, by decide, Or.inr rfl⟩
  · exact ⟨1, by decide, Or.inl rfl⟩
  · exact ⟨1, by decide, Or.inr rfl⟩
  · exact ⟨2, by decide, Or.inl rfl⟩
  · exact ⟨2, by decide, Or.inr rfl⟩

theorem initThreeFrames_inv (t : List Char) (h3 : 3 ≤ t.length) :
    Inv t (initThreeFrames t) ∧ VarLinked t (initThreeFrames t) := by
  have isRef := @initThreeFrames_isRef t
  have frame : ∀ f, f < 3 → IsNull (initThreeFrames t) (f + 1) f ∧
      outRefCount (initThreeFrames t) (f + 4) = 0 ∧ inRefCount (initThreeFrames t) (f + 4) = 1 := by
    intro f hf
    match f, hf with
    | 0, _ => exact ⟨⟨_, rfl⟩, rfl, rfl⟩
    | 1, _ => exact ⟨⟨_, rfl⟩, rfl, rfl⟩
    | 2, _ => exact ⟨⟨_, rfl⟩, rfl, rfl⟩
  refine ⟨⟨?_, ?_, ?_, ?_, ?_, ?_, ?_, ?_⟩, fun k f v hv _ => (initThreeFrames_noVar t hv).elim⟩
  · intro i n h
    rcases initThreeFrames_node h with ⟨_, rfl⟩ | ⟨_, _, _, rfl⟩ | ⟨f, hf, _, rfl⟩
    · trivial
    · trivial
    · refine ⟨hf, Nat.le_refl f, by omega, Nat.le_refl _, ?_⟩
      rw [List.take_of_length_le (by simp)]
  · intro f p hf hfp hp
    exact ⟨f + 4, f, t.length, isRef.mpr ⟨rfl, hf, rfl, rfl⟩, hfp, hp⟩
  · intro i j f a b a' b' hi hj _ _
    rw [(isRef.mp hi).1, (isRef.mp hj).1]
  · intro e he
    obtain ⟨f, hf, rfl | rfl⟩ := initThreeFrames_mem_edges he
    · exact ⟨by show f + 1 < 7; omega, by show f + 4 < 7; omega⟩
    · exact ⟨Nat.zero_lt_succ _, by show f + 1 < 7; omega⟩
  · intro e he
    obtain ⟨f, hf, rfl | rfl⟩ := initThreeFrames_mem_edges he
    · exact Or.inr (Or.inl ⟨f, t.length, hf, (frame f hf).1, isRef.mpr ⟨rfl, hf, rfl, rfl⟩⟩)
    · exact Or.inr (Or.inr ⟨f, hf, ⟨_, rfl⟩, (frame f hf).1⟩)
  · intro i j f a b c hi hj
    have h1 := isRef.mp hi; have h2 := isRef.mp hj; omega
  · intro i f a b hi
    obtain ⟨rfl, hf, _, _⟩ := isRef.mp hi
    exact (frame f hf).2.1 ▸ Nat.zero_le 1
  · intro i f a b hi
    obtain ⟨rfl, hf, _, _⟩ := isRef.mp hi
    exact Nat.le_of_eq (frame f hf).2.2

/-- the precondition of `splice(node, i, 'reference')`: a reference node, cut strictly inside -/
def SplicePre (s : TState) (n : Nat) (i : Int) : Prop :=
  ∃ f a b, IsRef s n f a b ∧ 0 < i ∧ i < ((b - a : Nat) : Int)

theorem splice_inv (hI : Inv t s) (hL : VarLinked t s)
    {n : Nat} {i : Int} (hpre : SplicePre s n i) {s' : TState} {l r : Nat}
    (h : splice s n i .reference = .ok (s', l, r)) : Inv t s' ∧ VarLinked t s' := by
  obtain ⟨f, a, b, hn, h0, hi⟩ := hpre
  obtain ⟨k, rfl⟩ := Int.eq_ofNat_of_zero_le (Int.le_of_lt h0)
  obtain ⟨s1, _, hsp, hres, _⟩ := splice_at_pos hI hn (x := a + k)
    (Nat.lt_add_of_pos_right (Int.natCast_pos.mp h0)) (Nat.add_lt_of_lt_sub' (Int.ofNat_lt.mp hi))
  rw [Nat.add_sub_cancel_left, h] at hsp
  cases hsp
  exact ⟨hres.inv, hres.linked hL⟩

/-- the states reachable by `init_three_frames` followed by any sequence of `splice` /
`apply_variant` calls whose preconditions hold -/
inductive Reach (t : List Char) : TState → Prop
  | init : Reach t (initThreeFrames t)
  | splice {s s' : TState} {n l r : Nat} {i : Int} :
      Reach t s → SplicePre s n i → Tvg.splice s n i .reference = .ok (s', l, r) → Reach t s'
  | apply {s s' : TState} {source target r0 r1 : Nat} {v : Rec} :
      Reach t s → ApplyPre t s source target v →
      applyVariant s source target v = .ok (s', r0, r1) → Reach t s'

theorem reach_inv (h3 : 3 ≤ t.length) (h : Reach t s) :
    Inv t s ∧ VarLinked t s := by
  induction h with
  | init => exact initThreeFrames_inv t h3
  | splice _ hpre hs ih => exact splice_inv ih.1 ih.2 hpre hs
  | apply _ hpre ha ih => exact applyVariant_inv ih.1 ih.2 hpre ha

/-! ### the tiling as a list: the reference nodes of a frame, ordered by start -/

/-- `l` = (node, start, end) triples that are contiguous from `a` to `L`, each non-empty -/
def RefChain (a L : Nat) : List (Nat × Nat × Nat) → Prop
  | [] => a = L
  | (_, x, y) :: rest => x = a ∧ x < y ∧ RefChain y L rest

theorem tvg_chain_from (hI : Inv t s) {f : Nat} :
    ∀ (n i a b : Nat), t.length - a ≤ n → IsRef s i f a b →
      ∃ l, RefChain a t.length l ∧ (∀ x ∈ l, IsRef s x.1 f x.2.1 x.2.2) ∧
        ∀ j x y, IsRef s j f x y → a ≤ x → (j, x, y) ∈ l := by
  intro n
  induction n with
  | zero =>
    intro i a b hn hi
    have := hI.ref_ok hi
    omega
  | succ n ih =>
    intro i a b hn hi
    obtain ⟨_, _, hab, hbL⟩ := hI.ref_ok hi
    obtain ⟨l, hl1, hl2, hl3⟩ : ∃ l, RefChain b t.length l ∧ (∀ x ∈ l, IsRef s x.1 f x.2.1 x.2.2) ∧
        ∀ j x y, IsRef s j f x y → b ≤ x → (j, x, y) ∈ l := by
      rcases Nat.lt_or_ge b t.length with h | h
      · obtain ⟨m, c, hm⟩ := hI.next_ref hi h
        exact ih m b c (by omega) hm
      · exact ⟨[], Nat.le_antisymm hbL h, fun _ hx => (by cases hx), fun j x y hj hx =>
          absurd (Nat.lt_of_lt_of_le (hI.ref_ok hj).2.2.1 (hI.ref_ok hj).2.2.2)
            (Nat.not_lt.mpr (Nat.le_trans h hx))⟩
    refine ⟨(i, a, b) :: l, ⟨rfl, hab, hl1⟩, ?_, ?_⟩
    · intro x hx
      rcases List.mem_cons.mp hx with rfl | hx
      · exact hi
      · exact hl2 x hx
    · intro j x y hj hx
      rcases Nat.lt_or_ge x b with hlt | hge
      · obtain ⟨rfl, rfl, rfl⟩ :=
          hI.ref_unique hi hj (Nat.lt_of_le_of_lt hx (hI.ref_ok hj).2.2.1) hlt
        exact List.mem_cons_self
      · exact List.mem_cons_of_mem _ (hl3 j x y hj hge)

/-- the reference nodes of frame `f`, ordered by start, tile `[f, |t|)` exactly -/
theorem tvg_frame_chain (hI : Inv t s) {f : Nat} (hf : f < 3)
    (h3 : 3 ≤ t.length) :
    ∃ l, RefChain f t.length l ∧ (∀ x ∈ l, IsRef s x.1 f x.2.1 x.2.2) ∧
      ∀ i x y, IsRef s i f x y → (i, x, y) ∈ l := by
  obtain ⟨i, a, b, hi, h1, h2⟩ := hI.cover f f hf (Nat.le_refl _) (Nat.lt_of_lt_of_le hf h3)
  obtain rfl : a = f := Nat.le_antisymm h1 (hI.ref_ok hi).2.1
  obtain ⟨l, hl1, hl2, hl3⟩ := tvg_chain_from hI _ i a b (Nat.le_refl _) hi
  exact ⟨l, hl1, hl2, fun j x y hj => hl3 j x y hj (hI.ref_ok hj).2.1⟩

/-! ### under the invariant the graph IS the position automaton (soundness direction) -/

open MoPepGen.Graph

/-- `p` is a maximal path of the graph `s` starting at node `i` -/
inductive TPath (s : TState) : Nat → List Nat → Prop
  | leaf {i : Nat} : outEdges s i = [] → TPath s i [i]
  | step {i : Nat} {p : List Nat} (e : TEdge) :
      e ∈ s.edges → e.src = i → TPath s e.dst p → TPath s i (i :: p)

def nodeSeqT (s : TState) (i : Nat) : List Char := (s.nodes[i]?.map (·.seq)).getD []

def nodeVarT (s : TState) (i : Nat) : List Var :=
  match s.nodes[i]? with
  | some ⟨_, .var v, _⟩ => [v.toVar]
  | _ => []

/-- the sequence a path spells -/
def pathSeqT (s : TState) (p : List Nat) : List Char := p.flatMap (nodeSeqT s)

/-- the records a path takes, in path order -/
def pathVarsT (s : TState) (p : List Nat) : List Var := p.flatMap (nodeVarT s)

/-- the records that have a variant node in the graph -/
def varPool (s : TState) : List Var :=
  s.nodes.filterMap fun n => match n.kind with
    | .var v => some v.toVar
    | _ => none

theorem mem_varPool {i f : Nat} {v : Rec} (h : IsVar s i f v) : v.toVar ∈ varPool s := by
  obtain ⟨sq, h⟩ := h
  exact List.mem_filterMap.mpr ⟨_, List.mem_of_getElem? h, rfl⟩

theorem tvg_walk_refs (t : List Char) (pool : List Var) (w : List Char) (h : List Var) :
    ∀ (n a : Nat) (r : Bool), a + n ≤ t.length → Walk t pool (a + n) true w h → (0 < n ∨ r = true) →
      Walk t pool a r ((t.drop a).take n ++ w) h := by
  intro n
  induction n with
  | zero =>
    intro a r _ hw hr
    rcases hr with hr | hr
    · omega
    · subst hr; simpa using hw
  | succ n ih =>
    intro a r ha hw _
    have hlt : a < t.length := by omega
    rw [List.drop_eq_getElem_cons hlt, List.take_succ_cons, List.cons_append]
    apply Walk.ref (List.getElem?_eq_getElem hlt)
    apply ih (a + 1) true (by omega) (by rwa [show a + 1 + n = a + (n + 1) by omega]) (Or.inr rfl)

theorem nodeSeqT_ref (hI : Inv t s) {i f a b : Nat} (h : IsRef s i f a b) :
    nodeSeqT s i = (t.drop a).take (b - a) := by
  obtain ⟨sq, h⟩ := h
  simp only [nodeSeqT, h, Option.map_some, Option.getD_some, (hI.ref_node h).2.2.2.2]

theorem nodeSeqT_var (hI : Inv t s) {i f : Nat} {v : Rec} (h : IsVar s i f v) :
    nodeSeqT s i = v.alt := by
  obtain ⟨sq, h⟩ := h
  have : sq = v.alt := (hI.nodesOk i _ h).2.1
  simp only [nodeSeqT, h, Option.map_some, Option.getD_some, this]

theorem nodeVarT_ref {i f a b : Nat} (h : IsRef s i f a b) : nodeVarT s i = [] := by
  obtain ⟨sq, h⟩ := h
  simp [nodeVarT, h]

theorem nodeVarT_var {i f : Nat} {v : Rec} (h : IsVar s i f v) : nodeVarT s i = [v.toVar] := by
  obtain ⟨sq, h⟩ := h
  simp [nodeVarT, h]

theorem pathSeqT_cons (s : TState) (i : Nat) (p : List Nat) :
    pathSeqT s (i :: p) = nodeSeqT s i ++ pathSeqT s p := rfl

theorem pathVarsT_cons (s : TState) (i : Nat) (p : List Nat) :
    pathVarsT s (i :: p) = nodeVarT s i ++ pathVarsT s p := rfl

/-- **every maximal path is a walk of the position automaton**: from a reference node `[a, b)`
a path is a walk from position `a`; from the variant node of `v` it is a walk that takes `v`
at `v.start` -/
theorem tpath_walk (hI : Inv t s) (hL : VarLinked t s)
    {i : Nat} {p : List Nat} (hp : TPath s i p) :
    (∀ f a b, IsRef s i f a b → ∀ r, Walk t (varPool s) a r (pathSeqT s p) (pathVarsT s p)) ∧
    (∀ f v, IsVar s i f v → Walk t (varPool s) v.start true (pathSeqT s p) (pathVarsT s p)) := by
  have href : ∀ {i f a b : Nat} {q : List Nat}, IsRef s i f a b →
      Walk t (varPool s) b true (pathSeqT s q) (pathVarsT s q) →
      ∀ r, Walk t (varPool s) a r (pathSeqT s (i :: q)) (pathVarsT s (i :: q)) := by
    intro i f a b q hi hw r
    obtain ⟨_, _, hab, hbL⟩ := hI.ref_ok hi
    rw [pathSeqT_cons, pathVarsT_cons, nodeSeqT_ref hI hi, nodeVarT_ref hi]
    have e : a + (b - a) = b := Nat.add_sub_cancel' (Nat.le_of_lt hab)
    exact tvg_walk_refs t (varPool s) _ _ (b - a) a r (Nat.le_trans (Nat.le_of_eq e) hbL)
      (by rwa [e]) (Or.inl (Nat.sub_pos_of_lt hab))
  have hvar : ∀ {i f : Nat} {v : Rec} {q : List Nat}, IsVar s i f v →
      Walk t (varPool s) v.stop false (pathSeqT s q) (pathVarsT s q) →
      Walk t (varPool s) v.start true (pathSeqT s (i :: q)) (pathVarsT s (i :: q)) := by
    intro i f v q hi hw
    rw [pathSeqT_cons, pathVarsT_cons, nodeSeqT_var hI hi, nodeVarT_var hi]
    exact Walk.var (v := v.toVar) (mem_varPool hi) (hI.var_ok hi).2.2.1 hw
  induction hp with
  | @leaf i hout =>
    constructor
    · intro f a b hi r
      exact href (q := []) hi (Walk.done (Nat.le_of_eq ((hI.outEdges_eq_nil_iff hi).mp hout).symm)) r
    · intro f v hi
      refine hvar (q := []) hi (Walk.done ?_)
      rcases Nat.lt_or_ge v.stop t.length with hlt | hge
      · obtain ⟨e, he, h1, _⟩ := (hL i f v hi (by simp)).2 hlt
        have : e ∈ outEdges s i := mem_outEdges.mpr ⟨he, h1⟩
        rw [hout] at this; cases this
      · exact hge
  | @step i p e he hsrc _ ih =>
    subst hsrc
    constructor
    · intro f a b hi r
      refine href hi ?_ r
      rcases (hI.edgeOk e he).of_src_ref hi with ⟨_, c, h2⟩ | ⟨_, v, h2, h3⟩
      · exact ih.1 _ _ _ h2 true
      · exact h3 ▸ ih.2 _ _ h2
    · intro f v hi
      obtain ⟨_, g, d, h2⟩ := (hI.edgeOk e he).of_src_var hi
      exact hvar hi (ih.1 _ _ _ h2 false)

/-- **soundness of the path language** under the invariant: a maximal path from the reference
node of frame `f` that starts at `f` spells `(applyHap t h).drop f` for the records `h` it
takes, which are records of the graph, ascending and strictly separated -/
theorem tpath_language_sound (hI : Inv t s) (hL : VarLinked t s)
    {i f b : Nat} (hi : IsRef s i f f b) {p : List Nat} (hp : TPath s i p) :
    (∀ v ∈ pathVarsT s p, v ∈ varPool s) ∧ separated (pathVarsT s p) = true ∧
      pathSeqT s p = (applyHap t (pathVarsT s p)).drop f := by
  obtain ⟨hf, _, hfb, hbL⟩ := hI.ref_ok hi
  have hw := (tpath_walk hI hL hp).1 f f b hi
  -- extend the walk to position 0 over the `f` skipped bases
  have hw0 : Walk t (varPool s) 0 false (t.take f ++ pathSeqT s p) (pathVarsT s p) := by
    rcases Nat.eq_zero_or_pos f with h0 | h0
    · subst h0; simpa using hw false
    · have := tvg_walk_refs t (varPool s) _ _ f 0 false (by omega) (by simpa using hw true) (Or.inl h0)
      simpa using this
  obtain ⟨h1, h2, h3⟩ := walk_sound t (varPool s) 0 false _ _ hw0
  refine ⟨h1, separated_of_sepFrom _ 0 _ h2, ?_⟩
  have h3' : t.take f ++ pathSeqT s p = applyHap t (pathVarsT s p) := by simpa [applyHap] using h3
  rw [← h3', List.drop_left' (List.length_take_of_le (Nat.le_of_lt (Nat.lt_of_lt_of_le hfb hbL)))]

end MoPepGen.Tvg
