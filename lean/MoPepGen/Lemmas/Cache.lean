import MoPepGen.Model.Cache
/-!
The invariant `CacheInv` of the pointer-dictionary cache (`Model/Cache.lean`).  One `__getitem__`
with a key that loads keeps it and returns `load k` (`CacheInv.get_ok`), in the statement order the
code had before commit 1ee503c (`CacheState.get`: key on the deque, then load) and in the repaired
order of /repo (`CacheState.getFixed`: load first); on such keys the two agree
(`CacheInv.getFixed_eq_get`).  With a key that does not load only `getFixed` keeps the invariant
(`CacheInv.getFixed_spec`): `get` leaves the key on the deque without an entry in the dict.
-/
namespace MoPepGen
variable {K V : Type}

/-- `keys` = the deque `_cached_keys`, `map` = the dict `_cache`, `size` = `GENE_DICT_CACHE_SIZE` /
`TX_DICT_CACHE_SIZE` -/
structure CacheInv (size : Nat) (load : K → Option V) (c : CacheState K V) : Prop where
  nodup : c.keys.Nodup
  keys_iff : ∀ k, k ∈ c.keys ↔ (c.map k).isSome = true
  bound : c.keys.length ≤ size
  vals : ∀ k v, c.map k = some v → load k = some v

theorem CacheInv.empty (size : Nat) (load : K → Option V) :
    CacheInv size load (CacheState.empty : CacheState K V) :=
  ⟨List.nodup_nil, fun _ => ⟨fun h => (List.not_mem_nil h).elim, fun h => (Bool.false_ne_true h).elim⟩,
    Nat.zero_le _, fun _ _ h => (Option.some_ne_none _ h.symm).elim⟩

variable [DecidableEq K] {size : Nat} {load : K → Option V} {c : CacheState K V} {k : K} {v : V}

/-- `_cache[k] = v` after `appendleft(k)`, for a key that is not cached, with room for it -/
theorem CacheInv.add (hi : CacheInv size load c) (hmiss : c.map k = none) (hl : load k = some v)
    (hlen : c.keys.length < size) :
    CacheInv size load ⟨k :: c.keys, mapSet c.map k (some v)⟩ := by
  have hk : k ∉ c.keys := fun h => by
    have := (hi.keys_iff k).mp h
    rw [hmiss] at this; cases this
  refine ⟨List.nodup_cons.mpr ⟨hk, hi.nodup⟩, fun x => ?_, hlen, fun x w => ?_⟩
  · rw [List.mem_cons, hi.keys_iff x]
    show _ ↔ (if x = k then some v else c.map x).isSome = true
    by_cases hx : x = k
    · rw [if_pos hx]; exact ⟨fun _ => rfl, fun _ => Or.inl hx⟩
    · rw [if_neg hx]; exact ⟨fun h => h.resolve_left hx, Or.inr⟩
  · show (if x = k then some v else c.map x) = some w → _
    by_cases hx : x = k
    · rw [if_pos hx, hx]; exact fun h => h ▸ hl
    · rw [if_neg hx]; exact hi.vals x w

/-- `_cache.pop(_cached_keys.pop())`: the last key of the deque leaves deque and dict -/
theorem CacheInv.evict (hi : CacheInv size load c) {init : List K} {kp : K}
    (hkeys : c.keys = init ++ [kp]) :
    CacheInv size load ⟨init, mapSet c.map kp none⟩ ∧ init.length < size := by
  have hnd := hi.nodup
  have hb := hi.bound
  rw [hkeys] at hnd hb
  rw [List.length_append] at hb
  obtain ⟨hndi, _, hdis⟩ := List.nodup_append.mp hnd
  have hkp : kp ∉ init := fun h => hdis kp h kp List.mem_cons_self rfl
  refine ⟨⟨hndi, fun x => ?_, Nat.le_of_succ_le hb, fun x w => ?_⟩, hb⟩
  · have := hi.keys_iff x
    rw [hkeys, List.mem_append, List.mem_singleton] at this
    show x ∈ init ↔ (if x = kp then none else c.map x).isSome = true
    by_cases hx : x = kp
    · rw [if_pos hx, hx]; exact ⟨fun h => absurd h hkp, fun h => (Bool.false_ne_true h).elim⟩
    · rw [if_neg hx, ← this]; exact ⟨Or.inl, fun h => h.resolve_right hx⟩
  · show (if x = kp then none else c.map x) = some w → _
    by_cases hx : x = kp
    · rw [if_pos hx]; exact fun h => (Option.some_ne_none _ h.symm).elim
    · rw [if_neg hx]; exact hi.vals x w

theorem CacheInv.full (hs : 1 ≤ size) (hi : CacheInv size load c) (hmiss : c.map k = none)
    (hl : load k = some v) (hfull : (k :: c.keys).length > size) :
    ∃ init kp vp, (k :: c.keys).getLast? = some kp ∧ (k :: c.keys).dropLast = k :: init ∧
      c.map kp = some vp ∧
      CacheInv size load ⟨k :: init, mapSet (mapSet c.map kp none) k (some v)⟩ := by
  have hne : c.keys ≠ [] := fun h => by rw [h] at hfull; exact absurd hfull (Nat.not_lt.mpr hs)
  have hkeys := (List.dropLast_concat_getLast hne).symm
  generalize c.keys.dropLast = init, c.keys.getLast hne = kp at hkeys
  have hsome := (hi.keys_iff kp).mp (by rw [hkeys]; exact List.mem_append_right _ List.mem_cons_self)
  obtain ⟨vp, hvp⟩ := Option.isSome_iff_exists.mp hsome
  obtain ⟨hi', hlen⟩ := hi.evict hkeys
  refine ⟨init, kp, vp, by rw [hkeys, ← List.cons_append, List.getLast?_concat],
    by rw [hkeys, ← List.cons_append, List.dropLast_concat], hvp, hi'.add ?_ hl hlen⟩
  show (if k = kp then none else c.map k) = none
  rw [hmiss]; exact ite_self _

theorem CacheInv.insert {size : Nat} {load : K → Option V} {c : CacheState K V}
    (hs : 1 ≤ size) (hi : CacheInv size load c) {k : K} {v : V}
    (hmiss : c.map k = none) (hl : load k = some v) :
    (c.get size load k).2 = .ok v ∧ CacheInv size load (c.get size load k).1 := by
  unfold CacheState.get
  rw [hmiss]
  by_cases hfull : (k :: c.keys).length > size
  · obtain ⟨init, kp, vp, hlast, hdrop, hvp, hi'⟩ := hi.full hs hmiss hl hfull
    simp only [if_pos hfull, hlast, hvp, hl, hdrop]
    exact ⟨trivial, hi'⟩
  · simp only [if_neg hfull, hl]
    exact ⟨trivial, hi.add hmiss hl (Nat.lt_of_succ_le (Nat.le_of_not_gt hfull))⟩

theorem CacheInv.get_ok (hs : 1 ≤ size) (hi : CacheInv size load c) (hl : load k = some v) :
    (c.get size load k).2 = .ok v ∧ CacheInv size load (c.get size load k).1 := by
  cases hm : c.map k with
  | some w =>
    have := hi.vals k w hm
    rw [hl] at this; cases this
    unfold CacheState.get; rw [hm]; exact ⟨rfl, hi⟩
  | none => exact hi.insert hs hm hl

/-- the result every access should produce -/
def cacheExpected (load : K → Option V) (k : K) : CacheRes V :=
  match load k with
  | some v => .ok v
  | none => .loadError

theorem CacheInv.getFixed_eq_get (hs : 1 ≤ size) (hi : CacheInv size load c)
    (hl : load k = some v) : c.getFixed size load k = c.get size load k := by
  unfold CacheState.getFixed CacheState.get
  cases hm : c.map k with
  | some w => rfl
  | none =>
    simp only [hl]
    by_cases hfull : (k :: c.keys).length > size
    · obtain ⟨init, kp, vp, hlast, _, hvp, _⟩ := hi.full hs hm hl hfull
      simp only [if_pos hfull, hlast, hvp]
    · simp only [if_neg hfull]

theorem CacheInv.getFixed_spec (hs : 1 ≤ size) (hi : CacheInv size load c) (k : K) :
    (c.getFixed size load k).2 = cacheExpected load k ∧
      CacheInv size load (c.getFixed size load k).1 := by
  cases hl : load k with
  | some v =>
    rw [hi.getFixed_eq_get hs hl, cacheExpected, hl]
    exact hi.get_ok hs hl
  | none =>
    unfold CacheState.getFixed
    cases hm : c.map k with
    | some w => have := hi.vals k w hm; rw [hl] at this; cases this
    | none => simp only [hl, cacheExpected]; exact ⟨trivial, hi⟩

end MoPepGen
