import MoPepGen.Lemmas.Fusion
import MoPepGen.Spec.CallVariant
/-! For the callVariant clause of property C15.  In `donorPositions` nothing behind a retained
intronic position is exonic, in `acceptorPositions` everything behind an exonic position is exonic:
this is why `FusionSpec.donorSplit` / `acceptorSplit` cut the four stretches of `fusedParts` with
`takeWhile` / `dropWhile`.  And `Spec.callBackbone` evaluated without small records. -/
namespace MoPepGen.Fusion
open MoPepGen MoPepGen.FusionSpec

/-! ## where the retained intronic positions sit -/

theorem dropWhile_all_false {α : Type} {R : α → α → Prop} {P : α → Bool} {l : List α}
    (hl : l.Pairwise R) (hf : ∀ a ∈ l, ∀ b ∈ l, R a b → P a = false → P b = false) :
    ∀ q ∈ l.dropWhile P, P q = false := by
  induction l with
  | nil =>
    intro q hq
    cases hq
  | cons a l ih =>
    rw [List.pairwise_cons] at hl
    intro q hq
    cases hpa : P a with
    | true =>
      rw [List.dropWhile_cons_of_pos (by simpa using hpa)] at hq
      exact ih hl.2 (fun x hx y hy => hf x (List.mem_cons_of_mem _ hx) y (List.mem_cons_of_mem _ hy))
        q hq
    | false =>
      rw [List.dropWhile_cons_of_neg (by simp [hpa])] at hq
      rcases List.mem_cons.mp hq with rfl | hq'
      · exact hpa
      · exact hf a List.mem_cons_self q (List.mem_cons_of_mem _ hq') (hl.1 q hq') hpa

theorem takeWhile_all_true {α : Type} {P : α → Bool} {l : List α} :
    ∀ q ∈ l.takeWhile P, P q = true :=
  List.all_eq_true.mp List.all_takeWhile

theorem donor_intron_inherits {n : Nat} {t : Transcript} {p : Nat} (hp : p < n) :
    ∀ a ∈ donorPositions n t p, ∀ b ∈ donorPositions n t p, before t.strand a b →
      isExonic t a = false → isExonic t b = false := by
  intro a ha b hb hab hxa
  obtain ⟨hra, hsa, _⟩ := (mem_donorPositions hp).mp ha
  obtain ⟨_, hsb, _⟩ := (mem_donorPositions hp).mp hb
  rcases (retained_iff hsa).mp hra with h | h
  · rw [hxa] at h
    cases h
  · exact h b (Or.inr hab) hsb

theorem acceptor_exon_inherits {n : Nat} {t : Transcript} {p : Nat} (hp : p < n) :
    ∀ a ∈ acceptorPositions n t p, ∀ b ∈ acceptorPositions n t p, before t.strand a b →
      (!isExonic t a) = false → (!isExonic t b) = false := by
  intro a ha b hb hab hxa
  obtain ⟨_, hsa, _⟩ := (mem_acceptorPositions hp).mp ha
  obtain ⟨hrb, hsb, _⟩ := (mem_acceptorPositions hp).mp hb
  rw [Bool.not_eq_false'] at hxa ⊢
  rcases (retained_iff (d := flip t.strand) (hsb.imp_right before_flip.mpr)).mp hrb with h | h
  · exact h
  · have := h a (Or.inr (before_flip.mpr hab)) (hsa.imp_right before_flip.mpr)
    rw [hxa] at this
    cases this

end MoPepGen.Fusion

namespace MoPepGen.Spec

/-! ## the definitional layer without small records -/

theorem haplotypes_nil (t : TxIn) : haplotypes t [] = [] := rfl

theorem applyHap_nil (seq : List Char) : applyHap seq [] = seq := rfl

theorem secAfter_nil (sec : List Nat) : secAfter sec [] = sec := by
  unfold secAfter
  induction sec with
  | nil => rfl
  | cons s ss ih =>
    simp only [List.filterMap_cons, List.any_nil, Bool.false_eq_true, if_false, List.foldl_nil,
      Int.add_zero, Int.toNat_natCast]
    exact congrArg _ ih

theorem orfLimit_nil (l : Option Nat) :
    (l.map fun l => ((l : Int) + ([] : List Var).foldl (fun acc v =>
      if v.stop ≤ l then acc + (v.alt.length : Int) - (v.ref.length : Int) else acc) 0).toNat) = l := by
  cases l with
  | none => rfl
  | some l => simp

theorem callBackbone_nil (g : Cfg) (t : TxIn) (deny : List Pep) :
    callBackbone g t [] deny =
      (peptidesOf g t t.seq t.sec t.endNF).filter fun p =>
        !deny.contains p && !g.canonical.contains p := by
  unfold callBackbone
  simp only [haplotypes_nil, List.flatMap_cons, List.flatMap_nil, List.append_nil, applyHap_nil,
    secAfter_nil, orfLimit_nil]

end MoPepGen.Spec
