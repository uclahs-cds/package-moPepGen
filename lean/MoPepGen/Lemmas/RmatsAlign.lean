import MoPepGen.Lemmas.Rmats
/-!
Lemmas for C16, alignment step: what `align_to_transcript`, `get_interjacent_exons`,
`get_upstream_end_spanning`, `get_downstream_start_spanning` (models in `Model/Rmats.lean`)
return on an exon list decomposed around the exons of the event, which branch of the
`convert_to_variant_records` cascade is then taken, and which record the constructor it reaches
builds (`…_ok`).  The junction cases (`alignConvert_…`) put these together: the record list, and
through the edits of `Lemmas/Rmats.lean` what its record does to the transcript sequence.
-/
namespace MoPepGen.Rmats
open MoPepGen


theorem idxWhere_cons_false {f : Iv → Bool} {e : Iv} (h : f e = false) (es : List Iv) (i : Nat) :
    idxWhere f (e :: es) i = idxWhere f es (i + 1) := by
  simp only [idxWhere, h, Bool.false_eq_true, if_false]

theorem idxWhere_cons_true {f : Iv → Bool} {e : Iv} (h : f e = true) (es : List Iv) (i : Nat) :
    idxWhere f (e :: es) i = (i : Int) := if_pos h

theorem idxWhereDown_cons_false {f : Iv → Bool} {e : Iv} (h : f e = false) (es : List Iv)
    (n : Nat) : idxWhereDown f (e :: es) n = idxWhereDown f es (n - 1) := by
  simp only [idxWhereDown, h, Bool.false_eq_true, if_false]

theorem idxWhereDown_cons_true {f : Iv → Bool} {e : Iv} (h : f e = true) (es : List Iv)
    (n : Nat) : idxWhereDown f (e :: es) n = ((n - 1 : Nat) : Int) := if_pos h

theorem idxWhere_none {f : Iv → Bool} {L : List Iv} (h : ∀ e ∈ L, f e = false) (k : Nat) :
    idxWhere f L k = -1 := by
  induction L generalizing k with
  | nil => rfl
  | cons e es ih =>
    rw [idxWhere_cons_false (h e List.mem_cons_self)]
    exact ih (fun x hx => h x (List.mem_cons_of_mem _ hx)) (k + 1)

theorem idxWhere_hit {f : Iv → Bool} {pre post : List Iv} {X : Iv}
    (hp : ∀ e ∈ pre, f e = false) (hX : f X = true) (k : Nat) :
    idxWhere f (pre ++ X :: post) k = ((k + pre.length : Nat) : Int) := by
  induction pre generalizing k with
  | nil => exact if_pos hX
  | cons e es ih =>
    rw [List.cons_append, idxWhere_cons_false (hp e List.mem_cons_self),
      ih (fun x hx => hp x (List.mem_cons_of_mem _ hx)) (k + 1), List.length_cons,
      Nat.add_right_comm, Nat.add_assoc]

theorem idxWhereDown_none {f : Iv → Bool} {L : List Iv} (h : ∀ e ∈ L, f e = false) (n : Nat) :
    idxWhereDown f L n = -1 := by
  induction L generalizing n with
  | nil => rfl
  | cons e es ih =>
    rw [idxWhereDown_cons_false (h e List.mem_cons_self)]
    exact ih (fun x hx => h x (List.mem_cons_of_mem _ hx)) (n - 1)

theorem idxWhereDown_hit {f : Iv → Bool} {A B : List Iv} {X : Iv}
    (hA : ∀ e ∈ A, f e = false) (hX : f X = true) (n : Nat) :
    idxWhereDown f (A ++ X :: B) n = ((n - A.length - 1 : Nat) : Int) := by
  induction A generalizing n with
  | nil => exact if_pos hX
  | cons e es ih =>
    rw [List.cons_append, idxWhereDown_cons_false (hA e List.mem_cons_self),
      ih (fun x hx => hA x (List.mem_cons_of_mem _ hx)) (n - 1), List.length_cons,
      Nat.sub_sub n, Nat.add_comm 1]

theorem exonWithStart_none {es : List Iv} {p : Nat} (h : ∀ e ∈ es, e.start ≠ p) :
    exonWithStart es p = -1 :=
  idxWhere_none (fun e he => beq_eq_false_iff_ne.mpr (h e he)) 0

theorem exonWithEnd_none {es : List Iv} {p : Nat} (h : ∀ e ∈ es, e.stop ≠ p) :
    exonWithEnd es p = -1 :=
  idxWhere_none (fun e he => beq_eq_false_iff_ne.mpr (h e he)) 0

theorem exonWithStart_hit {pre post : List Iv} {X : Iv} {p : Nat}
    (hp : ∀ e ∈ pre, e.start ≠ p) (hX : X.start = p) :
    exonWithStart (pre ++ X :: post) p = (pre.length : Int) := by
  unfold exonWithStart
  rw [idxWhere_hit (fun e he => beq_eq_false_iff_ne.mpr (hp e he)) (beq_iff_eq.mpr hX) 0,
    Nat.zero_add]

theorem exonWithEnd_hit {pre post : List Iv} {X : Iv} {p : Nat}
    (hp : ∀ e ∈ pre, e.stop ≠ p) (hX : X.stop = p) :
    exonWithEnd (pre ++ X :: post) p = (pre.length : Int) := by
  unfold exonWithEnd
  rw [idxWhere_hit (fun e he => beq_eq_false_iff_ne.mpr (hp e he)) (beq_iff_eq.mpr hX) 0,
    Nat.zero_add]

theorem neg_one_lt_natCast (n : Nat) : (-1 : Int) < n :=
  Int.lt_of_lt_of_le (by decide) (Int.natCast_nonneg n)

theorem natCast_ne_neg_one (n : Nat) : (n : Int) ≠ -1 := Int.ne_of_gt (neg_one_lt_natCast n)

theorem contains_false {e : Iv} {p : Nat} (h : p < e.start ∨ e.stop ≤ p) :
    e.contains p = false := by
  rw [Iv.contains_false_iff]; omega

theorem contains_true {e : Iv} {p : Nat} (h1 : e.start ≤ p) (h2 : p < e.stop) :
    e.contains p = true := Iv.contains_iff.mpr ⟨h1, h2⟩


section
variable {ue ds : Nat} {e : Iv} {es : List Iv}

theorem interjacentTest_true (h1 : ue ≤ e.start) (h2 : e.start < e.stop)
    (h3 : e.stop ≤ ds) : interjacentTest ue ds e = true := by
  simp only [interjacentTest, h1, h2, h3, decide_true, Bool.and_self]

theorem interjacentTest_false (h : e.start < ue ∨ e.stop ≤ e.start ∨ ds < e.stop) :
    interjacentTest ue ds e = false := by
  simp only [interjacentTest, Bool.and_eq_false_iff, decide_eq_false_iff_not]; omega

theorem interjacentBreak_true (h : e.stop ≤ ue ∨ ds ≤ e.start) :
    interjacentBreak ue ds e = true := by
  simp only [interjacentBreak, Bool.or_eq_true, decide_eq_true_eq]; omega

theorem interjacentBreak_false (h1 : ue < e.stop) (h2 : e.start < ds) :
    interjacentBreak ue ds e = false := by
  simp only [interjacentBreak, Bool.or_eq_false_iff, decide_eq_false_iff_not]; omega

theorem interFwd_stop {i : Nat} (ht : interjacentTest ue ds e = false)
    (hb : interjacentBreak ue ds e = true) : interFwd ue ds (e :: es) i = [] := by
  simp only [interFwd, ht, hb, Bool.false_eq_true, if_false, if_true]

theorem interFwd_stop_of_le {i : Nat} (h1 : e.start < e.stop) (h2 : ds ≤ e.start) :
    interFwd ue ds (e :: es) i = [] :=
  interFwd_stop (interjacentTest_false (.inr (.inr (Nat.lt_of_le_of_lt h2 h1))))
    (interjacentBreak_true (.inr h2))

theorem interFwd_hit {i : Nat} (h1 : ue ≤ e.start) (h2 : e.start < e.stop) (h3 : e.stop ≤ ds) :
    interFwd ue ds (e :: es) i = i :: interFwd ue ds es (i + 1) := by
  simp only [interFwd, interjacentTest_true h1 h2 h3,
    interjacentBreak_false (Nat.lt_of_le_of_lt h1 h2) (Nat.lt_of_lt_of_le h2 h3),
    Bool.false_eq_true, if_false, if_true, List.singleton_append]

theorem interFwd_skip {i : Nat} (h1 : e.start < ds) (h2 : ds < e.stop) (h3 : ue < e.stop) :
    interFwd ue ds (e :: es) i = interFwd ue ds es (i + 1) := by
  simp only [interFwd, interjacentTest_false (.inr (.inr h2)), interjacentBreak_false h3 h1,
    Bool.false_eq_true, if_false, List.nil_append]

theorem interFwd_above {L : List Iv}
    (h : ∀ e ∈ L, ds ≤ e.start ∧ e.start < e.stop) (i : Nat) : interFwd ue ds L i = [] := by
  cases L with
  | nil => rfl
  | cons e es => exact interFwd_stop_of_le (h e List.mem_cons_self).2 (h e List.mem_cons_self).1

theorem interBwd_stop {n : Nat} (h1 : e.start < e.stop) (h2 : e.stop ≤ ue) :
    interBwd ue ds (e :: es) n = [] := by
  simp only [interBwd, interjacentTest_false (.inl (Nat.lt_of_lt_of_le h1 h2)),
    interjacentBreak_true (.inl h2), Bool.false_eq_true, if_false, if_true]

theorem interBwd_hit {n : Nat} (h1 : ue ≤ e.start) (h2 : e.start < e.stop) (h3 : e.stop ≤ ds) :
    interBwd ue ds (e :: es) n = (n - 1) :: interBwd ue ds es (n - 1) := by
  simp only [interBwd, interjacentTest_true h1 h2 h3,
    interjacentBreak_false (Nat.lt_of_le_of_lt h1 h2) (Nat.lt_of_lt_of_le h2 h3),
    Bool.false_eq_true, if_false, if_true, List.singleton_append]

theorem interBwd_skip {n : Nat} (h1 : e.start < ue) (h2 : ue < e.stop) (h3 : e.start < ds) :
    interBwd ue ds (e :: es) n = interBwd ue ds es (n - 1) := by
  simp only [interBwd, interjacentTest_false (.inl h1), interjacentBreak_false h2 h3,
    Bool.false_eq_true, if_false, List.nil_append]

theorem interBwd_below {L : List Iv}
    (h : ∀ e ∈ L, e.stop ≤ ue ∧ e.start < e.stop) (n : Nat) : interBwd ue ds L n = [] := by
  cases L with
  | nil => rfl
  | cons e es => exact interBwd_stop (h e List.mem_cons_self).2 (h e List.mem_cons_self).1

end

/-! `get_interjacent_exons` walks forward from the aligned upstream exon `P` when `uei` is found,
else backward from the aligned downstream exon, the first of `B`.  The spanning searches start at
the same places: upstream-end spanning backward from `dsi`, downstream-start spanning forward from
`uei`. -/

section
variable {a : Aln} {es pre rest A B : List Iv} {P : Iv} {k : Nat}

theorem length_snoc (pre : List Iv) (P : Iv) : (pre ++ [P]).length = pre.length + 1 :=
  List.length_append

theorem drop_succ_length (pre : List Iv) (P : Iv) (rest : List Iv) :
    (pre ++ P :: rest).drop (pre.length + 1) = rest := List.drop_length_add_append 1

theorem getInterjacent_fwd (he : es = pre ++ P :: rest)
    (hu : a.uei = (pre.length : Int)) (hd : a.dsi ≠ 0) (hr : rest ≠ []) :
    getInterjacent a es = .ok (interFwd a.j.ue a.j.ds rest (pre.length + 1)) := by
  subst he
  have hl : (pre ++ P :: rest).length = pre.length + 1 + rest.length := by
    rw [List.length_append, List.length_cons]; omega
  have hrl : 0 < rest.length := List.length_pos_iff.mpr hr
  unfold getInterjacent
  rw [if_neg (fun h => hd h.2), if_pos (hu ▸ neg_one_lt_natCast _),
    if_neg (by rw [hl, hu]; omega), hu, Int.toNat_natCast,
    drop_succ_length]

theorem getInterjacent_bwd (he : es = A ++ B)
    (hk : A.length = k) (hu : a.uei = -1) (hd : a.dsi = (k : Int)) (h0 : 0 < k) :
    getInterjacent a es = .ok (interBwd a.j.ue a.j.ds A.reverse k).reverse := by
  unfold getInterjacent
  rw [if_neg (fun h => absurd (hu ▸ h.1) (by decide)), if_neg (hu ▸ Int.lt_irrefl _),
    if_neg (hd ▸ Int.natCast_ne_zero.mpr (Nat.ne_of_gt h0)),
    if_neg (hd ▸ Int.not_lt.mpr (Int.natCast_nonneg _)), hd, Int.toNat_natCast, he,
    List.take_left' hk]

theorem getUpstreamEndSpanning_bwd (he : es = A ++ B)
    (hk : A.length = k) (h0 : a.j.ue ≠ 0) (hd : a.dsi = (k : Int)) :
    getUpstreamEndSpanning a es
      = idxWhereDown (fun e => e.contains (a.j.ue - 1)) A.reverse k := by
  unfold getUpstreamEndSpanning
  rw [if_neg h0, if_neg (hd ▸ natCast_ne_neg_one _),
    if_neg (hd ▸ Int.not_lt.mpr (Int.natCast_nonneg _)), hd, Int.toNat_natCast, he,
    List.take_left' hk]

theorem getDownstreamStartSpanning_fwd (he : es = pre ++ P :: rest)
    (hu : a.uei = (pre.length : Int)) :
    getDownstreamStartSpanning a es
      = idxWhere (fun e => e.contains a.j.ds) rest (pre.length + 1) := by
  subst he
  unfold getDownstreamStartSpanning
  rw [if_neg (hu ▸ natCast_ne_neg_one _),
    if_neg (hu ▸ Int.not_lt.mpr (Int.le_of_lt (neg_one_lt_natCast _))), hu, Int.toNat_natCast,
    drop_succ_length]

end


section
variable {t : Transcript} {es pre post : List Iv} {P Q : Iv}

/-- what a well-formed exon list `pre ++ P :: Q :: post` gives around `P` and `Q`: every exon
non-empty, `pre` below `P`, `P` below `Q`, `post` above `Q`, each with a gap of ≥ 1 base.  Nothing
is said about the order inside `pre` and `post`. -/
structure Chain2 (pre post : List Iv) (P Q : Iv) : Prop where
  hp : ∀ e ∈ pre, e.start < e.stop ∧ e.stop < P.start
  hP : P.start < P.stop
  hPQ : P.stop < Q.start
  hQ : Q.start < Q.stop
  hq : ∀ e ∈ post, Q.stop < e.start ∧ e.start < e.stop

theorem chain2_of_wf (hw : t.WF) (he : t.exons = pre ++ P :: Q :: post) : Chain2 pre post P Q := by
  obtain ⟨h1, h2, h3⟩ := wf_parts hw he
  obtain ⟨_, h5, h6⟩ := wf_parts hw (he.trans (List.append_cons ..))
  exact ⟨h1, h2, (h3 Q List.mem_cons_self).1, h5, h6⟩

theorem Chain2.below (h : Chain2 pre post P Q) :
    ∀ e ∈ pre, e.stop ≤ P.start := fun e he => Nat.le_of_lt (h.hp e he).2

theorem Chain2.above (h : Chain2 pre post P Q) :
    ∀ e ∈ post, Q.stop ≤ e.start := fun e he => Nat.le_of_lt (h.hq e he).1

theorem Chain2.uei {p : Nat} (h : Chain2 pre post P Q) (he : es = pre ++ P :: Q :: post)
    (hp : p = P.stop) : exonWithEnd es p = (pre.length : Int) :=
  he ▸ exonWithEnd_hit (fun e he => Nat.ne_of_lt (hp ▸ Nat.lt_trans (h.hp e he).2 h.hP)) hp.symm

theorem Chain2.dsi {p : Nat} (h : Chain2 pre post P Q) (he : es = pre ++ P :: Q :: post)
    (hp : p = Q.start) : exonWithStart es p = ((pre.length + 1 : Nat) : Int) := by
  have hPQ : P.start < p := hp ▸ Nat.lt_trans h.hP h.hPQ
  rw [he, List.append_cons, exonWithStart_hit (List.forall_mem_append.mpr
    ⟨fun e he => Nat.ne_of_lt (Nat.lt_trans (Nat.lt_trans (h.hp e he).1 (h.hp e he).2) hPQ),
      List.forall_mem_singleton.mpr (Nat.ne_of_lt hPQ)⟩) hp.symm, length_snoc]

/- tactics for goals `∀ e ∈ pre ++ P :: Q :: post, …` (`chain3_mem`: three exons in the middle):
case analysis over the membership, each case closed by `omega` with the chain facts in the context.
No proof of the development uses them. -/
set_option hygiene false in
macro "chain2_mem" hp:ident hq:ident : tactic =>
  `(tactic| (intro e he
             simp only [List.mem_append, List.mem_cons, List.mem_singleton] at he
             rcases he with he | rfl | rfl | he <;>
               first | omega | (have := $hp e he; omega) | (have := $hq e he; omega)))

set_option hygiene false in
macro "chain3_mem" hp:ident hq:ident : tactic =>
  `(tactic| (intro e he
             simp only [List.mem_append, List.mem_cons, List.mem_singleton] at he
             rcases he with he | rfl | rfl | rfl | he <;>
               first | omega | (have := $hp e he; omega) | (have := $hq e he; omega)))

theorem Chain2.stop_ne {p : Nat} (h : Chain2 pre post P Q) (h1 : P.start < p) (h2 : p ≤ Q.start)
    (h3 : p ≠ P.stop) : ∀ e ∈ pre ++ P :: Q :: post, e.stop ≠ p := by
  have hQ := Nat.lt_of_le_of_lt h2 h.hQ
  exact List.forall_mem_append.mpr
    ⟨fun e he => Nat.ne_of_lt (Nat.lt_trans (h.hp e he).2 h1),
      List.forall_mem_cons.mpr ⟨h3.symm, List.forall_mem_cons.mpr ⟨Nat.ne_of_gt hQ, fun e he =>
        Nat.ne_of_gt (Nat.lt_trans hQ (Nat.lt_trans (h.hq e he).1 (h.hq e he).2))⟩⟩⟩

theorem Chain2.start_ne {p : Nat} (h : Chain2 pre post P Q) (h1 : P.stop ≤ p) (h2 : p < Q.stop)
    (h3 : p ≠ Q.start) : ∀ e ∈ pre ++ P :: Q :: post, e.start ≠ p := by
  have hP := Nat.lt_of_lt_of_le h.hP h1
  exact List.forall_mem_append.mpr
    ⟨fun e he => Nat.ne_of_lt (Nat.lt_trans (Nat.lt_trans (h.hp e he).1 (h.hp e he).2) hP),
      List.forall_mem_cons.mpr ⟨Nat.ne_of_lt hP, List.forall_mem_cons.mpr ⟨h3.symm, fun e he =>
        Nat.ne_of_gt (Nat.lt_trans h2 (h.hq e he).1)⟩⟩⟩

end


section
variable {a : Aln} {g : Gene} {t : Transcript} {es : List Iv} {inter : List Nat} {k : Nat}

theorem convertAln_un (h1 : a.un = true) (h2 : a.dn = false)
    (hi : getInterjacent a t.exons = .ok inter) :
    convertAln a g t = convUpstream a g t.exons inter := by
  unfold convertAln
  rw [hi]
  simp only [h1, h2, bind, Except.bind, pure, Except.pure, if_true, Bool.false_eq_true, if_false,
    Bool.not_true, Bool.not_false, Bool.and_false]
  cases convUpstream a g t.exons inter <;> simp only [List.append_nil]

theorem convertAln_dn (h1 : a.un = false) (h2 : a.dn = true)
    (hi : getInterjacent a t.exons = .ok inter) :
    convertAln a g t = convDownstream a g t.exons inter := by
  unfold convertAln
  rw [hi]
  simp only [h1, h2, bind, Except.bind, pure, Except.pure, if_true, Bool.false_eq_true, if_false,
    Bool.not_true, Bool.not_false, Bool.and_true]
  cases convDownstream a g t.exons inter <;> simp only [List.nil_append, List.append_nil]

theorem convertAln_known (h1 : a.un = false) (h2 : a.dn = false)
    (hi : getInterjacent a t.exons = .ok inter) :
    convertAln a g t = convKnown a g t inter := by
  unfold convertAln
  rw [hi]
  simp only [h1, h2, bind, Except.bind, pure, Except.pure, if_true, Bool.false_eq_true, if_false,
    Bool.not_false, Bool.and_self]
  cases convKnown a g t inter <;> simp only [List.nil_append]

theorem convertAln_adjacent (hi : getInterjacent a t.exons = .ok []) (hu : a.uei ≠ -1)
    (hd : a.dsi ≠ -1) :
    convertAln a g t = .ok [] := by
  have hn : ¬ (([] : List Nat) ≠ []) := fun h => h rfl
  have e1 : convUpstream a g t.exons [] = .ok [] := by
    unfold convUpstream
    rw [if_neg (fun h => h.elim hu hn)]; rfl
  have e2 : convDownstream a g t.exons [] = .ok [] := by
    unfold convDownstream
    rw [if_neg (fun h => h.elim hd hn)]; rfl
  have e3 : convKnown a g t [] = .ok [] := by
    unfold convKnown
    simp only [hu, hd, hn, or_self, if_false]
    cases t.strand <;> simp only [ite_self] <;> rfl
  unfold convertAln
  rw [hi]
  simp only [bind, Except.bind, e1, e2, e3]
  cases a.un <;> cases a.dn <;> rfl


theorem convUpstream_del (h1 : a.uei = -1 ∨ inter ≠ [])
    (hs : getUpstreamEndSpanning a es = (k : Int)) :
    convUpstream a g es inter
      = (do let v ← createUpstreamDeletion a g es (k : Int) inter; pure [v]) := by
  unfold convUpstream
  rw [if_pos h1, hs, if_pos (neg_one_lt_natCast k)]

theorem convUpstream_sub (h1 : inter ≠ []) (hs : getUpstreamEndSpanning a es = -1) :
    convUpstream a g es inter
      = (do let v ← createUpstreamSubstitution a g es inter; pure [v]) := by
  unfold convUpstream
  rw [if_pos (Or.inr h1), hs, if_neg (Int.lt_irrefl _), if_pos h1]

theorem convUpstream_ins (hu : a.uei = -1) (hs : getUpstreamEndSpanning a es = -1)
    (hd : a.dsi > 0) :
    convUpstream a g es [] = (do let v ← createUpstreamInsertion a g es; pure [v]) := by
  unfold convUpstream
  rw [if_pos (Or.inl hu), hs, if_neg (Int.lt_irrefl _), if_neg (fun h => h rfl), if_pos hd]

theorem convDownstream_del (h1 : a.dsi = -1 ∨ inter ≠ [])
    (hs : getDownstreamStartSpanning a es = (k : Int)) :
    convDownstream a g es inter
      = (do let v ← createDownstreamDeletion a g es (k : Int) inter; pure [v]) := by
  unfold convDownstream
  rw [if_pos h1, hs, if_pos (neg_one_lt_natCast k)]

theorem convDownstream_sub (h1 : inter ≠ []) (hs : getDownstreamStartSpanning a es = -1) :
    convDownstream a g es inter
      = (do let v ← createDownstreamSubstitution a g es inter; pure [v]) := by
  unfold convDownstream
  rw [if_pos (Or.inr h1), hs, if_neg (Int.lt_irrefl _), if_pos h1]

/-- the downstream Insertion is only built when the junction's `downstream_end` is the end of an
exon that is not the last one -/
theorem convDownstream_ins (hd : a.dsi = -1) (hs : getDownstreamStartSpanning a es = -1) :
    convDownstream a g es []
      = if -1 < a.dei ∧ a.dei < (es.length : Int) - 1
        then (do let v ← createDownstreamInsertion a g es; pure [v]) else pure [] := by
  unfold convDownstream
  rw [if_pos (Or.inl hd), hs, if_neg (Int.lt_irrefl _), if_neg (fun h => h rfl)]

theorem convKnown_plus_del (hst : t.strand = .plus) (h1 : a.dsi = -1 ∨ inter ≠ [])
    (hs : getDownstreamStartSpanning a t.exons = (k : Int)) :
    convKnown a g t inter
      = if a.uei ≠ -1 ∧ t.spanStart < a.j.ue
        then (do let v ← createDownstreamDeletion a g t.exons (k : Int) inter; pure [v])
        else pure [] := by
  unfold convKnown
  simp only [hst, Bool.and_eq_true, decide_eq_true_eq, if_pos h1, hs]
  rw [if_pos (neg_one_lt_natCast k)]

theorem convKnown_minus_del (hst : t.strand = .minus) (h1 : a.uei = -1 ∨ inter ≠ [])
    (hs : getUpstreamEndSpanning a t.exons = (k : Int)) :
    convKnown a g t inter
      = if a.dsi ≠ -1 ∧ t.spanStop > a.j.ds + 1
        then (do let v ← createUpstreamDeletion a g t.exons (k : Int) inter; pure [v])
        else pure [] := by
  unfold convKnown
  simp only [hst, Bool.and_eq_true, decide_eq_true_eq, if_pos h1, hs]
  rw [if_pos (neg_one_lt_natCast k)]

end


/-- the alignment object `align_to_transcript` builds when it does not return `None` -/
def alnOf (j : Junction) (es : List Iv) (un dn : Bool) : Aln :=
  ⟨j, exonWithStart es j.us, exonWithEnd es j.ue, exonWithStart es j.ds, exonWithEnd es j.de, un, dn⟩

section
variable {j : Junction} {g : Gene} {t : Transcript} {pre post : List Iv} {P Q : Iv}

theorem align_ok (j : Junction) (g : Gene) (t : Transcript) (un dn : Bool)
    (h1 : un = true → exonWithStart t.exons j.ds ≠ -1)
    (h2 : dn = true → exonWithEnd t.exons j.ue ≠ -1) :
    ∃ a : Aln, alignConvert j g t un dn = convertAln a g t ∧ a.j = j ∧ a.un = un ∧ a.dn = dn ∧
      a.uei = exonWithEnd t.exons j.ue ∧ a.dsi = exonWithStart t.exons j.ds ∧
      a.dei = exonWithEnd t.exons j.de := by
  refine ⟨alnOf j t.exons un dn, ?_, rfl, rfl, rfl, rfl, rfl, rfl⟩
  unfold alignConvert align
  rw [if_neg (fun h => h1 h.1 h.2), if_neg (fun h => h2 h.1 h.2)]
  rfl

/-- an upstream-novel junction into the exon `Q`, whose upstream end is the end of no exon:
interjacent and spanning exons are searched backwards from the exon `P` before `Q`, and the
upstream block of the cascade runs -/
theorem align_un (he : t.exons = pre ++ P :: Q :: post) (hch : Chain2 pre post P Q)
    (hd : j.ds = Q.start) (h0 : j.ue ≠ 0) (hu : ∀ e ∈ t.exons, e.stop ≠ j.ue) :
    ∃ a : Aln, a.j = j ∧ a.uei = -1 ∧ a.dsi = ((pre.length + 1 : Nat) : Int) ∧
      getUpstreamEndSpanning a t.exons
        = idxWhereDown (fun e => e.contains (j.ue - 1)) (pre ++ [P]).reverse (pre.length + 1) ∧
      alignConvert j g t true false
        = convUpstream a g t.exons
            (interBwd j.ue j.ds (pre ++ [P]).reverse (pre.length + 1)).reverse := by
  have he' := he.trans (List.append_cons ..)
  obtain ⟨a, hal, rfl, hun, hdn, hau, had, -⟩ :=
    align_ok j g t true false (fun _ => hch.dsi he hd ▸ natCast_ne_neg_one _) (fun h => nomatch h)
  rw [exonWithEnd_none hu] at hau
  rw [hch.dsi he hd] at had
  exact ⟨a, rfl, hau, had, getUpstreamEndSpanning_bwd he' (length_snoc ..) h0 had,
    hal.trans (convertAln_un hun hdn
      (getInterjacent_bwd he' (length_snoc ..) hau had (Nat.succ_pos _)))⟩

/-- a downstream-novel junction out of the exon `P`, whose downstream start is the start of no
exon: interjacent and spanning exons are searched forwards from the exon `Q` after `P`, and the
downstream block of the cascade runs -/
theorem align_dn (he : t.exons = pre ++ P :: Q :: post) (hch : Chain2 pre post P Q)
    (hu : j.ue = P.stop) (hd : ∀ e ∈ t.exons, e.start ≠ j.ds) :
    ∃ a : Aln, a.j = j ∧ a.uei = (pre.length : Int) ∧ a.dsi = -1 ∧
      a.dei = exonWithEnd t.exons j.de ∧
      getDownstreamStartSpanning a t.exons
        = idxWhere (fun e => e.contains j.ds) (Q :: post) (pre.length + 1) ∧
      alignConvert j g t false true
        = convDownstream a g t.exons (interFwd j.ue j.ds (Q :: post) (pre.length + 1)) := by
  obtain ⟨a, hal, rfl, hun, hdn, hau, had, hde⟩ :=
    align_ok j g t false true (fun h => nomatch h) (fun _ => hch.uei he hu ▸ natCast_ne_neg_one _)
  rw [hch.uei he hu] at hau
  rw [exonWithStart_none hd] at had
  exact ⟨a, rfl, hau, had, hde, getDownstreamStartSpanning_fwd he hau,
    hal.trans (convertAln_dn hun hdn
      (getInterjacent_fwd he hau (had ▸ by decide) (List.cons_ne_nil _ _)))⟩

end

/-! The constructors differ in how they pick the genomic region (and donor) from the aligned exons;
what they then do with it is the same for each record kind (`…_tail_ok`). -/

theorem pyGet_nat (es : List Iv) (k : Nat) (e : Iv) (h : es[k]? = some e) :
    pyGet es (k : Int) = .ok e := by
  unfold pyGet
  rw [if_pos (Int.natCast_nonneg k)]
  simp only [Int.toNat_natCast, h]

theorem pyGet_at0 (pre : List Iv) (X : Iv) (rest : List Iv) :
    pyGet (pre ++ X :: rest) ((pre.length : Nat) : Int) = .ok X :=
  pyGet_nat _ _ _ (by rw [List.getElem?_append_right (Nat.le_refl _), Nat.sub_self]; rfl)

theorem pyGet_at1 (pre : List Iv) (X Y : Iv) (rest : List Iv) :
    pyGet (pre ++ X :: Y :: rest) ((pre.length + 1 : Nat) : Int) = .ok Y :=
  pyGet_nat _ _ _ (by
    rw [List.getElem?_append_right (Nat.le_add_right ..), Nat.add_sub_cancel_left]; rfl)

theorem pyGet_at2 (pre : List Iv) (X Y Z : Iv) (rest : List Iv) :
    pyGet (pre ++ X :: Y :: Z :: rest) ((pre.length + 2 : Nat) : Int) = .ok Z :=
  pyGet_nat _ _ _ (by
    rw [List.getElem?_append_right (Nat.le_add_right ..), Nat.add_sub_cancel_left]; rfl)

theorem deletion_tail_ok {g : Gene} {gs ge : Nat} (h0 : g.loc.start ≤ gs) (h1 : gs < ge)
    (h2 : ge ≤ g.loc.stop) :
    (do let s ← g2g g gs
        let e ← g2g g (ge - 1)
        let (s, e) := match g.strand with | .plus => (s, e) | .minus => (e, s)
        let e := e + 1
        mkLoc s e
        pure (⟨.deletion, s, e, 0, 0⟩ : ASRec)) = .ok (delRec g ⟨gs, ge⟩) := by
  obtain ⟨hs, he, hlt⟩ := g2g_region h0 h1 h2
  rw [hs, he]
  cases g.strand
  all_goals
    simp only [bind, Except.bind, pure, Except.pure, mkLoc, delRec,
      Nat.sub_add_cancel (Nat.zero_lt_of_lt hlt), if_neg (Nat.lt_asymm hlt)]

theorem substitution_tail_ok {g : Gene} {xs xe ds de : Nat} (h0 : g.loc.start ≤ xs)
    (h1 : xs < xe) (h2 : xe ≤ g.loc.stop) (h3 : g.loc.start ≤ ds) (h4 : ds < de)
    (h5 : de ≤ g.loc.stop) :
    (do let s ← g2g g xs
        let e ← g2g g (xe - 1)
        let d0 ← g2g g ds
        let d1 ← g2g g (de - 1)
        let (s, e, d0, d1) := match g.strand with
          | .plus => (s, e, d0, d1)
          | .minus => (e, s, d1, d0)
        mkLoc s (e + 1)
        pure (⟨.substitution, s, e + 1, d0, d1 + 1⟩ : ASRec))
      = .ok (subRec g ⟨xs, xe⟩ ⟨ds, de⟩) := by
  obtain ⟨hs, he, hlt⟩ := g2g_region h0 h1 h2
  obtain ⟨hd0, hd1, hdlt⟩ := g2g_region h3 h4 h5
  rw [hs, he, hd0, hd1]
  cases g.strand
  all_goals
    simp only [bind, Except.bind, pure, Except.pure, mkLoc, subRec,
      Nat.sub_add_cancel (Nat.zero_lt_of_lt hlt), Nat.sub_add_cancel (Nat.zero_lt_of_lt hdlt),
      if_neg (Nat.lt_asymm hlt)]

/-- both Insertion constructors: the donor `[ds, de)` goes between the consecutive exons `P` and
`Q`; the insert position is computed from the last base of `P` on `+`, the first base of `Q`
on `-` -/
theorem insertion_tail_ok {g : Gene} {P Q : Iv} {ds de : Nat} (h0 : g.loc.start ≤ ds)
    (h1 : ds < de) (h2 : de ≤ g.loc.stop)
    (hPin : g.loc.start ≤ P.start ∧ P.start ≤ P.stop ∧ P.stop ≤ g.loc.stop) (hP : P.start < P.stop)
    (hQin : g.loc.start ≤ Q.start ∧ Q.start ≤ Q.stop ∧ Q.stop ≤ g.loc.stop)
    (hQ : Q.start < Q.stop) :
    (do let (ipg, dsg, deg) := match g.strand with
          | .plus => (P.stop - 1, ds, de - 1)
          | .minus => (Q.start, de - 1, ds)
        let ip ← g2g g ipg
        let d0 ← g2g g dsg
        let d1 ← g2g g deg
        pure (⟨.insertion, ip, ip + 1, d0, d1 + 1⟩ : ASRec))
      = .ok (insRec g (match g.strand with | .plus => P.stop | .minus => Q.start) ⟨ds, de⟩) := by
  obtain ⟨hd0, hd1, hdlt⟩ := g2g_region h0 h1 h2
  have hp : g.loc.start < P.stop := Nat.lt_of_le_of_lt hPin.1 hP
  have hq : Q.start < g.loc.stop := Nat.lt_of_lt_of_le hQ hQin.2.2
  unfold insRec cut
  cases hst : g.strand
  · simp only [g2g_ok (Nat.le_sub_one_of_lt hp)
      (Nat.lt_of_lt_of_le (Nat.sub_one_lt (Nat.ne_zero_of_lt hP)) hPin.2.2), hd0, hd1, hst, bind,
      Except.bind, pure, Except.pure]
    rw [Nat.sub_right_comm, Nat.sub_add_cancel (Nat.sub_pos_of_lt hp),
      Nat.sub_add_cancel (Nat.zero_lt_of_lt hdlt)]
  · simp only [g2g_ok hQin.1 hq, hd0, hd1, hst, bind, Except.bind, pure, Except.pure]
    rw [Nat.sub_right_comm, Nat.sub_add_cancel (Nat.sub_pos_of_lt hq),
      Nat.sub_add_cancel (Nat.zero_lt_of_lt hdlt)]

section
variable {g : Gene} {a : Aln} {es pre post rest : List Iv}

theorem upstream_insertion_ok {P Q : Iv}
    (he : es = pre ++ P :: Q :: post) (hin : InGene g es) (hP : P.start < P.stop)
    (hQ : Q.start < Q.stop)
    (hdsi : a.dsi = ((pre.length + 1 : Nat) : Int)) (hjd : a.j.ds = Q.start)
    (h1 : P.stop < a.j.ue) (h2 : a.j.ue ≤ Q.start) (h3 : a.j.us < a.j.ue) :
    createUpstreamInsertion a g es
      = .ok (insRec g (match g.strand with | .plus => P.stop | .minus => Q.start)
          ⟨max P.stop a.j.us, a.j.ue⟩) := by
  have hi : a.dsi - 1 = ((pre.length : Nat) : Int) := by omega
  subst he
  have hPin := hin.head
  have hQin := hin.shift.head
  unfold createUpstreamInsertion
  rw [if_neg (by omega)]
  simp only [hi, pyGet_at0, bind, Except.bind, pure, Except.pure, hjd]
  exact insertion_tail_ok (Nat.le_trans (Nat.le_trans hPin.1 hPin.2.1) (Nat.le_max_left ..))
    (Nat.max_lt.mpr ⟨h1, h3⟩) (Nat.le_trans h2 (Nat.le_trans hQin.2.1 hQin.2.2)) hPin hP hQin hQ

/-- `hx`: `create_downstream_insertion` raises when `upstream_start` is the start of the last
exon (it tests `upstream_start_index`, not `upstream_end_index`) -/
theorem downstream_insertion_ok {P Q : Iv}
    (he : es = pre ++ P :: Q :: post) (hin : InGene g es) (hP : P.start < P.stop)
    (hQ : Q.start < Q.stop)
    (huei : a.uei = (pre.length : Int)) (hju : a.j.ue = P.stop)
    (h1 : P.stop ≤ a.j.ds) (h2 : a.j.ds < Q.start) (h3 : a.j.ds < a.j.de)
    (hx : a.usi ≠ (es.length : Int) - 1) :
    createDownstreamInsertion a g es
      = .ok (insRec g (match g.strand with | .plus => P.stop | .minus => Q.start)
          ⟨a.j.ds, min Q.start a.j.de⟩) := by
  have hi : a.uei + 1 = ((pre.length + 1 : Nat) : Int) := by omega
  subst he
  have hPin := hin.head
  have hQin := hin.shift.head
  unfold createDownstreamInsertion
  rw [if_neg (by omega), if_neg hx]
  simp only [hi, pyGet_at1, bind, Except.bind, pure, Except.pure, hju, Nat.sub_min_sub_right]
  exact insertion_tail_ok (Nat.le_trans (Nat.le_trans hPin.1 hPin.2.1) h1)
    (Nat.lt_min.mpr ⟨h2, h3⟩)
    (Nat.le_trans (Nat.min_le_left ..) (Nat.le_trans hQin.2.1 hQin.2.2)) hPin hP hQin hQ

theorem upstream_deletion_inside_ok {P : Iv}
    (he : es = pre ++ P :: rest) (hin : InGene g es) (h1 : P.start < a.j.ue)
    (h2 : a.j.ue < P.stop) :
    createUpstreamDeletion a g es ((pre.length : Nat) : Int) []
      = .ok (delRec g ⟨a.j.ue, P.stop⟩) := by
  subst he
  have hPin := hin.head
  unfold createUpstreamDeletion
  simp only [pyGet_at0, if_neg (Nat.ne_of_gt h2), ne_eq, not_true_eq_false, if_false, bind,
    Except.bind, pure, Except.pure]
  exact deletion_tail_ok (Nat.le_trans hPin.1 (Nat.le_of_lt h1)) h2 hPin.2.2

theorem downstream_deletion_inside_ok {X : Iv}
    (he : es = pre ++ X :: rest) (hin : InGene g es) (h1 : X.start < a.j.ds)
    (h2 : a.j.ds < X.stop) :
    createDownstreamDeletion a g es ((pre.length : Nat) : Int) []
      = .ok (delRec g ⟨X.start, a.j.ds⟩) := by
  subst he
  have hXin := hin.head
  unfold createDownstreamDeletion
  simp only [pyGet_at0, if_neg (Nat.ne_of_gt h1), ne_eq, not_true_eq_false, if_false, bind,
    Except.bind, pure, Except.pure]
  exact deletion_tail_ok hXin.1 h1 (Nat.le_trans (Nat.le_of_lt h2) hXin.2.2)

theorem upstream_deletion_skip_ok {U E D : Iv}
    (he : es = pre ++ U :: E :: D :: post) (hin : InGene g es) (hE : E.start < E.stop)
    (hUs : U.stop = a.j.ue) :
    createUpstreamDeletion a g es ((pre.length : Nat) : Int)
        [pre.length + 1] = .ok (delRec g E) := by
  subst he
  have hEin := hin.shift.head
  unfold createUpstreamDeletion
  simp only [pyGet_at0, pyGet_at1, if_pos hUs, firstIdx, lastIdx, List.head?_cons,
    List.getLast?_singleton, ne_eq, List.cons_ne_self, not_false_eq_true, if_true, bind,
    Except.bind, pure, Except.pure]
  exact deletion_tail_ok hEin.1 hE hEin.2.2

theorem downstream_deletion_skip_ok {U E D : Iv}
    (he : es = pre ++ U :: E :: D :: post) (hin : InGene g es) (hE : E.start < E.stop)
    (hDs : D.start = a.j.ds) :
    createDownstreamDeletion a g es ((pre.length + 2 : Nat) : Int)
        [pre.length + 1] = .ok (delRec g E) := by
  subst he
  have hEin := hin.shift.head
  unfold createDownstreamDeletion
  simp only [pyGet_at1, pyGet_at2, if_pos hDs.symm, firstIdx, lastIdx, List.head?_cons,
    List.getLast?_singleton, ne_eq, List.cons_ne_self, not_false_eq_true, if_true, bind,
    Except.bind, pure, Except.pure]
  exact deletion_tail_ok hEin.1 hE hEin.2.2

theorem upstream_substitution_ok {P M : Iv}
    (he : es = pre ++ P :: M :: rest) (hin : InGene g es) (hM : M.start < M.stop)
    (h1 : P.stop < a.j.ue) (h2 : a.j.ue ≤ M.start) (h3 : a.j.us < a.j.ue) :
    createUpstreamSubstitution a g es [pre.length + 1]
      = .ok (subRec g M ⟨max P.stop a.j.us, a.j.ue⟩) := by
  have hi : (((pre.length + 1 : Nat) : Int) - 1) = ((pre.length : Nat) : Int) := by omega
  subst he
  have hPin := hin.head
  have hMin := hin.shift.head
  unfold createUpstreamSubstitution
  simp only [firstIdx, lastIdx, List.head?_cons, List.getLast?_singleton, pyGet_at1, hi, pyGet_at0,
    Nat.zero_lt_succ, if_true, bind, Except.bind, pure, Except.pure]
  exact substitution_tail_ok hMin.1 hM hMin.2.2
    (Nat.le_trans (Nat.le_trans hPin.1 hPin.2.1) (Nat.le_max_left ..)) (Nat.max_lt.mpr ⟨h1, h3⟩)
    (Nat.le_trans h2 (Nat.le_trans hMin.2.1 hMin.2.2))

theorem downstream_substitution_ok {M Q : Iv}
    (he : es = pre ++ M :: Q :: post) (hin : InGene g es) (hM : M.start < M.stop)
    (h1 : M.stop ≤ a.j.ds) (h2 : a.j.ds < Q.start) (h3 : a.j.ds < a.j.de) :
    createDownstreamSubstitution a g es [pre.length]
      = .ok (subRec g M ⟨a.j.ds, min Q.start a.j.de⟩) := by
  subst he
  have hMin := hin.head
  have hQin := hin.shift.head
  have hi : (((pre.length : Nat) : Int) + 1) = ((pre.length + 1 : Nat) : Int) := rfl
  have hl : pre.length + 1 < (pre ++ M :: Q :: post).length := by
    simp only [List.length_append, List.length_cons]; omega
  unfold createDownstreamSubstitution
  simp only [firstIdx, lastIdx, List.head?_cons, List.getLast?_singleton, pyGet_at0, hi, pyGet_at1,
    hl, if_true, bind, Except.bind, pure, Except.pure]
  exact substitution_tail_ok hMin.1 hM hMin.2.2 (Nat.le_trans (Nat.le_trans hMin.1 hMin.2.1) h1)
    (Nat.lt_min.mpr ⟨h2, h3⟩)
    (Nat.le_trans (Nat.min_le_left ..) (Nat.le_trans hQin.2.1 hQin.2.2))

end


section
variable {chrom : List Char} {g : Gene} {t : Transcript} {j : Junction} {un dn : Bool}
  {pre post : List Iv} {rs : List ASRec} {r : ASRec}

theorem eq_of_mem_ok_singleton {α : Type} {x r : α} {rs : List α}
    (h : (.ok [x] : Except Err (List α)) = .ok rs) (hr : r ∈ rs) : r = x := by
  cases h
  exact List.mem_singleton.mp hr

theorem idxWhereDown_below {L : List Iv} {p : Nat} (h : ∀ e ∈ L, e.stop ≤ p) (n : Nat) :
    idxWhereDown (fun e => e.contains p) L.reverse n = -1 :=
  idxWhereDown_none (fun e he => contains_false (.inr (h e (List.mem_reverse.mp he)))) n

theorem idxWhere_above {L : List Iv} {p : Nat} (h : ∀ e ∈ L, p < e.start) (k : Nat) :
    idxWhere (fun e => e.contains p) L k = -1 :=
  idxWhere_none (fun e he => contains_false (.inl (h e he))) k

/-- The junction joins two exons that are consecutive in the transcript: no record, whatever the
novelty flags. -/
theorem alignConvert_adjacent {P Q : Iv} (he : t.exons = pre ++ P :: Q :: post)
    (hch : Chain2 pre post P Q) (h1 : j.ue = P.stop) (h2 : j.ds = Q.start) :
    alignConvert j g t un dn = .ok [] := by
  have huei := hch.uei he h1
  have hdsi := hch.dsi he h2
  obtain ⟨a, hal, rfl, -, -, hau, had, -⟩ := align_ok j g t un dn
    (fun _ => hdsi ▸ natCast_ne_neg_one _) (fun _ => huei ▸ natCast_ne_neg_one _)
  rw [huei] at hau
  rw [hdsi] at had
  rw [hal]
  refine convertAln_adjacent ?_ (hau ▸ natCast_ne_neg_one _) (had ▸ natCast_ne_neg_one _)
  rw [getInterjacent_fwd he hau (had ▸ Int.natCast_ne_zero.mpr (Nat.succ_ne_zero _))
      (List.cons_ne_nil _ _), interFwd_stop_of_le hch.hQ (Nat.le_of_eq h2)]

theorem alignConvert_un_intron_exact {P Q : Iv}
    (he : t.exons = pre ++ P :: Q :: post) (hw : t.WF) (hg : t.Within g)
    (hd : j.ds = Q.start) (h1 : P.stop < j.ue) (h2 : j.ue ≤ Q.start) (h3 : j.us < j.ue) :
    alignConvert j g t true false
      = .ok [insRec g (match g.strand with | .plus => P.stop | .minus => Q.start)
          ⟨max P.stop j.us, j.ue⟩] := by
  have hch := chain2_of_wf hw he
  obtain ⟨a, rfl, hau, had, hsp, hal⟩ := align_un (g := g) he hch hd (Nat.ne_zero_of_lt h1)
    (he ▸ hch.stop_ne (Nat.lt_trans hch.hP h1) h2 (Nat.ne_of_gt h1))
  rw [idxWhereDown_below
    (below_snoc hch.below (Nat.le_of_lt hch.hP) (Nat.le_sub_one_of_lt h1))] at hsp
  rw [List.reverse_concat, interBwd_stop hch.hP (Nat.le_of_lt h1), List.reverse_nil] at hal
  rw [hal, convUpstream_ins hau hsp (had ▸ Int.natCast_pos.mpr (Nat.succ_pos _)),
    upstream_insertion_ok he (inGene_of_within hw hg) hch.hP hch.hQ had hd h1 h2 h3]
  rfl

/-- Upstream-novel junction ending in the intron before the aligned downstream exon: transcript
`… P Q …`, junction `(us, ue) → Q` with `P.stop < ue ≤ Q.start`.  Every record of the output (it is
the one Insertion of `alignConvert_un_intron_exact`) puts `[max(P.stop, us), ue)` between `P` and
`Q`. -/
theorem alignConvert_un_intron {P Q : Iv}
    (he : t.exons = pre ++ P :: Q :: post) (hw : t.WF) (hg : t.Within g)
    (hc : g.loc.stop ≤ chrom.length)
    (hd : j.ds = Q.start) (h1 : P.stop < j.ue) (h2 : j.ue ≤ Q.start) (h3 : j.us < j.ue)
    (h : alignConvert j g t true false = .ok rs) (hr : r ∈ rs) :
    applyAS g t.exons (seqOfExons chrom t.strand t.exons) (geneSeq chrom g) r
      = seqOfExons chrom t.strand (pre ++ P :: ⟨max P.stop j.us, j.ue⟩ :: Q :: post) := by
  have hch := chain2_of_wf hw he
  rw [alignConvert_un_intron_exact he hw hg hd h1 h2 h3] at h
  rw [eq_of_mem_ok_singleton h hr, hg.1]
  exact insert_between he (inGene_of_within hw hg) hc hch.below hch.hP (Nat.le_max_left ..)
    (Nat.max_le.mpr ⟨Nat.le_of_lt h1, Nat.le_of_lt h3⟩) h2 hch.hQ hch.above

/-- Upstream-novel junction ending inside the exon before the aligned downstream exon: transcript
`… P Q …`, junction `(us, ue) → Q` with `P.start < ue < P.stop`.  Every record of the output (the
proof finds one, the Deletion of `[ue, P.stop)`) cuts `P` down to `[P.start, ue)`. -/
theorem alignConvert_un_inside {P Q : Iv}
    (he : t.exons = pre ++ P :: Q :: post) (hw : t.WF) (hg : t.Within g)
    (hc : g.loc.stop ≤ chrom.length)
    (hd : j.ds = Q.start) (h1 : P.start < j.ue) (h2 : j.ue < P.stop)
    (h : alignConvert j g t true false = .ok rs) (hr : r ∈ rs) :
    applyAS g t.exons (seqOfExons chrom t.strand t.exons) (geneSeq chrom g) r
      = seqOfExons chrom t.strand (pre ++ ⟨P.start, j.ue⟩ :: Q :: post) := by
  have hch := chain2_of_wf hw he
  have hin := inGene_of_within hw hg
  have h0 := Nat.zero_lt_of_lt h1
  obtain ⟨a, rfl, hau, had, hsp, hal⟩ := align_un (g := g) he hch hd (Nat.ne_of_gt h0)
    (he ▸ hch.stop_ne h1 (Nat.le_of_lt (Nat.lt_trans h2 hch.hPQ)) (Nat.ne_of_lt h2))
  rw [List.reverse_concat, idxWhereDown_cons_true (contains_true (Nat.le_sub_one_of_lt h1)
    (Nat.sub_one_lt_of_le h0 (Nat.le_of_lt h2))), Nat.add_sub_cancel] at hsp
  rw [List.reverse_concat,
    interBwd_skip h1 h2 (by rw [hd]; exact Nat.lt_trans hch.hP hch.hPQ),
    interBwd_below (fun e he =>
      ⟨Nat.le_of_lt (Nat.lt_trans (hch.hp e (List.mem_reverse.mp he)).2 h1),
        (hch.hp e (List.mem_reverse.mp he)).1⟩), List.reverse_nil] at hal
  rw [hal, convUpstream_del (.inl hau) hsp, upstream_deletion_inside_ok he hin h1 h2] at h
  rw [eq_of_mem_ok_singleton h hr, hg.1, delete_in_exon he hin hc hch.below
    (above_cons hch.above (Nat.le_of_lt hch.hQ) (Nat.le_of_lt hch.hPQ)) (Nat.le_of_lt h1)
    (Nat.le_of_lt h2) (Nat.le_refl _)]
  rw [List.append_cons pre ⟨P.start, a.j.ue⟩,
    List.append_cons pre ⟨P.start, a.j.ue⟩ (Q :: post)]
  exact seqOfExons_drop_empty ..

/-- Upstream-novel junction with one interjacent exon: transcript `… P M Q …`, junction
`(us, ue) → Q` with `P.stop < ue ≤ M.start`.  Every record of the output (the proof finds one, the
Substitution of `M`) replaces `M` by `[max(P.stop, us), ue)`. -/
theorem alignConvert_un_subst {P M Q : Iv}
    (he : t.exons = pre ++ P :: M :: Q :: post) (hw : t.WF) (hg : t.Within g)
    (hc : g.loc.stop ≤ chrom.length)
    (hd : j.ds = Q.start) (h1 : P.stop < j.ue) (h2 : j.ue ≤ M.start) (h3 : j.us < j.ue)
    (h : alignConvert j g t true false = .ok rs) (hr : r ∈ rs) :
    applyAS g t.exons (seqOfExons chrom t.strand t.exons) (geneSeq chrom g) r
      = seqOfExons chrom t.strand (pre ++ P :: ⟨max P.stop j.us, j.ue⟩ :: Q :: post) := by
  have he' := he.trans (List.append_cons ..)
  have hPM := chain2_of_wf hw he
  have hMQ := chain2_of_wf hw he'
  have hin := inGene_of_within hw hg
  have hPin := hin P (he ▸ List.mem_append_cons_self)
  have hMin := hin M (he' ▸ List.mem_append_cons_self)
  have h0 := Nat.zero_lt_of_lt h1
  obtain ⟨a, rfl, hau, had, hsp, hal⟩ := align_un (g := g) he' hMQ hd (Nat.ne_of_gt h0)
    (he ▸ hPM.stop_ne (Nat.lt_trans hPM.hP h1) h2 (Nat.ne_of_gt h1))
  rw [List.reverse_concat,
    idxWhereDown_cons_false (contains_false (.inl (Nat.sub_one_lt_of_le h0 h2))),
    idxWhereDown_below
      (below_snoc hPM.below (Nat.le_of_lt hPM.hP) (Nat.le_sub_one_of_lt h1))] at hsp
  rw [List.reverse_concat, List.reverse_concat,
    interBwd_hit h2 hPM.hQ (by rw [hd]; exact Nat.le_of_lt hMQ.hPQ),
    interBwd_stop hPM.hP (Nat.le_of_lt h1), List.reverse_singleton, Nat.add_sub_cancel,
    length_snoc] at hal
  rw [hal, convUpstream_sub (List.cons_ne_nil _ _) hsp,
    upstream_substitution_ok he hin hPM.hQ h1 h2 h3] at h
  rw [eq_of_mem_ok_singleton h hr, hg.1, List.append_cons pre P (_ :: Q :: post)]
  exact substitute_exon he' hin
    (.cons (Nat.le_trans (Nat.le_trans hPin.1 hPin.2.1) (Nat.le_max_left ..))
      (Nat.max_le.mpr ⟨Nat.le_of_lt h1, Nat.le_of_lt h3⟩)
      (Nat.le_trans h2 (Nat.le_trans hMin.2.1 hMin.2.2)) (.nil g))
    hc hMQ.below hPM.above

/-- a downstream-novel junction starting in the intron after the aligned upstream exon reaches
the last branch of the cascade: `create_downstream_insertion` or nothing -/
theorem alignConvert_dn_intron_eq {P Q : Iv}
    (he : t.exons = pre ++ P :: Q :: post) (hw : t.WF)
    (hu : j.ue = P.stop) (h1 : P.stop ≤ j.ds) (h2 : j.ds < Q.start) :
    ∃ a : Aln, a.j = j ∧ a.uei = (pre.length : Int) ∧ a.dei = exonWithEnd t.exons j.de ∧
      alignConvert j g t false true
        = if -1 < a.dei ∧ a.dei < (t.exons.length : Int) - 1
          then (do let v ← createDownstreamInsertion a g t.exons; pure [v]) else pure [] := by
  have hch := chain2_of_wf hw he
  obtain ⟨a, rfl, hau, had, hde, hsp, hal⟩ := align_dn (g := g) he hch hu
    (he ▸ hch.start_ne h1 (Nat.lt_trans h2 hch.hQ) (Nat.ne_of_lt h2))
  rw [idxWhere_above (above_cons hch.above (Nat.le_of_lt hch.hQ) h2)] at hsp
  rw [interFwd_stop_of_le hch.hQ (Nat.le_of_lt h2)] at hal
  exact ⟨a, rfl, hau, hde, hal.trans (convDownstream_ins had hsp)⟩

/-- Downstream-novel junction starting in the intron after the aligned upstream exon: transcript
`… P Q …`, junction `P → (ds, de)` with `P.stop ≤ ds < Q.start`.  Every record of the output (at
most one Insertion, see `alignConvert_dn_intron_eq`) puts `[ds, min(Q.start, de))` between `P` and
`Q`. -/
theorem alignConvert_dn_intron {P Q : Iv}
    (he : t.exons = pre ++ P :: Q :: post) (hw : t.WF) (hg : t.Within g)
    (hc : g.loc.stop ≤ chrom.length)
    (hu : j.ue = P.stop) (h1 : P.stop ≤ j.ds) (h2 : j.ds < Q.start) (h3 : j.ds < j.de)
    (h : alignConvert j g t false true = .ok rs) (hr : r ∈ rs) :
    applyAS g t.exons (seqOfExons chrom t.strand t.exons) (geneSeq chrom g) r
      = seqOfExons chrom t.strand (pre ++ P :: ⟨j.ds, min Q.start j.de⟩ :: Q :: post) := by
  have hch := chain2_of_wf hw he
  have hin := inGene_of_within hw hg
  obtain ⟨a, rfl, hau, -, hal⟩ := alignConvert_dn_intron_eq (g := g) he hw hu h1 h2
  rw [hal] at h
  by_cases hd : -1 < a.dei ∧ a.dei < (t.exons.length : Int) - 1
  · rw [if_pos hd] at h
    by_cases hx : a.usi = (t.exons.length : Int) - 1
    · rw [createDownstreamInsertion, if_neg (hau ▸ natCast_ne_neg_one _), if_pos hx] at h
      cases h
    · rw [downstream_insertion_ok he hin hch.hP hch.hQ hau hu h1 h2 h3 hx] at h
      rw [eq_of_mem_ok_singleton h hr, hg.1]
      exact insert_between he hin hc hch.below hch.hP h1
        (Nat.le_min.mpr ⟨Nat.le_of_lt h2, Nat.le_of_lt h3⟩) (Nat.min_le_left ..) hch.hQ hch.above
  · rw [if_neg hd] at h
    cases h
    cases hr

/-- a downstream-novel junction starting in the intron after the aligned upstream exon emits
nothing when no exon of the transcript ends at the junction's `downstream_end` -/
theorem alignConvert_dn_intron_silent {P Q : Iv}
    (he : t.exons = pre ++ P :: Q :: post) (hw : t.WF)
    (hu : j.ue = P.stop) (h1 : P.stop ≤ j.ds) (h2 : j.ds < Q.start)
    (h3 : ∀ e ∈ t.exons, e.stop ≠ j.de) :
    alignConvert j g t false true = .ok [] := by
  obtain ⟨a, -, -, hde, hal⟩ := alignConvert_dn_intron_eq (g := g) he hw hu h1 h2
  rw [hal, if_neg (by rw [hde, exonWithEnd_none h3]; exact fun h => Int.lt_irrefl _ h.1)]
  rfl

/-- Downstream-novel junction starting inside the exon after the aligned upstream exon:
transcript `… P X …`, junction `P → (ds, de)` with `X.start < ds < X.stop`.  Every record of the
output (the proof finds one, the Deletion of `[X.start, ds)`) cuts `X` down to `[ds, X.stop)`. -/
theorem alignConvert_dn_inside {P X : Iv}
    (he : t.exons = pre ++ P :: X :: post) (hw : t.WF) (hg : t.Within g)
    (hc : g.loc.stop ≤ chrom.length)
    (hu : j.ue = P.stop) (h1 : X.start < j.ds) (h2 : j.ds < X.stop)
    (h : alignConvert j g t false true = .ok rs) (hr : r ∈ rs) :
    applyAS g t.exons (seqOfExons chrom t.strand t.exons) (geneSeq chrom g) r
      = seqOfExons chrom t.strand (pre ++ P :: ⟨j.ds, X.stop⟩ :: post) := by
  have hch := chain2_of_wf hw he
  have hin := inGene_of_within hw hg
  obtain ⟨a, rfl, hau, had, -, hsp, hal⟩ := align_dn (g := g) he hch hu
    (he ▸ hch.start_ne (Nat.le_of_lt (Nat.lt_trans hch.hPQ h1)) h2 (Nat.ne_of_gt h1))
  rw [idxWhere_cons_true (contains_true (Nat.le_of_lt h1) h2)] at hsp
  rw [interFwd_skip h1 h2 (by rw [hu]; exact Nat.lt_trans hch.hPQ hch.hQ),
    interFwd_above (fun e hm => ⟨Nat.le_of_lt (Nat.lt_trans h2 (hch.hq e hm).1), (hch.hq e hm).2⟩)]
    at hal
  have he' := he.trans (List.append_cons ..)
  rw [hal, convDownstream_del (.inl had) hsp, ← length_snoc pre P,
    downstream_deletion_inside_ok he' hin h1 h2] at h
  rw [eq_of_mem_ok_singleton h hr, hg.1, delete_in_exon he' hin hc
    (below_snoc hch.below (Nat.le_of_lt hch.hP) (Nat.le_of_lt hch.hPQ)) hch.above (Nat.le_refl _)
    (Nat.le_of_lt h1) (Nat.le_of_lt h2), List.append_cons pre P (_ :: post)]
  exact seqOfExons_drop_empty ..

/-- Downstream-novel junction with one interjacent exon: transcript `… P M Q …`, junction
`P → (ds, de)` with `M.stop ≤ ds < Q.start`.  Every record of the output (the proof finds one, the
Substitution of `M`) replaces `M` by `[ds, min(Q.start, de))`. -/
theorem alignConvert_dn_subst {P M Q : Iv}
    (he : t.exons = pre ++ P :: M :: Q :: post) (hw : t.WF) (hg : t.Within g)
    (hc : g.loc.stop ≤ chrom.length)
    (hu : j.ue = P.stop) (h1 : M.stop ≤ j.ds) (h2 : j.ds < Q.start) (h3 : j.ds < j.de)
    (h : alignConvert j g t false true = .ok rs) (hr : r ∈ rs) :
    applyAS g t.exons (seqOfExons chrom t.strand t.exons) (geneSeq chrom g) r
      = seqOfExons chrom t.strand (pre ++ P :: ⟨j.ds, min Q.start j.de⟩ :: Q :: post) := by
  have he' := he.trans (List.append_cons ..)
  have hPM := chain2_of_wf hw he
  have hMQ := chain2_of_wf hw he'
  have hin := inGene_of_within hw hg
  have hMin := hin M (he' ▸ List.mem_append_cons_self)
  have hQin := hin Q (he'.trans (List.append_cons ..) ▸ List.mem_append_cons_self)
  obtain ⟨a, rfl, hau, had, -, hsp, hal⟩ := align_dn (g := g) he hPM hu
    (he' ▸ hMQ.start_ne h1 (Nat.lt_trans h2 hMQ.hQ) (Nat.ne_of_lt h2))
  rw [idxWhere_cons_false (contains_false (.inr h1)),
    idxWhere_above (above_cons hMQ.above (Nat.le_of_lt hMQ.hQ) h2)] at hsp
  rw [interFwd_hit (by rw [hu]; exact Nat.le_of_lt hPM.hPQ) hPM.hQ h1,
    interFwd_stop_of_le hMQ.hQ (Nat.le_of_lt h2)] at hal
  rw [hal, convDownstream_sub (List.cons_ne_nil _ _) hsp,
    ← length_snoc pre P, downstream_substitution_ok he' hin hPM.hQ h1 h2 h3] at h
  rw [eq_of_mem_ok_singleton h hr, hg.1, List.append_cons pre P (_ :: Q :: post)]
  exact substitute_exon he' hin
    (.cons (Nat.le_trans (Nat.le_trans hMin.1 hMin.2.1) h1)
      (Nat.le_min.mpr ⟨Nat.le_of_lt h2, Nat.le_of_lt h3⟩)
      (Nat.le_trans (Nat.min_le_left ..) (Nat.le_trans hQin.2.1 hQin.2.2)) (.nil g))
    hc hMQ.below hPM.above

theorem spanStart_le {rest : List Iv} {U : Iv}
    (he : t.exons = pre ++ U :: rest) (hp : ∀ e ∈ pre, e.start < U.start) :
    t.spanStart ≤ U.start := by
  unfold Transcript.spanStart
  rw [he]
  cases pre with
  | nil => exact Nat.le_refl _
  | cons x xs => exact Nat.le_of_lt (hp x List.mem_cons_self)

/-- Known junction `U → D` over one exon, transcript `… U E D …`: `align_to_transcript` finds `U`
and `D`, `get_interjacent_exons` returns exactly `E`, the spanning search finds `D` (plus) / `U`
(minus), and the output is the Deletion of `E` — except that on the minus strand the block is only
entered when `tx_end > downstream_start + 1` (else nothing). -/
theorem alignConvert_known_skip_exact {U E D : Iv}
    (he : t.exons = pre ++ U :: E :: D :: post) (hw : t.WF) (hg : t.Within g)
    (hu : j.ue = U.stop) (hd : j.ds = D.start) :
    alignConvert j g t false false
      = .ok (if t.strand = .plus ∨ t.spanStop > j.ds + 1 then [delRec g E] else []) := by
  have he' := he.trans (List.append_cons ..)
  have hUE := chain2_of_wf hw he
  have hED := chain2_of_wf hw he'
  have hin := inGene_of_within hw hg
  have h1 : j.ue ≤ E.start := by rw [hu]; exact Nat.le_of_lt hUE.hPQ
  have h2 : E.stop ≤ j.ds := by rw [hd]; exact Nat.le_of_lt hED.hPQ
  obtain ⟨a, hal, rfl, hun, hdn, hau, had, -⟩ :=
    align_ok j g t false false (fun h => nomatch h) (fun h => nomatch h)
  rw [hUE.uei he hu] at hau
  rw [hED.dsi he' hd, length_snoc] at had
  have hinter : getInterjacent a t.exons = .ok [pre.length + 1] := by
    rw [getInterjacent_fwd he hau (had ▸ Int.natCast_ne_zero.mpr (Nat.succ_ne_zero _))
        (List.cons_ne_nil _ _), interFwd_hit h1 hUE.hQ h2,
      interFwd_stop_of_le hED.hQ (Nat.le_of_eq hd)]
  rw [hal, convertAln_known hun hdn hinter]
  cases hst : t.strand with
  | plus =>
    have hsp : getDownstreamStartSpanning a t.exons = ((pre.length + 2 : Nat) : Int) := by
      rw [getDownstreamStartSpanning_fwd he hau, idxWhere_cons_false (contains_false (.inr h2))]
      exact idxWhere_cons_true (contains_true (Nat.le_of_eq hd.symm) (hd ▸ hED.hQ)) _ _
    have hss : t.spanStart < a.j.ue := hu ▸ Nat.lt_of_le_of_lt
      (spanStart_le he (fun e h => Nat.lt_trans (hUE.hp e h).1 (hUE.hp e h).2)) hUE.hP
    rw [convKnown_plus_del hst (.inr (List.cons_ne_nil _ _)) hsp,
      if_pos ⟨hau ▸ natCast_ne_neg_one _, hss⟩, downstream_deletion_skip_ok he hin hUE.hQ hd.symm,
      if_pos (.inl rfl)]
    rfl
  | minus =>
    have h0 : 0 < a.j.ue := by rw [hu]; exact Nat.zero_lt_of_lt hUE.hP
    have hsp : getUpstreamEndSpanning a t.exons = ((pre.length : Nat) : Int) := by
      rw [getUpstreamEndSpanning_bwd (he'.trans (List.append_cons ..))
        (List.length_append.trans (congrArg (· + 1) (length_snoc ..))) (Nat.ne_of_gt h0) had,
        List.reverse_concat, List.reverse_concat,
        idxWhereDown_cons_false (contains_false (.inl (Nat.sub_one_lt_of_le h0 h1)))]
      exact idxWhereDown_cons_true (contains_true (Nat.le_sub_one_of_lt (hu ▸ hUE.hP))
        (Nat.sub_one_lt_of_le h0 (Nat.le_of_eq hu))) _ _
    rw [convKnown_minus_del hst (.inr (List.cons_ne_nil _ _)) hsp]
    by_cases hc : t.spanStop > a.j.ds + 1
    · rw [if_pos ⟨had ▸ natCast_ne_neg_one _, hc⟩, if_pos (.inr hc),
        upstream_deletion_skip_ok he hin hUE.hQ hu.symm]
      rfl
    · rw [if_neg (fun h => hc h.2), if_neg (fun h => h.elim (fun h => nomatch h) hc)]
      rfl

end

end MoPepGen.Rmats
