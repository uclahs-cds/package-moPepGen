/-
Lemmas for `Model/Translate.lean` (the function-level model of `ThreeFrameTVG.translate`), on top
of what the search leaves (`Final`, `Lemmas/TranslateSearch.lean`): `pix` embeds the reached part
of the input graph into the searched graph (`Final.embeds`), so maximal paths correspond; each
node spells `nodeProt` of its TVG node, which for ascending Sec positions is the translation of
its DNA read with `U` at those positions (`secRead`); the language theorem for inputs without
annotated Sec codons (`translateGraph_language_of_sect_nil`) follows.
-/
import MoPepGen.Lemmas.TranslateSearch
import MoPepGen.Lemmas.TranslateSec
import MoPepGen.Lemmas.GraphEmbed
namespace MoPepGen.Translate
open MoPepGen MoPepGen.Spec MoPepGen.Graph

variable {g : TGraphIn} {st : St}

theorem toGraph_get (g : TGraphIn) (o : Nat) :
    g.toGraph[o]? = g.nodes[o]?.map fun n =>
      { seq := n.seq, vars := n.vars.flatMap (·.ids), out := n.out.map (·.1), rf := n.rf } :=
  Array.getElem?_map ..

theorem toGraph_size (g : TGraphIn) : g.toGraph.size = g.nodes.size := Array.size_map ..

theorem isStopNode_toGraph (g : TGraphIn) (o : Nat) : isStopNode g.toGraph o = false := by
  unfold isStopNode
  rw [toGraph_get]
  cases g.nodes[o]? <;> rfl

theorem succs_toGraph (g : TGraphIn) (o : Nat) :
    succs g.toGraph o = ((g.nodes[o]?.map fun n => n.out.map (·.1)).getD []) := by
  unfold succs
  rw [toGraph_get]
  cases g.nodes[o]? with
  | none => rfl
  | some n => exact List.filter_eq_self.mpr fun a _ => by rw [isStopNode_toGraph]; rfl

theorem succs_toGraph_of {o : Nat} {dn : DNode} (ho : g.nodes[o]? = some dn) :
    succs g.toGraph o = dn.out.map (·.1) := by
  rw [succs_toGraph, ho]; rfl

theorem mem_succs_toGraph {o o' : Nat} :
    o' ∈ succs g.toGraph o ↔ ∃ dn, g.nodes[o]? = some dn ∧ ∃ e ∈ dn.out, e.1 = o' := by
  rw [succs_toGraph]
  cases g.nodes[o]? with
  | none => exact ⟨fun h => (nomatch h), fun ⟨_, h, _⟩ => (nomatch h)⟩
  | some dn =>
    exact ⟨fun h => ⟨dn, rfl, List.mem_map.mp h⟩, fun ⟨_, h, h'⟩ => Option.some.inj h ▸ List.mem_map.mpr h'⟩

theorem nodeSeq_toGraph (g : TGraphIn) (o : Nat) :
    nodeSeq g.toGraph o = ((g.nodes[o]?.map (·.seq)).getD []) := by
  unfold nodeSeq
  rw [toGraph_get]
  cases g.nodes[o]? <;> rfl

theorem nodesGraph_get (ns : Array PNode) (i : Nat) :
    (nodesGraph ns)[i]? = ns[i]?.map fun n =>
      { seq := n.seq, vars := n.vars.flatMap (·.ids), out := n.out, rf := n.rf,
        isStop := i == stopIx } :=
  Array.getElem?_mapIdx ..

theorem nodesGraph_size (ns : Array PNode) : (nodesGraph ns).size = ns.size := Array.size_mapIdx ..

theorem isStopNode_nodesGraph (ns : Array PNode) (h2 : 2 ≤ ns.size) (i : Nat) :
    isStopNode (nodesGraph ns) i = (i == stopIx) := by
  unfold isStopNode
  rw [nodesGraph_get]
  cases hi : ns[i]? with
  | some n => rfl
  | none =>
    have : ns.size ≤ i := Array.getElem?_eq_none_iff.mp hi
    exact (beq_eq_false_iff_ne.mpr fun h => by rw [h] at this; exact absurd this (Nat.not_le_of_lt h2)).symm

theorem succs_nodesGraph (ns : Array PNode) (h2 : 2 ≤ ns.size) (i : Nat) :
    succs (nodesGraph ns) i = (outOf ns i).filter (· != stopIx) := by
  unfold succs outOf
  rw [nodesGraph_get]
  cases ns[i]? with
  | none => rfl
  | some n => exact List.filter_congr fun a _ => by rw [isStopNode_nodesGraph ns h2]; rfl

theorem nodeSeq_nodesGraph (ns : Array PNode) (i : Nat) :
    nodeSeq (nodesGraph ns) i = ((ns[i]?.map (·.seq)).getD []) := by
  unfold nodeSeq
  rw [nodesGraph_get]
  cases ns[i]? <;> rfl

theorem Final.size2 (hF : Final g st) : 2 ≤ st.nodes.size := by
  rw [hF.size]; exact Nat.le_add_left 2 _

theorem Final.embeds (hF : Final g st) :
    Embeds g.toGraph (nodesGraph st.nodes) pix fun o => presentAt st.nodes (pix o) = true where
  inj := pix_inj
  ltG hp := by
    obtain ⟨dn, _, ho, _⟩ := hF.node _ hp
    rw [toGraph_size]; exact lt_size_of_getElem? ho
  ltH hp := by rw [nodesGraph_size]; exact presentAt_lt hp
  succs_iff hp q := by
    obtain ⟨dn, _, ho, _⟩ := hF.node _ hp
    rw [succs_nodesGraph _ hF.size2, List.mem_filter, hF.outs _ dn hp ho q, succs_toGraph_of ho]
    constructor
    · rintro ⟨⟨h1, _⟩ | ⟨e, he, rfl⟩, hne⟩
      · rw [h1] at hne; cases hne
      · exact ⟨e.1, List.mem_map_of_mem he, rfl⟩
    · rintro ⟨o', ho', rfl⟩
      obtain ⟨e, he, rfl⟩ := List.mem_map.mp ho'
      exact ⟨Or.inr ⟨e, he, rfl⟩, bne_iff_ne.mpr (pix_ne_stop _)⟩
  closed hp ho' := by
    obtain ⟨dn, ho, e, he, rfl⟩ := mem_succs_toGraph.mp ho'
    exact hF.reach _ dn hp ho e he

theorem Final.start_present (hF : Final g st) {d o : Nat}
    (hd : d ∈ g.frames) (ho : o ∈ succs g.toGraph d) : presentAt st.nodes (pix o) = true := by
  obtain ⟨dn, hn, e, he, rfl⟩ := mem_succs_toGraph.mp ho
  exact hF.rootReach d hd dn hn e he

theorem Final.root_succs (hF : Final g st) (q : Nat) :
    q ∈ succs (nodesGraph st.nodes) rootIx ↔ ∃ d ∈ g.frames, ∃ o ∈ succs g.toGraph d, q = pix o := by
  rw [succs_nodesGraph _ hF.size2, List.mem_filter, hF.rootOuts q]
  constructor
  · rintro ⟨⟨d, hd, dn, hn, ⟨h1, _⟩ | ⟨e, he, rfl⟩⟩, hne⟩
    · rw [h1] at hne; cases hne
    · exact ⟨d, hd, e.1, mem_succs_toGraph.mpr ⟨dn, hn, e, he, rfl⟩, rfl⟩
  · rintro ⟨d, hd, o, ho, rfl⟩
    obtain ⟨dn, hn, e, he, rfl⟩ := mem_succs_toGraph.mp ho
    exact ⟨⟨d, hd, dn, hn, Or.inr ⟨e, he, rfl⟩⟩, bne_iff_ne.mpr (pix_ne_stop _)⟩

theorem maxPath_last_leaf {G : Graph} {i : Nat} {p : List Nat} (hm : MaxPath G i p) :
    ∀ l, p.getLast? = some l → succs G l = [] ∧ l ∈ p := by
  induction hm with
  | @leaf i _ hs =>
    intro l hl
    cases Option.some.inj hl
    exact ⟨hs, List.mem_cons_self⟩
  | @step i o p _ _ hp ih =>
    intro l hl
    cases hp <;> exact (ih l (List.getLast?_cons_cons ▸ hl)).imp id (List.mem_cons_of_mem _)

/-- `add_stop`: the image of a node without out-edges has the stop node as its only successor -/
theorem Final.leaf_out (hF : Final g st) {o : Nat}
    (hp : presentAt st.nodes (pix o) = true) (hl : succs g.toGraph o = []) (q : Nat) :
    q ∈ outOf st.nodes (pix o) ↔ q = stopIx := by
  obtain ⟨dn, _, ho, _⟩ := hF.node o hp
  have hout : dn.out = [] := List.map_eq_nil_iff.mp (succs_toGraph_of ho ▸ hl)
  rw [hF.outs o dn hp ho q, hout]
  exact ⟨fun h => h.elim And.left fun ⟨_, he, _⟩ => (nomatch he), fun h => Or.inl ⟨h, rfl⟩⟩

/-- truncating to whole codons first (`self.seq[:len - len % 3]`) does not change the translation -/
theorem translate_take_whole : ∀ s : List Char,
    translate (s.take (s.length - s.length % 3)) = translate s
  | [] | [_] | [_, _] => rfl
  | a :: b :: c :: rest => by
    rw [show (a :: b :: c :: rest).length = rest.length + 3 from rfl, Nat.add_mod_right,
      Nat.sub_add_comm (Nat.mod_le _ _)]
    show translate (a :: b :: c :: rest.take _) = _
    rw [translate, translate, translate_take_whole rest]

theorem nodeAA_eq (n : DNode) : nodeAA n = translate n.seq := by
  unfold nodeAA
  split
  · exact translate_take_whole _
  · rfl

/-- the protein sequence read with `U` at the listed positions (`i` = position of the head) -/
def secRead (ks : List Nat) : Nat → List Char → List Char
  | _, [] => []
  | i, c :: cs => (if ks.contains i then 'U' else c) :: secRead ks (i + 1) cs

theorem secRead_length (ks : List Nat) : ∀ (i : Nat) (w : List Char), (secRead ks i w).length = w.length
  | _, [] => rfl
  | i, _ :: cs => congrArg (· + 1) (secRead_length ks (i + 1) cs)

theorem secRead_append (ks : List Nat) : ∀ (i : Nat) (a b : List Char),
    secRead ks i (a ++ b) = secRead ks i a ++ secRead ks (i + a.length) b
  | _, [], _ => rfl
  | i, c :: cs, b => by
    rw [List.cons_append, secRead, secRead, secRead_append ks (i + 1) cs b, List.length_cons,
      Nat.add_right_comm, Nat.add_assoc, List.cons_append]

theorem secRead_nil : ∀ (i : Nat) (w : List Char), secRead [] i w = w
  | _, [] => rfl
  | i, c :: cs => congrArg (c :: ·) (secRead_nil (i + 1) cs)

theorem secRead_ext (ks ks' : List Nat) : ∀ (w : List Char) (i i' : Nat),
    (∀ j, j < w.length → ks.contains (i + j) = ks'.contains (i' + j)) →
    secRead ks i w = secRead ks' i' w
  | [] => fun _ _ _ => rfl
  | c :: cs => fun i i' h => by
    have h0 : ks.contains i = ks'.contains i' := h 0 (Nat.zero_lt_succ _)
    rw [secRead, secRead, h0, secRead_ext ks ks' cs (i + 1) (i' + 1)]
    intro j hj
    rw [Nat.add_right_comm i, Nat.add_right_comm i']
    exact h (j + 1) (Nat.succ_lt_succ hj)

theorem secRead_none (ks : List Nat) (i : Nat) (w : List Char)
    (h : ∀ k ∈ ks, k < i ∨ i + w.length ≤ k) : secRead ks i w = w := by
  rw [secRead_ext ks [] w i i, secRead_nil]
  intro j hj
  cases hc : ks.contains (i + j)
  · rfl
  · rcases h _ (List.contains_iff_mem.mp hc) with h1 | h1
    · exact absurd h1 (Nat.not_lt.mpr (Nat.le_add_right i j))
    · exact absurd (Nat.add_lt_add_left hj i) (Nat.not_lt.mpr h1)

theorem secRead_cons_lt (k : Nat) (ks : List Nat) (i : Nat) (w : List Char) (hk : k < i) :
    secRead (k :: ks) i w = secRead ks i w := by
  apply secRead_ext
  intro j _
  have hne : (i + j == k) = false :=
    beq_eq_false_iff_ne.mpr (Nat.ne_of_gt (Nat.lt_of_lt_of_le hk (Nat.le_add_right i j)))
  rw [List.contains_cons, hne, Bool.false_or]

theorem secRead_two (A B : List Nat) (a b : List Char) (hA : ∀ k ∈ A, k < a.length) :
    secRead (A ++ B.map (· + a.length)) 0 (a ++ b) = secRead A 0 a ++ secRead B 0 b := by
  rw [secRead_append]
  congr 1
  · apply secRead_ext
    intro j hj
    rw [Bool.eq_iff_iff, List.contains_iff_mem, List.contains_iff_mem, List.mem_append, List.mem_map,
      Nat.zero_add]
    refine ⟨fun h => h.elim id fun ⟨x, _, hx⟩ => ?_, Or.inl⟩
    exact absurd (hx ▸ hj) (Nat.not_lt.mpr (Nat.le_add_left ..))
  · apply secRead_ext
    intro j _
    rw [Bool.eq_iff_iff, List.contains_iff_mem, List.contains_iff_mem, List.mem_append, List.mem_map,
      Nat.zero_add, Nat.zero_add]
    constructor
    · rintro (h | ⟨x, hx, hxe⟩)
      · exact absurd (hA _ h) (Nat.not_lt.mpr (Nat.le_add_right ..))
      · exact Nat.add_right_cancel (hxe.trans (Nat.add_comm ..)) ▸ hx
    · exact fun h => Or.inr ⟨j, h, Nat.add_comm ..⟩

def ascB : Nat → List Nat → Bool
  | _, [] => true
  | lo, k :: ks => decide (lo ≤ k) && ascB (k + 1) ks

theorem ascB_all_ge : ∀ {ks : List Nat} {lo : Nat}, ascB lo ks = true → ∀ k ∈ ks, lo ≤ k
  | [] => fun _ _ hk => nomatch hk
  | a :: as => fun h k hk => by
    simp only [ascB, Bool.and_eq_true, decide_eq_true_eq] at h
    rcases List.mem_cons.mp hk with rfl | hk
    · exact h.1
    · exact Nat.le_trans (Nat.le_succ_of_le h.1) (ascB_all_ge h.2 k hk)

theorem drop_eq_slice_cons (w : List Char) (a k : Nat) (hak : a ≤ k) (hk : k < w.length) :
    w.drop a = slice w a k ++ w[k] :: w.drop (k + 1) := by
  have : w.drop k = (w.drop a).drop (k - a) := by rw [List.drop_drop, Nat.add_sub_cancel' hak]
  rw [← List.drop_eq_getElem_cons hk, this]
  exact (List.take_append_drop _ _).symm

/-- the rebuilding loop of `fix_selenocysteines`; `prev.elim 0 (· + 1)` is where the part of the
sequence still to be rebuilt begins: behind the previous position, at 0 at the start -/
theorem rebuildSec_eq (w : List Char) : ∀ (ks : List Nat) (prev : Option Nat),
    ascB (prev.elim 0 (· + 1)) ks = true → (∀ k ∈ ks, k < w.length) →
    rebuildSec w prev ks = secRead ks (prev.elim 0 (· + 1)) (w.drop (prev.elim 0 (· + 1)))
  | [] => fun prev _ _ => by cases prev <;> exact (secRead_nil ..).symm
  | k :: ks => fun prev hasc hlt => by
    have hk : k < w.length := hlt k List.mem_cons_self
    have hhead : rebuildSec w prev (k :: ks) =
        slice w (prev.elim 0 (· + 1)) k ++ 'U' :: rebuildSec w (some k) ks := by cases prev <;> rfl
    generalize prev.elim 0 (· + 1) = lo at hasc hhead ⊢
    simp only [ascB, Bool.and_eq_true, decide_eq_true_eq] at hasc
    have hlen : (slice w lo k).length = k - lo := by
      rw [slice, List.length_take, List.length_drop]
      exact Nat.min_eq_left (Nat.sub_le_sub_right (Nat.le_of_lt hk) lo)
    have ih : rebuildSec w (some k) ks = secRead ks (k + 1) (w.drop (k + 1)) :=
      rebuildSec_eq w ks (some k) hasc.2 fun x hx => hlt x (List.mem_cons_of_mem _ hx)
    rw [hhead, ih, drop_eq_slice_cons w lo k hasc.1 hk, secRead_append, hlen, Nat.add_sub_cancel' hasc.1,
      secRead_none (k :: ks) lo (slice w lo k) fun x hx => Or.inr ?_]
    · show _ = _ ++ secRead (k :: ks) k (w[k] :: _)
      rw [secRead, List.contains_cons, BEq.rfl, Bool.true_or, if_pos rfl,
        secRead_cons_lt k ks (k + 1) _ (Nat.lt_succ_self k)]
    · rw [hlen, Nat.add_sub_cancel' hasc.1]
      rcases List.mem_cons.mp hx with rfl | hx
      · exact Nat.le_refl _
      · exact Nat.le_of_succ_le (ascB_all_ge hasc.2 x hx)

/-- the protein sequence of the `PVGNode` made from the TVG node `n` of a linear transcript:
the translation of its DNA, rebuilt around the selenocysteine positions; an empty sequence of
a node without successor reads `*` unless trailing nodes are clipped -/
def nodeProt (g : TGraphIn) (n : DNode) : List Char :=
  let aa := rebuildSec (translate n.seq) none (secHits g n)
  if aa.isEmpty && n.out.isEmpty && !g.clip then ['*'] else aa

theorem mkNode_seq {n : DNode} {pn : PNode} (hc : g.isCirc = false)
    (h : mkNode g n = .ok pn) :
    pn.seq = nodeProt g n ∧ pn.secs = secHits g n ∧
      ∀ k ∈ secHits g n, k < (translate n.seq).length := by
  obtain ⟨aa, secs, heq, rfl⟩ := mkNode_ok h
  rw [hc, if_neg Bool.false_ne_true, fixSelenocysteines, nodeAA_eq] at heq
  split at heq
  · cases heq
  · rename_i hany
    cases heq
    refine ⟨rfl, rfl, fun k hk => Nat.lt_of_not_le fun h' => hany ?_⟩
    exact List.any_eq_true.mpr ⟨k, hk, decide_eq_true h'⟩

def protOf (g : TGraphIn) (o : Nat) : List Char :=
  match g.nodes[o]? with
  | some n => nodeProt g n
  | none => []

theorem Final.nodeSeq_eq (hF : Final g st) (hc : g.isCirc = false) {o : Nat}
    (hp : presentAt st.nodes (pix o) = true) :
    nodeSeq (nodesGraph st.nodes) (pix o) = protOf g o := by
  obtain ⟨dn, pn, ho, hmk, hcore⟩ := hF.node o hp
  obtain ⟨n, hn, hnc⟩ := Option.map_eq_some_iff.mp hcore
  rw [nodeSeq_nodesGraph, protOf, ho, hn]
  exact (congrArg Prod.fst hnc).trans (mkNode_seq hc hmk).1

theorem Final.mapSeq_eq (hF : Final g st) (hc : g.isCirc = false) (p : List Nat)
    (h : ∀ o ∈ p, presentAt st.nodes (pix o) = true) :
    pathSeq (nodesGraph st.nodes) (p.map pix) = p.flatMap (protOf g) := by
  rw [pathSeq, List.flatMap_map]
  exact congrArg List.flatten (List.map_congr_left fun o ho => hF.nodeSeq_eq hc (h o ho))

theorem Final.pathSeq_eq (hF : Final g st) (hc : g.isCirc = false)
    {o : Nat} {p : List Nat} (hm : MaxPath g.toGraph o p)
    (hp : presentAt st.nodes (pix o) = true) :
    pathSeq (nodesGraph st.nodes) (p.map pix) = p.flatMap (protOf g) :=
  hF.mapSeq_eq hc p (hF.embeds.maxPath_map hm hp).2

/-- the DNA of node `o` -/
def dnaOf (g : TGraphIn) (o : Nat) : List Char := (g.nodes[o]?.map (·.seq)).getD []

/-- the selenocysteine positions of a path, in the coordinates of the path's protein -/
def pathHits (g : TGraphIn) : List Nat → List Nat
  | [] => []
  | o :: rest =>
    ((g.nodes[o]?.map (secHits g)).getD []) ++
      (pathHits g rest).map (· + (translate (dnaOf g o)).length)

/-- the positions collected for node `o` are strictly ascending and inside its translation (the
second part holds whenever `mkNode` succeeds, `mkNode_seq`) -/
def HitsOk (g : TGraphIn) (o : Nat) : Prop :=
  ∀ n, g.nodes[o]? = some n → ascB 0 (secHits g n) = true ∧ ∀ k ∈ secHits g n, k < (translate n.seq).length

/-- the `*` that stands for an EMPTY last node (`new_pnode.seq.seq = Seq('*')`) -/
def endStar (g : TGraphIn) (p : List Nat) : List Char :=
  match p.getLast? with
  | some o => if (translate (dnaOf g o)).isEmpty && !g.clip then ['*'] else []
  | none => []

theorem protOf_eq {o : Nat} {n : DNode} (ho : g.nodes[o]? = some n) (hok : HitsOk g o) :
    protOf g o = secRead (secHits g n) 0 (translate n.seq) ++
      if (translate n.seq).isEmpty && n.out.isEmpty && !g.clip then ['*'] else [] := by
  obtain ⟨h1, h2⟩ := hok n ho
  have hr : rebuildSec (translate n.seq) none (secHits g n) = secRead (secHits g n) 0 (translate n.seq) :=
    rebuildSec_eq _ _ none h1 h2
  have hlen := secRead_length (secHits g n) 0 (translate n.seq)
  rw [protOf, ho]
  simp only [nodeProt, hr]
  -- `secRead` keeps the length: the two sequences are empty together
  generalize secRead (secHits g n) 0 (translate n.seq) = r at hlen ⊢
  generalize translate n.seq = t at hlen
  cases r with
  | nil => rw [List.eq_nil_of_length_eq_zero hlen.symm]; split <;> rfl
  | cons _ _ =>
    cases t with
    | nil => cases hlen
    | cons _ _ => simp

theorem translatePath_toGraph (g : TGraphIn) (p : List Nat) :
    translatePath g.toGraph p = p.flatMap fun o => translate (dnaOf g o) := by
  simp only [translatePath, nodeSeq_toGraph, dnaOf]

theorem flatMap_protOf_eq {o : Nat} {p : List Nat} (hm : MaxPath g.toGraph o p) :
    (∀ o' ∈ p, HitsOk g o') →
    p.flatMap (protOf g) = secRead (pathHits g p) 0 (translatePath g.toGraph p) ++ endStar g p := by
  induction hm with
  | @leaf i hi hs =>
    intro hok
    obtain ⟨n, hn⟩ : ∃ n, g.nodes[i]? = some n := ⟨_, Array.getElem?_eq_getElem (toGraph_size g ▸ hi)⟩
    have hout : n.out = [] := List.map_eq_nil_iff.mp (succs_toGraph_of hn ▸ hs)
    have hdna : dnaOf g i = n.seq := by rw [dnaOf, hn]; rfl
    rw [List.flatMap_singleton, protOf_eq hn (hok i List.mem_cons_self), translatePath_toGraph,
      List.flatMap_singleton]
    simp only [pathHits, hn, hdna, endStar, List.getLast?_singleton, hout, List.map_nil,
      List.append_nil, Option.map_some, Option.getD_some, List.isEmpty_nil, Bool.and_true]
  | @step i o' p hi ho' hp ih =>
    intro hok
    obtain ⟨n, hn, e, he, _⟩ := mem_succs_toGraph.mp ho'
    have hout : n.out.isEmpty = false := List.isEmpty_eq_false_iff_exists_mem.mpr ⟨e, he⟩
    have hdna : dnaOf g i = n.seq := by rw [dnaOf, hn]; rfl
    have hstar : endStar g (i :: p) = endStar g p := by
      cases hp <;> simp only [endStar, List.getLast?_cons_cons]
    rw [List.flatMap_cons, ih fun x hx => hok x (List.mem_cons_of_mem _ hx), hstar,
      protOf_eq hn (hok i List.mem_cons_self), hout, Bool.and_false, Bool.false_and,
      if_neg Bool.false_ne_true, List.append_nil, translatePath_toGraph, translatePath_toGraph,
      List.flatMap_cons, pathHits, hn, hdna, ← List.append_assoc]
    exact congrArg (· ++ _) (secRead_two _ _ _ _ ((hok i List.mem_cons_self) n hn).2).symm

/-- no node holds the annotated CDS end on a codon that is not a stop codon (the case the
final loop of `translate` exists for): `terminal_nodes` stays empty -/
def noTerminal (g : TGraphIn) : Bool :=
  g.nodes.all fun n =>
    match mkNode g n with
    | .ok pn => (match terminalSite (orfEndOf g n) n pn with | .ok (some _) => false | _ => true)
    | .error _ => true

theorem translateCore_terminal (hnt : noTerminal g = true)
    (h : translateCore g = .ok st) : st.terminal = [] := by
  apply List.eq_nil_iff_forall_not_mem.mpr
  intro tk htk
  obtain ⟨o, dn, pn, _, _, hdn, hmk, hts⟩ := (translateCore_termInv h).sound tk htk
  have := Array.all_eq_true_iff_forall_mem.mp hnt dn (Array.mem_of_getElem? hdn)
  simp only [hmk, hts] at this
  cases this

theorem translateGraph_ok {pg : PGraph} (h : translateGraph g = .ok pg) :
    ∃ st, translateCore g = .ok st ∧ pg.nodes = splitTerminals g st := by
  unfold translateGraph at h
  split at h
  · cases h
  · rename_i st hst
    split at h
    · cases h
    · cases h
      exact ⟨st, hst, rfl⟩

theorem translateGraph_nodes {pg : PGraph} (h : translateGraph g = .ok pg)
    (hnt : noTerminal g = true ∨ g.hasKnownOrf = false) :
    ∃ st, translateCore g = .ok st ∧ pg.nodes = st.nodes := by
  obtain ⟨st, hst, hn⟩ := translateGraph_ok h
  refine ⟨st, hst, hn.trans ?_⟩
  unfold splitTerminals
  rcases hnt with hnt | hnt
  · rw [translateCore_terminal hnt hst]; exact ite_self _
  · rw [hnt]; rfl

theorem translateGraph_final {pg : PGraph} (h : translateGraph g = .ok pg)
    (hnt : noTerminal g = true ∨ g.hasKnownOrf = false) :
    ∃ st, Final g st ∧ pg.toGraph = nodesGraph st.nodes := by
  obtain ⟨st, hst, hn⟩ := translateGraph_nodes h hnt
  exact ⟨st, translateCore_final hst, congrArg nodesGraph hn⟩

/-- every node that has a successor is a whole number of codons (what `fit_into_codons`
establishes; checkpoint CP2 evaluates `codonAligned` on every path) -/
def innerCodons (g : TGraphIn) : Bool :=
  g.nodes.all fun n => n.out.isEmpty || n.seq.length % 3 == 0

theorem codonAligned_of_innerCodons (hc : innerCodons g = true) {o : Nat} {p : List Nat}
    (hm : MaxPath g.toGraph o p) : codonAligned g.toGraph p = true := by
  induction hm with
  | leaf _ _ => rfl
  | @step i o' p hi ho' hp ih =>
    obtain ⟨n, hn, e, he, _⟩ := mem_succs_toGraph.mp ho'
    have hi3 := Array.all_eq_true_iff_forall_mem.mp hc n (Array.mem_of_getElem? hn)
    rw [List.isEmpty_eq_false_iff_exists_mem.mpr ⟨e, he⟩, Bool.false_or, beq_iff_eq] at hi3
    replace hi3 : (nodeSeq g.toGraph i).length % 3 = 0 := by rw [nodeSeq_toGraph, hn]; exact hi3
    cases hp <;>
      simpa only [codonAligned, List.dropLast_cons_cons, List.all_cons, Bool.and_eq_true, beq_iff_eq,
        hi3, true_and] using ih

/-- the positions `fix_selenocysteines` collects are strictly ascending in every node (decidable;
not derived from an ordering of the locations and the Sec records) -/
def secAscending (g : TGraphIn) : Bool := g.nodes.all fun n => ascB 0 (secHits g n)

theorem Final.hitsOk (hF : Final g st) (hc : g.isCirc = false)
    (hasc : secAscending g = true) {o : Nat} (hp : presentAt st.nodes (pix o) = true) : HitsOk g o := by
  intro n hn
  obtain ⟨dn, pn, ho, hmk, _⟩ := hF.node o hp
  cases hn.symm.trans ho
  exact ⟨Array.all_eq_true_iff_forall_mem.mp hasc n (Array.mem_of_getElem? hn), (mkNode_seq hc hmk).2.2⟩

theorem Final.pathSeq_sec (hF : Final g st) (hc : g.isCirc = false)
    (hasc : secAscending g = true) {o : Nat} {p : List Nat} (hm : MaxPath g.toGraph o p)
    (hp : presentAt st.nodes (pix o) = true) (hal : codonAligned g.toGraph p = true) :
    pathSeq (nodesGraph st.nodes) (p.map pix) =
      secRead (pathHits g p) 0 (translate (pathSeq g.toGraph p)) ++ endStar g p := by
  rw [hF.pathSeq_eq hc hm hp, ← translatePath_eq _ _ hal]
  exact flatMap_protOf_eq hm fun o' ho' => hF.hitsOk hc hasc ((hF.embeds.maxPath_map hm hp).2 o' ho')

theorem stripEnd_append_star (w : List Char) : stripEnd (w ++ ['*']) = stripEnd w := by
  simp [stripEnd]

theorem stripEnd_append_endStar (g : TGraphIn) (p : List Nat) (w : List Char) :
    stripEnd (w ++ endStar g p) = stripEnd w := by
  unfold endStar
  split
  · split
    · exact stripEnd_append_star w
    · rw [List.append_nil]
  · rw [List.append_nil]

theorem secHits_of_sect_nil (hs : g.sect = []) (n : DNode) : secHits g n = [] := by
  rw [secHits, hs, secLoop_nil_right]

theorem pathHits_of_sect_nil (hs : g.sect = []) : ∀ p : List Nat, pathHits g p = []
  | [] => rfl
  | a :: as => by
    rw [pathHits, pathHits_of_sect_nil hs as]
    cases g.nodes[a]? <;> simp [secHits_of_sect_nil hs]

theorem fullTranslation_nil_sec (s : List Char) (f : Nat) :
    fullTranslation s [] f = translate (s.drop f) := by
  simp only [fullTranslation, List.contains_nil, Bool.and_false, Bool.false_eq_true, if_false]
  exact List.map_snd_zip (by simp)

/-- CP3's language, trailing stop symbols removed, is the stripped translation of CP2's -/
theorem protLang_strip_of_sec_nil {t : TxIn} (hts : t.sec = []) (vs : List Var) (f : Nat) :
    (protLang t vs f).map stripEnd =
      ((tvgLang t vs f).map (·.1)).map fun s => stripEnd (translate s) := by
  simp only [protLang, tvgLang, List.map_map]
  apply List.map_congr_left
  intro h _
  show stripEnd (fullTranslation _ (secAfter t.sec h) f) = _
  rw [hts]
  exact congrArg stripEnd (fullTranslation_nil_sec _ f)

/-- without annotated Sec codons, for an input graph whose nodes with a successor are whole codons:
the protein language of the returned graph from the image of a frame's start node is the
translation of the DNA language from that node, trailing stop symbols removed on both sides -/
theorem translateGraph_language_of_sect_nil {pg : PGraph} (h : translateGraph g = .ok pg)
    (hc : g.isCirc = false) (hnt : noTerminal g = true ∨ g.hasKnownOrf = false)
    (hic : innerCodons g = true) (hs : g.sect = []) {d o : Nat} (hd : d ∈ g.frames)
    (ho : o ∈ succs g.toGraph d) (w : List Char) :
    (∃ q, MaxPath pg.toGraph (pix o) q ∧ stripEnd (pathSeq pg.toGraph q) = w) ↔
      ∃ p, MaxPath g.toGraph o p ∧ w = stripEnd (translate (pathSeq g.toGraph p)) := by
  obtain ⟨st, hF, hG⟩ := translateGraph_final h hnt
  have hasc : secAscending g = true :=
    Array.all_eq_true_iff_forall_mem.mpr fun n _ => by rw [secHits_of_sect_nil hs]; rfl
  have hp := hF.start_present hd ho
  rw [hG]
  refine hF.embeds.exists_maxPath_iff hp (fun p hm => ?_) w
  rw [hF.pathSeq_sec hc hasc hm hp (codonAligned_of_innerCodons hic hm), pathHits_of_sect_nil hs,
    secRead_nil, stripEnd_append_endStar]

end MoPepGen.Translate
