import MoPepGen.Model.Coord
/-!
Lemmas about the coordinate loops (over arbitrary exon lists).

Both strands are handled at once: `Strand.toGenomic` / `Strand.txIndex` are the loops of the two
directions, run over the exons in reading order (`Transcript.walk`); `Strand.pos` / `Strand.off`
translate between a genomic position inside an exon and the number of bases read before it.
The step equations of the loops carry all the strand-specific arithmetic.  The central facts:
`txToGenomic t k = .ok p` iff the reading order splits as `pre ++ e :: post` with `p` in `e` and
`k = exonsLen pre + off e p` (`txToGenomic_eq_ok_iff`), and for a well-formed transcript
`txIndex t p = .ok k` iff `txToGenomic t k = .ok p` (`txIndex_eq_ok_iff`).
-/
namespace MoPepGen

def AscWF (es : List Iv) : Prop := NonEmptyIvs es ∧ Separated es
/-- what `reversed(exon)` iterates when `exon` is `AscWF` (`AscWF.reverse`) -/
def DescWF (es : List Iv) : Prop := NonEmptyIvs es ∧ es.Pairwise (fun a b => b.stop < a.start)

theorem AscWF.tail {e : Iv} {es : List Iv} (h : AscWF (e :: es)) : AscWF es :=
  ⟨fun x hx => h.1 x (List.mem_cons_of_mem _ hx), (List.pairwise_cons.mp h.2).2⟩
theorem DescWF.tail {e : Iv} {es : List Iv} (h : DescWF (e :: es)) : DescWF es :=
  ⟨fun x hx => h.1 x (List.mem_cons_of_mem _ hx), (List.pairwise_cons.mp h.2).2⟩
theorem AscWF.head {e : Iv} {es : List Iv} (h : AscWF (e :: es)) : e.start < e.stop :=
  h.1 e List.mem_cons_self
theorem DescWF.head {e : Iv} {es : List Iv} (h : DescWF (e :: es)) : e.start < e.stop :=
  h.1 e List.mem_cons_self
theorem AscWF.rel {e : Iv} {es : List Iv} (h : AscWF (e :: es)) :
    ∀ x ∈ es, e.stop < x.start := (List.pairwise_cons.mp h.2).1
theorem DescWF.rel {e : Iv} {es : List Iv} (h : DescWF (e :: es)) :
    ∀ x ∈ es, x.stop < e.start := (List.pairwise_cons.mp h.2).1

theorem AscWF.reverse {es : List Iv} (h : AscWF es) : DescWF es.reverse := by
  refine ⟨fun x hx => h.1 x (List.mem_reverse.mp hx), ?_⟩
  rw [List.pairwise_reverse]; exact h.2

theorem Iv.contains_iff {e : Iv} {p : Nat} : e.contains p = true ↔ e.start ≤ p ∧ p < e.stop := by
  simp [Iv.contains]

theorem Iv.contains_false_iff {e : Iv} {p : Nat} :
    e.contains p = false ↔ ¬ (e.start ≤ p ∧ p < e.stop) := by
  rw [← Iv.contains_iff]; simp

theorem isExonic_iff {t : Transcript} {p : Nat} :
    isExonic t p = true ↔ ∃ e ∈ t.exons, e.start ≤ p ∧ p < e.stop := by
  simp [isExonic, List.any_eq_true, Iv.contains_iff]

@[simp] theorem exonsLen_cons (e : Iv) (es : List Iv) : exonsLen (e :: es) = e.len + exonsLen es :=
  rfl

theorem exonsLen_append (a b : List Iv) : exonsLen (a ++ b) = exonsLen a + exonsLen b := by
  induction a with
  | nil => exact (Nat.zero_add _).symm
  | cons e es ih => rw [List.cons_append, exonsLen_cons, exonsLen_cons, ih, Nat.add_assoc]

theorem exonsLen_reverse (a : List Iv) : exonsLen a.reverse = exonsLen a := by
  induction a with
  | nil => rfl
  | cons e es ih =>
    rw [List.reverse_cons, exonsLen_append, ih, exonsLen_cons, exonsLen_cons, Nat.add_comm]; rfl

namespace Strand

/-- genomic position of the `j`-th base of exon `e` in reading direction -/
def pos : Strand → Iv → Nat → Nat
  | .plus, e, j => j + e.start
  | .minus, e, j => e.stop - 1 - j

/-- number of bases of exon `e` read before the genomic position `p` -/
def off : Strand → Iv → Nat → Nat
  | .plus, e, p => p - e.start
  | .minus, e, p => e.stop - 1 - p

/-- the test under which the loop of `get_transcript_index` goes on to the next exon: all of `e`
is read before `p`.  On the plus strand the Python tests `end < p`, so `p = e.stop` does not count
(that position is answered with the intron error, see `txIndex_cons_gap`). -/
def Beyond : Strand → Iv → Nat → Prop
  | .plus, e, p => e.stop < p
  | .minus, e, p => p < e.start

/-- the loop of `coordinate_transcript_to_genomic` over the exons in reading order -/
def toGenomic : Strand → Nat → List Iv → Except CoordErr Nat
  | .plus => toGenomicPlus
  | .minus => toGenomicMinus

/-- the loop of `get_transcript_index` over the exons in reading order -/
def txIndex : Strand → Nat → List Iv → Nat → Except CoordErr Nat
  | .plus => txIndexPlus
  | .minus => txIndexMinus

/-- well-formedness of an exon list in reading order -/
def WalkWF : Strand → List Iv → Prop
  | .plus => AscWF
  | .minus => DescWF

variable {s : Strand} {e : Iv} {es pre post : List Iv} {i j k p acc a b : Nat}

theorem pos_mem (s : Strand) (h : j < e.len) :
    e.start ≤ s.pos e j ∧ s.pos e j < e.stop ∧ s.off e (s.pos e j) = j := by
  have hj : e.start + j < e.stop := Nat.add_lt_of_lt_sub' h
  cases s
  · exact ⟨Nat.le_add_left .., (Nat.add_comm e.start j ▸ hj : j + e.start < e.stop),
      Nat.add_sub_cancel ..⟩
  ·
    have h1 : j ≤ e.stop - 1 := Nat.le_sub_one_of_lt (Nat.lt_of_le_of_lt (Nat.le_add_left ..) hj)
    exact ⟨Nat.le_sub_of_add_le (Nat.le_sub_one_of_lt hj),
      Nat.lt_of_le_of_lt (Nat.sub_le ..) (Nat.sub_one_lt (Nat.ne_zero_of_lt hj)),
      Nat.sub_sub_self h1⟩

theorem off_mem (s : Strand) (h1 : e.start ≤ p) (h2 : p < e.stop) :
    s.off e p < e.len ∧ s.pos e (s.off e p) = p := by
  cases s
  · exact ⟨Nat.sub_lt_sub_right h1 h2, Nat.sub_add_cancel h1⟩
  · have hp : p ≤ e.stop - 1 := Nat.le_sub_one_of_lt h2
    refine ⟨?_, Nat.sub_sub_self hp⟩
    show e.stop - 1 - p < e.stop - e.start
    exact Nat.lt_sub_of_add_lt (Nat.lt_of_le_of_lt
      (Nat.add_le_of_le_sub (Nat.le_trans h1 hp) (Nat.sub_le_sub_left h1 _))
      (Nat.sub_one_lt (Nat.ne_zero_of_lt h2)))

/-- the `j`-th base from the end of an interval, counted from its start (where a reversed list
has it) -/
theorem start_add_len_sub (h : j < e.len) :
    e.start + (e.stop - e.start - 1 - j) = e.stop - 1 - j := by
  rw [Nat.sub_right_comm e.stop, Nat.sub_right_comm (e.stop - 1)]
  exact Nat.add_sub_cancel' (pos_mem .minus h).1

/-- within one exon, the offsets of the two end bases of a stretch `[a, b)` differ by its length
less one: the 3'-most comes last -/
theorem off_stretch (s : Strand) (h1 : e.start ≤ a) (h2 : a < b) (h3 : b ≤ e.stop) :
    (match s with | .plus => s.off e (b - 1) | .minus => s.off e a) + 1 =
      (match s with | .plus => s.off e a | .minus => s.off e (b - 1)) + (b - a) := by
  have hb : 1 ≤ b := Nat.succ_le_of_lt (Nat.zero_lt_of_lt h2)
  cases s
  · show b - 1 - e.start + 1 = a - e.start + (b - a)
    rw [Nat.sub_right_comm, Nat.sub_add_cancel (Nat.sub_pos_of_lt (Nat.lt_of_le_of_lt h1 h2)),
      Nat.add_comm, Nat.sub_add_sub_cancel (Nat.le_of_lt h2) h1]
  · show e.stop - 1 - a + 1 = e.stop - 1 - (b - 1) + (b - a)
    rw [Nat.sub_right_comm, Nat.sub_add_cancel (Nat.sub_pos_of_lt (Nat.lt_of_lt_of_le h2 h3)),
      Nat.sub_sub_sub_cancel_right hb, Nat.sub_add_sub_cancel h3 (Nat.le_of_lt h2)]

theorem toGenomic_cons_lt (s : Strand) (h : i < e.len) (es : List Iv) :
    s.toGenomic i (e :: es) = .ok (s.pos e i) := by
  cases s <;> exact if_pos h

theorem toGenomic_cons_ge (s : Strand) (h : e.len ≤ i) (es : List Iv) :
    s.toGenomic i (e :: es) = s.toGenomic (i - e.len) es := by
  cases s <;> exact if_neg (Nat.not_lt.mpr h)

theorem txIndex_cons_beyond (h : s.Beyond e p) (es : List Iv) (acc : Nat) :
    s.txIndex p (e :: es) acc = s.txIndex p es (acc + e.len) := by
  cases s
  · exact if_pos h
  · show txIndexMinus p (e :: es) acc = _
    rw [txIndexMinus, if_pos (Nat.le_of_lt h), if_neg (Nat.ne_of_gt h)]; rfl

/-- the minus loop counts from `index = -1`, i.e. with one subtracted at the end -/
theorem add_sub_pred {a n x : Nat} (h : x < n) : a + (n - x) - 1 = a + (n - 1 - x) := by
  rw [Nat.sub_right_comm, Nat.add_sub_assoc (Nat.sub_pos_of_lt h)]
theorem txIndex_cons_in (s : Strand) (h1 : e.start ≤ p) (h2 : p < e.stop) (es : List Iv)
    (acc : Nat) : s.txIndex p (e :: es) acc = .ok (acc + s.off e p) := by
  cases s
  · show txIndexPlus p (e :: es) acc = _
    rw [txIndexPlus, if_neg (Nat.not_lt.mpr (Nat.le_of_lt h2)), if_neg (Nat.ne_of_gt h2),
      if_pos h1]
    rfl
  · show txIndexMinus p (e :: es) acc = .ok (acc + (e.stop - 1 - p))
    rw [txIndexMinus]
    by_cases h : e.start = p
    · rw [if_pos (Nat.le_of_eq h.symm), if_pos h, h, add_sub_pred h2]
    · rw [if_neg (by omega), if_pos h2, add_sub_pred h2]

/-- the loop stops at the first exon that is not wholly before `p`; outside an exon that is an
intron (the minus loop tests `e.start = p` first, so the exon must not be empty) -/
theorem txIndex_cons_gap (hne : e.start < e.stop) (hb : ¬ s.Beyond e p)
    (hn : ¬ (e.start ≤ p ∧ p < e.stop)) (es : List Iv) (acc : Nat) :
    s.txIndex p (e :: es) acc = .error .intron := by
  cases s
  · have hb : ¬ e.stop < p := hb
    show txIndexPlus p (e :: es) acc = _
    rw [txIndexPlus, if_neg hb]
    by_cases h : e.stop = p
    · rw [if_pos h]
    · rw [if_neg h, if_neg (by omega)]
  · have hb : ¬ p < e.start := hb
    show txIndexMinus p (e :: es) acc = _
    rw [txIndexMinus, if_neg (by omega), if_neg (by omega)]

theorem toGenomic_oor (s : Strand) (h : exonsLen es ≤ i) :
    s.toGenomic i es = .error .outOfRange := by
  induction es generalizing i with
  | nil => cases s <;> rfl
  | cons e es ih =>
    rw [exonsLen_cons] at h
    rw [toGenomic_cons_ge s (by omega)]
    exact ih (by omega)

theorem toGenomic_ok (s : Strand) (h : i < exonsLen es) : ∃ p, s.toGenomic i es = .ok p := by
  induction es generalizing i with
  | nil => cases h
  | cons e es ih =>
    rw [exonsLen_cons] at h
    by_cases hi : i < e.len
    · exact ⟨_, toGenomic_cons_lt s hi es⟩
    · rw [toGenomic_cons_ge s (by omega)]
      exact ih (by omega)

theorem toGenomic_split (s : Strand) (pre : List Iv) (h : j < e.len) (post : List Iv) :
    s.toGenomic (exonsLen pre + j) (pre ++ e :: post) = .ok (s.pos e j) := by
  induction pre with
  | nil => rw [show exonsLen [] + j = j from Nat.zero_add j]; exact toGenomic_cons_lt s h post
  | cons x pre ih =>
    rw [List.cons_append, toGenomic_cons_ge s (by rw [exonsLen_cons]; omega), exonsLen_cons,
      Nat.add_assoc, Nat.add_sub_cancel_left]
    exact ih

theorem toGenomic_eq_ok_iff (s : Strand) :
    s.toGenomic k es = .ok p ↔
      ∃ pre e post, es = pre ++ e :: post ∧ e.start ≤ p ∧ p < e.stop ∧
        k = exonsLen pre + s.off e p := by
  constructor
  · intro h
    induction es generalizing k with
    | nil => cases s <;> cases h
    | cons x es ih =>
      by_cases hk : k < x.len
      · rw [toGenomic_cons_lt s hk] at h
        cases h
        obtain ⟨h1, h2, h3⟩ := pos_mem s hk
        exact ⟨[], x, es, rfl, h1, h2, by rw [h3]; exact (Nat.zero_add k).symm⟩
      · rw [toGenomic_cons_ge s (by omega)] at h
        obtain ⟨pre, e, post, rfl, h1, h2, h3⟩ := ih h
        exact ⟨x :: pre, e, post, rfl, h1, h2, by rw [exonsLen_cons]; omega⟩
  · rintro ⟨pre, e, post, rfl, h1, h2, rfl⟩
    obtain ⟨h3, h4⟩ := off_mem s h1 h2
    rw [toGenomic_split s pre h3, h4]

theorem txIndex_skip (hb : ∀ x ∈ pre, s.Beyond x p) (l : List Iv) (acc : Nat) :
    s.txIndex p (pre ++ l) acc = s.txIndex p l (acc + exonsLen pre) := by
  induction pre generalizing acc with
  | nil => rfl
  | cons x pre ih =>
    rw [List.cons_append, txIndex_cons_beyond (hb x List.mem_cons_self),
      ih (fun y hy => hb y (List.mem_cons_of_mem _ hy)), exonsLen_cons, Nat.add_assoc]

theorem WalkWF.beyond (hw : s.WalkWF (pre ++ e :: post)) (h1 : e.start ≤ p) (h2 : p < e.stop) :
    ∀ x ∈ pre, s.Beyond x p := by
  intro x hx
  cases s
  · have := (List.pairwise_append.mp hw.2).2.2 x hx e List.mem_cons_self
    exact Nat.lt_of_lt_of_le this h1
  · have := (List.pairwise_append.mp hw.2).2.2 x hx e List.mem_cons_self
    exact Nat.lt_trans h2 this

theorem txIndex_split (hw : s.WalkWF (pre ++ e :: post)) (h1 : e.start ≤ p) (h2 : p < e.stop)
    (acc : Nat) :
    s.txIndex p (pre ++ e :: post) acc = .ok (acc + exonsLen pre + s.off e p) := by
  rw [txIndex_skip (hw.beyond h1 h2), txIndex_cons_in s h1 h2]

theorem txIndex_gap (hne : NonEmptyIvs es) (hr : ∃ e ∈ es, ¬ s.Beyond e p)
    (hn : ∀ e ∈ es, ¬ (e.start ≤ p ∧ p < e.stop)) (acc : Nat) :
    s.txIndex p es acc = .error .intron := by
  induction es generalizing acc with
  | nil => obtain ⟨e, he, _⟩ := hr; cases he
  | cons e es ih =>
    by_cases hb : s.Beyond e p
    · rw [txIndex_cons_beyond hb]
      apply ih (fun x hx => hne x (List.mem_cons_of_mem _ hx))
      · obtain ⟨x, hx, hp⟩ := hr
        rcases List.mem_cons.mp hx with rfl | hx'
        · exact absurd hb hp
        · exact ⟨x, hx', hp⟩
      · exact fun x hx => hn x (List.mem_cons_of_mem _ hx)
    · exact txIndex_cons_gap (hne e List.mem_cons_self) hb (hn e List.mem_cons_self) es acc

end Strand

/-- the exons in reading (5'→3') order -/
def Transcript.walk (t : Transcript) : List Iv :=
  match t.strand with
  | .plus => t.exons
  | .minus => t.exons.reverse

theorem Transcript.mem_walk {t : Transcript} {e : Iv} : e ∈ t.walk ↔ e ∈ t.exons := by
  unfold Transcript.walk
  cases t.strand
  · exact Iff.rfl
  · exact List.mem_reverse

theorem Transcript.len_eq_walk (t : Transcript) : t.len = exonsLen t.walk := by
  unfold Transcript.walk Transcript.len
  cases t.strand
  · rfl
  · exact (exonsLen_reverse _).symm

theorem Transcript.WF.walk {t : Transcript} (hw : t.WF) : t.strand.WalkWF t.walk := by
  have hasc : AscWF t.exons := hw.2
  unfold Transcript.walk
  cases t.strand
  · exact hasc
  · exact hasc.reverse

theorem txToGenomic_eq (t : Transcript) (i : Nat) :
    txToGenomic t i =
      if t.len < i then .error .outOfRange else t.strand.toGenomic i t.walk := by
  unfold txToGenomic Transcript.walk
  cases t.strand <;> rfl

theorem txToGenomic_eq_ok_iff {t : Transcript} {k p : Nat} :
    txToGenomic t k = .ok p ↔
      ∃ pre e post, t.walk = pre ++ e :: post ∧ e.start ≤ p ∧ p < e.stop ∧
        k = exonsLen pre + t.strand.off e p := by
  rw [txToGenomic_eq, ← Strand.toGenomic_eq_ok_iff]
  by_cases h : t.len < k
  · rw [if_pos h, Strand.toGenomic_oor _ (by rw [← t.len_eq_walk]; omega)]
  · rw [if_neg h]

theorem txToGenomic_oor {t : Transcript} {i : Nat} (h : t.len ≤ i) :
    txToGenomic t i = .error .outOfRange := by
  rw [txToGenomic_eq, Strand.toGenomic_oor _ (by rw [← t.len_eq_walk]; exact h)]
  exact ite_self _

theorem lt_len_of_txToGenomic {t : Transcript} {k p : Nat} (h : txToGenomic t k = .ok p) :
    k < t.len :=
  Nat.lt_of_not_le fun hk => by rw [txToGenomic_oor hk] at h; cases h

theorem isExonic_of_txToGenomic {t : Transcript} {k p : Nat} (h : txToGenomic t k = .ok p) :
    isExonic t p = true := by
  obtain ⟨pre, e, post, hw, h1, h2, _⟩ := txToGenomic_eq_ok_iff.mp h
  exact isExonic_iff.mpr ⟨e, Transcript.mem_walk.mp (by rw [hw]; simp), h1, h2⟩

theorem exists_txToGenomic_of_lt {t : Transcript} {k : Nat} (h : k < t.len) :
    ∃ p, txToGenomic t k = .ok p := by
  rw [txToGenomic_eq, if_neg (by omega)]
  exact Strand.toGenomic_ok _ (by rw [← t.len_eq_walk]; exact h)

theorem exists_txToGenomic_of_exonic {t : Transcript} {p : Nat} (h : isExonic t p = true) :
    ∃ k, txToGenomic t k = .ok p := by
  obtain ⟨e, he, h1, h2⟩ := isExonic_iff.mp h
  obtain ⟨pre, post, hw⟩ := List.append_of_mem (Transcript.mem_walk.mpr he)
  exact ⟨_, txToGenomic_eq_ok_iff.mpr ⟨pre, e, post, hw, h1, h2, rfl⟩⟩

theorem Transcript.WF.span {t : Transcript} (hw : t.WF) :
    ∃ first last, t.exons.head? = some first ∧ t.exons.getLast? = some last ∧
      first ∈ t.exons ∧ last ∈ t.exons ∧
      (∀ x ∈ t.exons, first.start ≤ x.start) ∧ (∀ x ∈ t.exons, x.stop ≤ last.stop) := by
  obtain ⟨hne, hn, hs⟩ := hw
  obtain ⟨f, rest, hf⟩ := List.exists_cons_of_ne_nil hne
  obtain ⟨init, l, hl⟩ := (List.eq_nil_or_concat t.exons).resolve_left hne
  rw [List.concat_eq_append] at hl
  have hf' : t.exons.head? = some f := by rw [hf]; rfl
  have hl' : t.exons.getLast? = some l := by rw [hl]; exact List.getLast?_concat ..
  refine ⟨f, l, hf', hl', List.mem_of_head? hf', List.mem_of_getLast? hl', fun x hx => ?_,
    fun x hx => ?_⟩
  · rw [hf] at hx hs
    rcases List.mem_cons.mp hx with rfl | hx
    · exact Nat.le_refl _
    · exact Nat.le_of_lt (Nat.lt_trans (hn f (List.mem_of_head? hf'))
        ((List.pairwise_cons.mp hs).1 x hx))
  · rw [hl] at hx hs
    rcases List.mem_append.mp hx with hx | hx
    · exact Nat.le_of_lt (Nat.lt_trans
        ((List.pairwise_append.mp hs).2.2 x hx l (List.mem_singleton_self l))
        (hn l (List.mem_of_getLast? hl')))
    · rw [List.mem_singleton.mp hx]; exact Nat.le_refl _

theorem Transcript.WF.span_eq {t : Transcript} (hw : t.WF) :
    ∃ first ∈ t.exons, ∃ last ∈ t.exons, t.spanStart = first.start ∧ t.spanStop = last.stop ∧
      ∀ x ∈ t.exons, t.spanStart ≤ x.start ∧ x.stop ≤ t.spanStop := by
  obtain ⟨first, last, hf, hl, hfm, hlm, hlo, hhi⟩ := hw.span
  have hs : t.spanStart = first.start := by rw [Transcript.spanStart, hf]
  have he : t.spanStop = last.stop := by rw [Transcript.spanStop, hl]
  exact ⟨first, hfm, last, hlm, hs, he, fun x hx => ⟨hs ▸ hlo x hx, he ▸ hhi x hx⟩⟩

theorem txIndex_eq {t : Transcript} (hw : t.WF) (p : Nat) :
    txIndex t p =
      if p < t.spanStart ∨ t.spanStop ≤ p then .error .outOfRange
      else t.strand.txIndex p t.walk 0 := by
  obtain ⟨first, last, hf, hl, _⟩ := hw.span
  unfold txIndex Transcript.spanStart Transcript.spanStop Transcript.walk
  rw [hf, hl]
  cases t.strand <;> rfl

theorem txIndex_of_txToGenomic {t : Transcript} (hw : t.WF) {k p : Nat}
    (h : txToGenomic t k = .ok p) : txIndex t p = .ok k := by
  obtain ⟨pre, e, post, hwk, h1, h2, rfl⟩ := txToGenomic_eq_ok_iff.mp h
  obtain ⟨_, _, _, _, _, _, hb⟩ := hw.span_eq
  have := hb e (Transcript.mem_walk.mp (by rw [hwk]; simp))
  rw [txIndex_eq hw, if_neg (by omega), hwk, Strand.txIndex_split (hwk ▸ hw.walk) h1 h2,
    Nat.zero_add]

theorem txIndex_gap {t : Transcript} (hw : t.WF) {p : Nat}
    (hspan : t.spanStart ≤ p ∧ p < t.spanStop) (hx : isExonic t p = false) :
    txIndex t p = .error .intron := by
  obtain ⟨first, hfm, last, hlm, hs, he, _⟩ := hw.span_eq
  rw [txIndex_eq hw, if_neg (by omega)]
  refine Strand.txIndex_gap (fun x hx => hw.2.1 x (Transcript.mem_walk.mp hx)) ?_ ?_ 0
  · cases t.strand
    · exact ⟨last, Transcript.mem_walk.mpr hlm, Nat.not_lt.mpr (by omega)⟩
    · exact ⟨first, Transcript.mem_walk.mpr hfm, Nat.not_lt.mpr (by omega)⟩
  · intro e he hb
    rw [isExonic_iff.mpr ⟨e, Transcript.mem_walk.mp he, hb⟩] at hx
    cases hx

theorem txIndex_eq_ok_iff {t : Transcript} (hw : t.WF) {k p : Nat} :
    txIndex t p = .ok k ↔ txToGenomic t k = .ok p := by
  refine ⟨fun h => ?_, txIndex_of_txToGenomic hw⟩
  by_cases hx : isExonic t p = true
  · obtain ⟨k', hk'⟩ := exists_txToGenomic_of_exonic hx
    rw [txIndex_of_txToGenomic hw hk'] at h
    cases h; exact hk'
  · by_cases hspan : t.spanStart ≤ p ∧ p < t.spanStop
    · rw [txIndex_gap hw hspan (by simpa using hx)] at h; cases h
    · rw [txIndex_eq hw, if_pos (by omega)] at h; cases h

theorem cdsStartPlus_split {pre post : List Iv} {e : Iv} {c : Nat}
    (hw : AscWF (pre ++ e :: post)) (h1 : e.start ≤ c) (h2 : c < e.stop) (acc : Nat) :
    cdsStartPlus c (pre ++ e :: post) acc = acc + exonsLen pre + (c - e.start) := by
  induction pre generalizing acc with
  | nil =>
    show cdsStartPlus c (e :: post) acc = _
    rw [cdsStartPlus, Iv.contains_iff.mpr ⟨h1, h2⟩]; rfl
  | cons x pre ih =>
    have hc : x.stop < c :=
      Nat.lt_of_lt_of_le (hw.rel e (List.mem_append_right _ List.mem_cons_self)) h1
    have hx : x.contains c = false :=
      Iv.contains_false_iff.mpr fun h => Nat.lt_asymm hc h.2
    rw [List.cons_append, cdsStartPlus, hx, if_neg Bool.false_ne_true, ih hw.tail, exonsLen_cons,
      Nat.add_assoc acc]

theorem cdsStartMinus_split {pre post : List Iv} {e : Iv} {c : Nat}
    (hw : DescWF (pre ++ e :: post)) (h1 : e.start < c) (h2 : c ≤ e.stop) (acc : Nat) :
    cdsStartMinus c (pre ++ e :: post) acc = acc + exonsLen pre + (e.stop - c) := by
  induction pre generalizing acc with
  | nil =>
    show cdsStartMinus c (e :: post) acc = _
    have : ¬ (c ≠ e.stop ∧ e.contains c = false) := fun ⟨a, b⟩ =>
      Iv.contains_false_iff.mp b ⟨Nat.le_of_lt h1, Nat.lt_of_le_of_ne h2 a⟩
    rw [cdsStartMinus, if_neg this]; rfl
  | cons x pre ih =>
    have hc : c < x.start :=
      Nat.lt_of_le_of_lt h2 (hw.rel e (List.mem_append_right _ List.mem_cons_self))
    have hx : c ≠ x.stop ∧ x.contains c = false :=
      ⟨Nat.ne_of_lt (Nat.lt_trans hc hw.head),
        Iv.contains_false_iff.mpr fun h => Nat.not_le_of_lt hc h.1⟩
    rw [List.cons_append, cdsStartMinus, if_pos hx, ih hw.tail, exonsLen_cons, Nat.add_assoc acc]

theorem genomicToGene_eq (g : Gene) (p : Nat) :
    genomicToGene g p =
      if g.loc.start ≤ p ∧ p < g.loc.stop then .ok (g.strand.off g.loc p)
      else .error .outOfRange := by
  unfold genomicToGene
  cases g.strand <;> rfl

theorem genomicToGene_eq_ok_iff {g : Gene} {p i : Nat} :
    genomicToGene g p = .ok i ↔ (g.loc.start ≤ p ∧ p < g.loc.stop) ∧ g.strand.off g.loc p = i := by
  rw [genomicToGene_eq]
  by_cases h : g.loc.start ≤ p ∧ p < g.loc.stop
  · rw [if_pos h]
    exact ⟨fun e => ⟨h, Except.ok.inj e⟩, fun e => congrArg _ e.2⟩
  · rw [if_neg h]
    exact ⟨nofun, fun e => absurd e.1 h⟩

/-- `coordinate_gene_to_genomic` does no range check, hence the `Int`; inside the gene its result
is a natural number -/
theorem geneToGenomic_eq {g : Gene} {i : Nat} (h : i < g.len) :
    geneToGenomic g i = ((g.strand.pos g.loc i : Nat) : Int) := by
  have hi : g.loc.start + i < g.loc.stop := Nat.add_lt_of_lt_sub' h
  unfold geneToGenomic
  cases g.strand
  · show (g.loc.start : Int) + i = ((i + g.loc.start : Nat) : Int)
    rw [Int.natCast_add, Int.add_comm]
  · show (g.loc.stop : Int) - 1 - i = ((g.loc.stop - 1 - i : Nat) : Int)
    rw [Int.natCast_sub (Nat.le_sub_one_of_lt (Nat.lt_of_le_of_lt (Nat.le_add_left ..) hi)),
      Int.natCast_sub (Nat.succ_le_of_lt (Nat.zero_lt_of_lt hi))]
    rfl

section
/- The loop of `find_exon_index`, abstracted over the strand (`F` = `findExonPlus` /
`findExonMinus`, `stop` = `exon > feature` / `exon < feature`): a linear search for `f` that
gives up at the first element with `stop`. -/
variable {F : List Iv → Nat → Except CoordErr Nat} {stop : Iv → Bool} {f : Iv}
  (hnil : ∀ i, F [] i = .error .exonNotFound)
  (hcons : ∀ e es i, F (e :: es) i =
    if e = f then .ok i else if stop e then .error .exonNotFound else F es (i + 1))
include hnil hcons

/-- `hsep`: `f` does not occur after an element that equals it or makes the search give up. -/
theorem findExon_spec {es : List Iv}
    (hsep : es.Pairwise fun a b => a = f ∨ stop a = true → b ≠ f) (i k : Nat) :
    F es i = .ok k ↔ ∃ j, es[j]? = some f ∧ k = i + j := by
  induction es generalizing i with
  | nil => rw [hnil]; simp
  | cons e es ih =>
    obtain ⟨hrel, hsep⟩ := List.pairwise_cons.mp hsep
    rw [hcons]
    constructor
    · intro h
      by_cases h1 : e = f
      · rw [if_pos h1] at h
        cases h
        exact ⟨0, congrArg some h1, rfl⟩
      · rw [if_neg h1] at h
        by_cases h2 : stop e = true
        · rw [if_pos h2] at h
          cases h
        · rw [if_neg h2] at h
          obtain ⟨j, hj, rfl⟩ := (ih hsep _).mp h
          exact ⟨j + 1, hj, Nat.add_right_comm i 1 j⟩
    · rintro ⟨j, hj, rfl⟩
      cases j with
      | zero => exact if_pos (Option.some.inj hj)
      | succ j =>
        have hno : ¬ (e = f ∨ stop e = true) := fun h => hrel f (List.mem_of_getElem? hj) h rfl
        rw [if_neg fun h => hno (Or.inl h), if_neg fun h => hno (Or.inr h)]
        exact (ih hsep _).mpr ⟨j, hj, (Nat.add_right_comm i 1 j).symm⟩

theorem findExon_error {es : List Iv} {i : Nat} {x : CoordErr} (h : F es i = .error x) :
    x = .exonNotFound := by
  induction es generalizing i with
  | nil => rw [hnil] at h; cases h; rfl
  | cons e es ih =>
    rw [hcons] at h
    split at h
    · cases h
    · split at h
      · cases h; rfl
      · exact ih h

end

theorem findExonIndex_error {t : Transcript} {f : Iv} {x : CoordErr}
    (h : findExonIndex t f = .error x) : x = .exonNotFound := by
  unfold findExonIndex at h
  cases hs : t.strand <;> rw [hs] at h
  · exact findExon_error (stop := fun e => e.gt f) (fun _ => rfl) (fun _ _ _ => rfl) h
  · exact findExon_error (stop := fun e => e.lt f) (fun _ => rfl) (fun _ _ _ => rfl) h

end MoPepGen
