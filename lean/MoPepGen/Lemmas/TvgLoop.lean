/-
The cursors of `create_variant_graph` (`Model/Tvg.lean`, `cvgLoop`): what the loop's own checks
establish, and that one application step — all the `apply_variant` calls for one record — only
issues calls whose preconditions hold, so that the graph stays `Reach`able.  (The loop itself is
followed in `Lemmas/TvgLive.lean`.)

The cursor predicate `Curs g cs x is`: cursor `m` is a reference node of frame `m` starting at or
before `x`, and reaches beyond `x` for the frames in `is`.  The bounds `a ≤ start < b` of the source
cursor come from the loop's own runtime checks (no cursor expired).  Within the frameshifting branch
the three calls `i → (i + shift) % 3` share the cursors: a cursor that has been a SOURCE still starts
at or before `start` (all a target needs), a cursor that has only been a TARGET still reaches beyond
`start` (it may serve as a source later).

Second part: the records the loop walks over (filter, MNV merge, `sorted`) are `RecOk`.
-/
import MoPepGen.Lemmas.Tvg
import MoPepGen.Lemmas.TvgSorted
namespace MoPepGen.Tvg
open MoPepGen MoPepGen.Spec

variable {t : List Char}

/-- a record `create_variant_graph` may walk over: behind the first three bases (its filter
keeps `start ≥ start_index ≥ 3`), a non-empty stretch inside the transcript, not a fusion -/
def RecOk (t : List Char) (v : Rec) : Prop :=
  3 ≤ v.start ∧ v.start < v.stop ∧ v.stop ≤ t.length ∧ v.type ≠ "Fusion"

/-- every cursor `m` is a reference node of frame `m` that starts at or before `x`; the cursors of
the frames in `is` (those that may still serve as a SOURCE at `x`) reach beyond `x` -/
def Curs (g : TState) (cs : List (Option Nat)) (x : Nat) (is : List Nat) : Prop :=
  cs.length = 3 ∧
    ∀ m, m < 3 → ∃ c a b, cs[m]? = some (some c) ∧ IsRef g c m a b ∧ a ≤ x ∧ (m ∈ is → x < b)

theorem Curs.tail {g : TState} {cs : List (Option Nat)} {x i : Nat} {is : List Nat}
    (h : Curs g cs x (i :: is)) : Curs g cs x is :=
  ⟨h.1, fun m hm => by
    obtain ⟨c, a, b, h1, h2, h3, h4⟩ := h.2 m hm
    exact ⟨c, a, b, h1, h2, h3, fun hmem => h4 (List.mem_cons_of_mem _ hmem)⟩⟩

theorem Curs.mono {g : TState} {cs : List (Option Nat)} {x y : Nat} {is : List Nat}
    (h : Curs g cs x is) (hxy : x ≤ y) : Curs g cs y [] :=
  ⟨h.1, fun m hm => by
    obtain ⟨c, a, b, h1, h2, h3, _⟩ := h.2 m hm
    exact ⟨c, a, b, h1, h2, Nat.le_trans h3 hxy, fun hmem => by cases hmem⟩⟩

theorem cursorAt_ok {cs : List (Option Nat)} {i c : Nat} (h : cursorAt cs i = .ok c) :
    cs[i]? = some (some c) := by
  unfold cursorAt at h
  split at h
  · rename_i c' hc
    cases h
    rw [List.getD_eq_getElem?_getD] at hc
    cases hi : cs[i]? with
    | none => simp [hi] at hc
    | some o => simp [hi] at hc; rw [hc]
  · cases h

theorem cursorAt_of {cs : List (Option Nat)} {i c : Nat} (h : cs[i]? = some (some c)) :
    cursorAt cs i = .ok c := by
  simp [cursorAt, List.getD_eq_getElem?_getD, h]

/-! ### the checks of the loop -/

theorem anyCursorBehind_ok {g : TState} {v : Rec} {r : Bool} :
    ∀ (cs : List (Option Nat)), anyCursorBehind g v cs = .ok r →
      (r = true → ∃ (m c f a b : Nat), cs[m]? = some (some c) ∧ IsRef g c f a b ∧ v.start < a) ∧
      (r = false → ∀ m, m < cs.length →
        ∃ c f a b, cs[m]? = some (some c) ∧ IsRef g c f a b ∧ a ≤ v.start) := by
  intro cs
  induction cs with
  | nil =>
    intro h
    cases h
    exact ⟨nofun, fun _ m hm => by cases hm⟩
  | cons o rest ih =>
    intro h
    cases o with
    | none => cases h
    | some c =>
      obtain ⟨⟨a, b⟩, hloc, h⟩ := tvg_bind_ok.mp h
      obtain ⟨f, hr, _⟩ := nodeLoc_ok hloc
      dsimp only at h
      split at h
      · rename_i hlt
        cases h
        exact ⟨fun _ => ⟨0, c, f, a, b, rfl, hr, hlt⟩, nofun⟩
      · rename_i hle
        obtain ⟨ih1, ih2⟩ := ih h
        refine ⟨fun hr' => ?_, fun hr' m hm => ?_⟩
        · obtain ⟨m, h'⟩ := ih1 hr'
          exact ⟨m + 1, h'⟩
        · cases m with
          | zero => exact ⟨c, f, a, b, rfl, hr, Nat.not_lt.mp hle⟩
          | succ m => exact ih2 hr' m (Nat.lt_of_succ_lt_succ hm)

theorem expireCursors_get {g : TState} {v : Rec} :
    ∀ (cs cs' : List (Option Nat)) (ex : Bool), expireCursors g v cs = .ok (cs', ex) →
      cs'.length = cs.length ∧ ∀ (m c f a b : Nat), cs[m]? = some (some c) → IsRef g c f a b →
        (b ≤ v.start ∧ ex = true ∧ ∃ nx, getReferenceNext g c = .ok nx ∧ cs'[m]? = some nx) ∨
          (v.start < b ∧ cs'[m]? = some (some c)) := by
  intro cs
  induction cs with
  | nil =>
    intro cs' ex h
    cases h
    exact ⟨rfl, fun m c f a b hm => by cases hm⟩
  | cons o rest ih =>
    intro cs' ex h
    cases o with
    | none => cases h
    | some c =>
      obtain ⟨⟨a0, b⟩, hloc, h⟩ := tvg_bind_ok.mp h
      obtain ⟨f0, hr0, _⟩ := nodeLoc_ok hloc
      obtain ⟨⟨rest', any⟩, hrest, h⟩ := tvg_bind_ok.mp h
      obtain ⟨hlen, ih⟩ := ih rest' any hrest
      -- the first cursor moves on or stays; the flag of the cursors behind it can only be raised
      obtain ⟨x, rfl, hex, hx⟩ : ∃ x, cs' = x :: rest' ∧ (any = true → ex = true) ∧
          ((b ≤ v.start ∧ ex = true ∧ getReferenceNext g c = .ok x) ∨ (v.start < b ∧ x = some c)) := by
        dsimp only at h
        split at h
        · rename_i hle
          obtain ⟨nx, hnx, h⟩ := tvg_bind_ok.mp h
          cases h
          exact ⟨nx, rfl, fun _ => rfl, Or.inl ⟨hle, rfl, hnx⟩⟩
        · rename_i hgt
          cases h
          exact ⟨some c, rfl, id, Or.inr ⟨Nat.lt_of_not_le hgt, rfl⟩⟩
      refine ⟨congrArg (· + 1) hlen, fun m c' f a b' hm hr => ?_⟩
      cases m with
      | zero =>
        cases hm
        obtain ⟨-, -, rfl⟩ := hr.inj hr0
        exact hx.imp (fun ⟨k1, k2, k3⟩ => ⟨k1, k2, x, k3, rfl⟩) fun ⟨k1, k2⟩ => ⟨k1, congrArg some k2⟩
      | succ m => exact (ih m c' f a b' hm hr).imp (fun ⟨k1, k2, k3⟩ => ⟨k1, hex k2, k3⟩) id

/-- the expiry loop never runs a cursor off the end while a record is still to be applied: every
cursor stays a reference node of its frame that starts at or before the record -/
theorem expireCursors_curs {g : TState} (hI : Inv t g) {v : Rec}
    (hv : v.start < v.stop ∧ v.stop ≤ t.length) {cs cs' : List (Option Nat)} {ex : Bool}
    (hC : Curs g cs v.start []) (he : expireCursors g v cs = .ok (cs', ex)) :
    Curs g cs' v.start [] := by
  obtain ⟨hlen, hget⟩ := expireCursors_get cs cs' ex he
  refine ⟨hlen.trans hC.1, fun m hm => ?_⟩
  obtain ⟨c, a, b, hc, hr, ha, _⟩ := hC.2 m hm
  rcases hget m c m a b hc hr with ⟨hle, _, nx, hnx, h⟩ | ⟨_, h⟩
  · rcases getReferenceNext_total hI hr with ⟨hbL, _⟩ | ⟨j, c', hj, hnx'⟩
    · omega
    · rw [hnx'] at hnx
      cases hnx
      exact ⟨j, b, c', h, hj, hle, fun h => by cases h⟩
  · exact ⟨c, a, b, h, hr, ha, fun h => by cases h⟩

/-- when the loop reaches an application (no cursor expired) every cursor stayed and may serve as a
source -/
theorem curs_of_checks {g : TState} {v : Rec} {cs cs' : List (Option Nat)}
    (hC : Curs g cs v.start []) (he : expireCursors g v cs = .ok (cs', false)) :
    cs' = cs ∧ Curs g cs v.start [0, 1, 2] := by
  obtain ⟨hlen, hget⟩ := expireCursors_get cs cs' false he
  have hstay : ∀ m, m < 3 → ∃ c a b, cs[m]? = some (some c) ∧ cs'[m]? = some (some c) ∧
      IsRef g c m a b ∧ a ≤ v.start ∧ v.start < b := by
    intro m hm
    obtain ⟨c, a, b, hc, hr, ha, _⟩ := hC.2 m hm
    rcases hget m c m a b hc hr with ⟨_, h, _⟩ | ⟨hb, h⟩
    · cases h
    · exact ⟨c, a, b, hc, h, hr, ha, hb⟩
  refine ⟨List.ext_getElem? fun m => ?_, hC.1, fun m hm => ?_⟩
  · rcases Nat.lt_or_ge m 3 with hm | hm
    · obtain ⟨c, _, _, h1, h2, _⟩ := hstay m hm
      rw [h1, h2]
    · rw [List.getElem?_eq_none (Nat.le_trans (Nat.le_of_eq (hlen.trans hC.1)) hm),
        List.getElem?_eq_none (Nat.le_trans (Nat.le_of_eq hC.1) hm)]
  · obtain ⟨c, a, b, h1, _, hr, ha, hb⟩ := hstay m hm
    exact ⟨c, a, b, h1, hr, ha, fun _ => hb⟩

/-! ### the two application branches -/

/-- one call `cursors[i], cursors[j] = apply_variant(cursors[i], cursors[j], v)` of the two
branches (`j = i` in frame): its preconditions hold, and afterwards the cursor of frame `i` has
been a source, that of frame `j` still reaches beyond `start` if it did and is yet to be one -/
theorem applyStep (h3 : 3 ≤ t.length) {v : Rec} (hv : RecOk t v) {g g1 : TState}
    {cs cs1 : List (Option Nat)} {i j : Nat} {is : List Nat} (hR : Reach t g)
    (hC : Curs g cs v.start (i :: is)) (hi : i ∉ is) (hi3 : i < 3) (hj3 : j < 3) {ci cj r0 r1 : Nat}
    (hci : cursorAt cs i = .ok ci) (hcj : cursorAt cs j = .ok cj)
    (hap : applyVariant g ci cj v = .ok (g1, r0, r1)) (hlen : cs1.length = 3)
    (hget : ∀ m : Nat, cs1[m]? =
      if m = i then some (some r0) else if m = j then some (some r1) else cs[m]?) :
    Reach t g1 ∧ Curs g1 cs1 v.start is ∧ Mid t g g1 i j v := by
  obtain ⟨hv3, hvs, hvL, _⟩ := hv
  obtain ⟨c, a, b, hc, hr, ha, hb⟩ := hC.2 i hi3
  obtain rfl : c = ci := by rw [cursorAt_ok hci] at hc; cases hc; rfl
  obtain ⟨c2, a2, b2, hc2, hr2, ha2, hb2⟩ := hC.2 j hj3
  obtain rfl : c2 = cj := by rw [cursorAt_ok hcj] at hc2; cases hc2; rfl
  have hb := hb List.mem_cons_self
  have hiv : i < v.start := Nat.lt_of_lt_of_le hi3 hv3
  obtain ⟨hI, hL⟩ := reach_inv h3 hR
  obtain ⟨hM, _, ⟨x, y, hr0, hx⟩, ⟨x1, y1, hr1, hx1, hy1⟩⟩ :=
    applyVariant_spec hI hL ⟨hvs, hvL⟩ hr hiv ha hb hr2 ha2 hap
  refine ⟨Reach.apply hR ⟨⟨hvs, hvL⟩, ⟨i, a, b, hr, hiv, ha, hb⟩, ⟨j, a2, b2, hr2, ha2⟩⟩ hap,
    ⟨hlen, fun m hm3 => ?_⟩, hM⟩
  rw [hget]
  by_cases hmi : m = i
  · subst hmi
    exact ⟨r0, x, y, if_pos rfl, hr0, hx, fun hmem => absurd hmem hi⟩
  · rw [if_neg hmi]
    by_cases hmj : m = j
    · subst hmj
      refine ⟨r1, x1, y1, if_pos rfl, hr1, hx1, fun hmem => hy1 ?_ (hb2 (List.mem_cons_of_mem _ hmem))⟩
      rintro rfl
      exact hmi (hr2.inj hr).1
    · obtain ⟨c', a', b', hc', hr', ha', hb'⟩ := hC.2 m hm3
      exact ⟨c', a', b', (if_neg hmj).trans hc', hM.keepOther hr' hmi hmj, ha',
        fun hmem => hb' (List.mem_cons_of_mem _ hmem)⟩

theorem getElem?_set_eq {α : Type} (l : List α) (i : Nat) (x : α) (m : Nat) (hi : i < l.length) :
    (l.set i x)[m]? = if m = i then some x else l[m]? := by
  rw [List.getElem?_set]
  by_cases h : m = i
  · subst h; simp [hi]
  · rw [if_neg fun h' : i = m => h h'.symm, if_neg h]

theorem getElem?_set_set {α : Type} (l : List α) (i j : Nat) (x y : α) (m : Nat)
    (hi : i < l.length) (hj : j < l.length) (hij : i ≠ j) :
    ((l.set i x).set j y)[m]? = if m = i then some x else if m = j then some y else l[m]? := by
  rw [getElem?_set_eq _ _ _ _ (by rwa [List.length_set]), getElem?_set_eq _ _ _ _ hi]
  by_cases h1 : m = i
  · rw [if_pos h1, if_neg (h1 ▸ hij), if_pos h1]
  · rw [if_neg h1, if_neg h1]

/-- the in-frame branch: every call's preconditions hold.  `P` is whatever else is to be carried
through the calls (it sees the graph and the frames still to be visited). -/
theorem applyInFrame_ind (h3 : 3 ≤ t.length) {v : Rec} (hv : RecOk t v)
    (A : List Bool) (P : TState → List Nat → Prop)
    (hskip : ∀ g i is, ¬ A.getD i false = true → P g (i :: is) → P g is)
    (hstep : ∀ g g1 i is, A.getD i false = true → Mid t g g1 i i v → P g (i :: is) → P g1 is) :
    ∀ (is : List Nat) (g : TState) (cs : List (Option Nat)) (g' : TState) (cs' : List (Option Nat)),
      Reach t g → Curs g cs v.start is → is.Nodup → (∀ m ∈ is, m < 3) → P g is →
      applyInFrame v A is g cs = .ok (g', cs') → Reach t g' ∧ Curs g' cs' v.start [] ∧ P g' [] := by
  intro is
  induction is with
  | nil =>
    intro g cs g' cs' hR hC _ _ hP h
    cases h
    exact ⟨hR, hC, hP⟩
  | cons i is ih =>
    intro g cs g' cs' hR hC hnd hlt hP h
    have hnd' := List.nodup_cons.mp hnd
    have hlt' : ∀ m ∈ is, m < 3 := fun m hm => hlt m (List.mem_cons_of_mem _ hm)
    simp only [applyInFrame] at h
    split at h
    · rename_i hact
      obtain ⟨ci, hci, h⟩ := tvg_bind_ok.mp h
      obtain ⟨⟨g1, r0, r1⟩, hap, h⟩ := tvg_bind_ok.mp h
      have hi3 := hlt i List.mem_cons_self
      obtain ⟨hR1, hC1, hM⟩ := applyStep h3 hv hR hC hnd'.1 hi3 hi3 hci hci hap
        (cs1 := cs.set i (some r0)) (by rw [List.length_set, hC.1])
        (fun m => by
          rw [getElem?_set_eq _ _ _ _ (hC.1 ▸ hi3)]
          split
          · rfl
          · rfl)
      exact ih g1 _ g' cs' hR1 hC1 hnd'.2 hlt' (hstep g g1 i is hact hM hP) h
    · rename_i hact
      exact ih g cs g' cs' hR hC.tail hnd'.2 hlt' (hskip g i is hact hP) h

/-- the frameshifting branch (`shift` = 1 or 2: source and target frame differ): every call's
preconditions hold -/
theorem applyShift_ind (h3 : 3 ≤ t.length) {v : Rec} (hv : RecOk t v)
    (shift : Nat) (hs3 : shift < 3) (hs0 : shift ≠ 0) (A : List Bool) (P : TState → List Nat → Prop)
    (hskip : ∀ g i is, ¬ A.getD i false = true → P g (i :: is) → P g is)
    (hstep : ∀ g g1 i is, A.getD i false = true → Mid t g g1 i ((i + shift) % 3) v →
      P g (i :: is) → P g1 is) :
    ∀ (is : List Nat) (g : TState) (cs : List (Option Nat)) (g' : TState) (cs' : List (Option Nat)),
      Reach t g → Curs g cs v.start is → is.Nodup → (∀ m ∈ is, m < 3) → P g is →
      applyShift v shift A is g cs = .ok (g', cs') → Reach t g' ∧ Curs g' cs' v.start [] ∧ P g' [] := by
  intro is
  induction is with
  | nil =>
    intro g cs g' cs' hR hC _ _ hP h
    cases h
    exact ⟨hR, hC, hP⟩
  | cons i is ih =>
    intro g cs g' cs' hR hC hnd hlt hP h
    have hnd' := List.nodup_cons.mp hnd
    have hlt' : ∀ m ∈ is, m < 3 := fun m hm => hlt m (List.mem_cons_of_mem _ hm)
    simp only [applyShift] at h
    split at h
    · rename_i hact
      obtain ⟨ci, hci, h⟩ := tvg_bind_ok.mp h
      obtain ⟨cj, hcj, h⟩ := tvg_bind_ok.mp h
      obtain ⟨⟨g1, r0, r1⟩, hap, h⟩ := tvg_bind_ok.mp h
      have hi3 := hlt i List.mem_cons_self
      have hj3 : (i + shift) % 3 < 3 := Nat.mod_lt _ (by decide)
      have hji : i ≠ (i + shift) % 3 := by omega
      obtain ⟨hR1, hC1, hM⟩ := applyStep h3 hv hR hC hnd'.1 hi3 hj3 hci hcj hap
        (cs1 := (cs.set i (some r0)).set ((i + shift) % 3) (some r1))
        (by rw [List.length_set, List.length_set, hC.1])
        (fun m => getElem?_set_set cs _ _ _ _ m (hC.1 ▸ hi3) (hC.1 ▸ hj3) hji)
      exact ih g1 _ g' cs' hR1 hC1 hnd'.2 hlt' (hstep g g1 i is hact hM hP) h
    · rename_i hact
      exact ih g cs g' cs' hR hC.tail hnd'.2 hlt' (hskip g i is hact hP) h

theorem framesShifted_lt (v : Rec) : framesShifted v < 3 := by
  simp only [framesShifted]
  omega

/-- a frameshifting record that is not a fusion shifts by one or two frames -/
theorem framesShifted_ne_zero {v : Rec} (hv : RecOk t v)
    (hfs : isFrameshifting v = true) : framesShifted v ≠ 0 := by
  simp only [isFrameshifting, Bool.or_eq_true, beq_iff_eq, bne_iff_ne] at hfs
  exact hfs.resolve_left hv.2.2.2

/-! ### what `create_variant_graph` hands to its loop -/

/-- the initial cursors: the three reference nodes `seq`, `seq[1:]`, `seq[2:]` -/
theorem initial_cursors (t : List Char) :
    readingFrames.mapM (getReferenceNext (initThreeFrames t)) = .ok [some 4, some 5, some 6] := rfl

/-- … each a reference node `[m, |t|)` of its frame: they start at or before every `x ≥ 3` -/
theorem curs_init (t : List Char) {x : Nat} (hx : 3 ≤ x) :
    Curs (initThreeFrames t) [some 4, some 5, some 6] x [] := by
  refine ⟨rfl, fun m hm => ?_⟩
  have hr : IsRef (initThreeFrames t) (m + 4) m m t.length :=
    initThreeFrames_isRef.mpr ⟨rfl, hm, rfl, rfl⟩
  refine ⟨m + 4, m, t.length, ?_, hr, Nat.le_of_lt (Nat.lt_of_lt_of_le hm hx), fun h => by cases h⟩
  match m, hm with
  | 0, _ => rfl
  | 1, _ => rfl
  | 2, _ => rfl

theorem createVariantGraph_loop {inp : TvgIn} {vs : List Rec} {g : TState}
    (h : createVariantGraph inp vs = .ok g) :
    ∃ l act, variantsWithMnv inp vs = .ok l ∧ initialActive inp = .ok act ∧
      cvgLoop (8 * l.length + 8) l
        { g := initThreeFrames inp.seq, cursors := [some 4, some 5, some 6], active := act } = .ok g := by
  simp only [createVariantGraph, createVariantGraphOn] at h
  split at h
  · cases h
  obtain ⟨l, hl, h⟩ := tvg_bind_ok.mp h
  rw [initial_cursors] at h
  obtain ⟨cs, hcs, h⟩ := tvg_bind_ok.mp h
  cases hcs
  obtain ⟨act, hact, h⟩ := tvg_bind_ok.mp h
  exact ⟨l, act, hl, hact, h⟩

/-! ### the records the loop walks over are `RecOk` -/

/-- well-formedness of an input record: a non-empty stretch inside the transcript, not a fusion -/
def InOk (t : List Char) (v : Rec) : Prop :=
  v.start < v.stop ∧ v.stop ≤ t.length ∧ v.type ≠ "Fusion"

theorem toEndInclusion_ok {v v' : Rec} (hv : InOk t v)
    (h : toEndInclusion t v = .ok v') : InOk t v' ∧ v'.start = v.start + 1 := by
  unfold toEndInclusion at h
  split at h
  · cases h
  · split at h
    · cases h
    · rename_i c hc
      cases h
      have hlt : v.stop < t.length := (List.getElem?_eq_some_iff.mp hc).1
      exact ⟨⟨Nat.succ_lt_succ hv.1, hlt, hv.2.2⟩, rfl⟩

theorem filterOne_ok {inp : TvgIn} {si : Nat} (hsi : 3 ≤ si) {v v' : Rec} (hv : InOk inp.seq v)
    (h : filterOne inp si v = .ok (some v')) : RecOk inp.seq v' := by
  unfold filterOne at h
  obtain ⟨w, hw, h⟩ := tvg_bind_ok.mp h
  have hwok : InOk inp.seq w := by
    split at hw
    · exact (toEndInclusion_ok hv hw).1
    · cases hw; exact hv
  split at h
  · cases h
  · split at h
    · cases h
    · cases h
      exact ⟨by omega, hwok⟩

theorem filterAll_ok {inp : TvgIn} {si : Nat} (hsi : 3 ≤ si) :
    ∀ (vs l : List Rec), (∀ v ∈ vs, InOk inp.seq v) → filterAll inp si vs = .ok l →
      ∀ v ∈ l, RecOk inp.seq v := by
  intro vs
  induction vs with
  | nil => intro l _ h; cases h; exact fun _ hv => by cases hv
  | cons v vs ih =>
    intro l hvs h
    obtain ⟨r, hr, h⟩ := tvg_bind_ok.mp h
    obtain ⟨rest, hrest, h⟩ := tvg_bind_ok.mp h
    have hrestok := ih rest (fun w hw => hvs w (List.mem_cons_of_mem _ hw)) hrest
    cases h
    cases r with
    | none => exact hrestok
    | some x =>
      intro w hw
      rcases List.mem_cons.mp hw with rfl | hw
      · exact filterOne_ok hsi (hvs v List.mem_cons_self) hr
      · exact hrestok w hw

theorem zip_range_idx {vs : List Rec} {p : Nat × Rec} (hp : p ∈ (List.range vs.length).zip vs) :
    vs[p.1]? = some p.2 := by
  obtain ⟨i, hi⟩ := List.getElem?_of_mem hp
  obtain ⟨h1, h2⟩ := List.getElem?_zip_eq_some.mp hi
  rw [List.getElem?_range (List.getElem?_eq_some_iff.mp h2).1] at h1
  cases h1
  exact h2

theorem mem_mnvScan {v0 : Rec} {type0 : String} {comb c : List Nat} :
    ∀ (rest : List (Nat × Rec)), c ∈ mnvScan v0 type0 comb rest →
      ∃ p ∈ rest, c = comb ++ [p.1] ∧ p.2.start = v0.stop := by
  intro rest
  induction rest with
  | nil => intro hc; cases hc
  | cons p rest ih =>
    intro hc
    have ih' : c ∈ mnvScan v0 type0 comb rest →
        ∃ q ∈ p :: rest, c = comb ++ [q.1] ∧ q.2.start = v0.stop := fun h => by
      obtain ⟨q, hq, h'⟩ := ih h
      exact ⟨q, List.mem_cons_of_mem _ hq, h'⟩
    obtain ⟨j, vj⟩ := p
    simp only [mnvScan] at hc
    split at hc
    · exact ih' hc
    · split at hc
      · exact ih' hc
      · split at hc
        · cases hc
        · split at hc
          · rcases List.mem_cons.mp hc with rfl | hc
            · exact ⟨(j, vj), List.mem_cons_self, rfl, show vj.start = v0.stop by omega⟩
            · exact ih' hc
          · exact ih' hc

/-- a combination `[i, j₁, j₂, …]` of `find_mnvs_from_adjacent_variants`: every member after the
first starts where the first record ends -/
def CombOk (vs : List Rec) (v0 : Rec) (comb : List Nat) : Prop :=
  comb.head?.bind (vs[·]?) = some v0 ∧ ∀ j ∈ comb.tail, ∃ vj, vs[j]? = some vj ∧ vj.start = v0.stop

theorem mnvLevel_ok {vs : List Rec} {v0 : Rec} {type0 : String} {prev : List (List Nat)}
    (hp : ∀ c ∈ prev, CombOk vs v0 c) : ∀ c ∈ mnvLevel vs v0 type0 prev, CombOk vs v0 c := by
  intro c hc
  simp only [mnvLevel, List.mem_flatMap] at hc
  obtain ⟨comb, hcomb, hc⟩ := hc
  obtain ⟨h1, h2⟩ := hp comb hcomb
  split at hc
  · cases hc
  · obtain ⟨p, hp, rfl, hst⟩ := mem_mnvScan _ hc
    cases comb with
    | nil => cases h1
    | cons i js =>
      refine ⟨h1, fun j hj => ?_⟩
      rcases List.mem_append.mp hj with hj | hj
      · exact h2 j hj
      · cases List.mem_singleton.mp hj
        exact ⟨p.2, zip_range_idx (List.mem_of_mem_drop hp), hst⟩

theorem mnvLevels_ok {vs : List Rec} {v0 : Rec} {type0 : String} :
    ∀ (n k : Nat) (prev out : List (List Nat)), (∀ c ∈ prev, CombOk vs v0 c) →
      mnvLevels vs v0 type0 n k prev = .ok out → ∀ c ∈ out, CombOk vs v0 c := by
  intro n
  induction n with
  | zero => intro k prev out _ h; cases h; exact fun _ hc => by cases hc
  | succ n ih =>
    intro k prev out hp h
    simp only [mnvLevels] at h
    split at h
    · cases h
    · obtain ⟨more, hmore, h⟩ := tvg_bind_ok.mp h
      cases h
      have hcur := mnvLevel_ok (type0 := type0) hp
      intro c hc
      rcases List.mem_append.mp hc with hc | hc
      · exact hcur c hc
      · exact ih (k + 1) _ more hcur hmore c hc

theorem mkMnv_ok {vs : List Rec} (hvs : ∀ v ∈ vs, RecOk t v) {v0 : Rec} {comb : List Nat}
    (hc : CombOk vs v0 comb) : RecOk t (mkMnv vs comb) := by
  obtain ⟨h1, h2⟩ := hc
  cases comb with
  | nil => cases h1
  | cons i js =>
    have hi : vs[i]? = some v0 := h1
    obtain ⟨a1, a2, a3, _⟩ := hvs v0 (List.mem_of_getElem? hi)
    -- the last record of the combination: `v0` or one that starts at `v0.stop`
    have hrs : ∀ r ∈ v0 :: js.filterMap (fun i => vs[i]?), v0.start < r.stop ∧ r.stop ≤ t.length := by
      intro r hr
      rcases List.mem_cons.mp hr with rfl | hr
      · exact ⟨a2, a3⟩
      · obtain ⟨j, hj, hjr⟩ := List.mem_filterMap.mp hr
        obtain ⟨vj, hvj, hst⟩ := h2 j hj
        obtain rfl : vj = r := by rw [hvj] at hjr; cases hjr; rfl
        have := hvs _ (List.mem_of_getElem? hvj)
        exact ⟨by have := this.2.1; omega, this.2.2.1⟩
    have hlast : ((v0 :: js.filterMap (fun i => vs[i]?)).getLast?.getD v0) ∈
        v0 :: js.filterMap (fun i => vs[i]?) := by
      cases hl : (v0 :: js.filterMap (fun i => vs[i]?)).getLast? with
      | none => exact List.mem_cons_self
      | some x => exact List.mem_of_getLast? hl
    simp only [mkMnv, List.filterMap_cons, hi]
    exact ⟨a1, (hrs _ hlast).1, (hrs _ hlast).2, (by decide : "MNV" ≠ "Fusion")⟩

theorem findMnvs_ok {vs : List Rec} (hvs : ∀ v ∈ vs, RecOk t v) (maxAdj : Nat)
    {out : List Rec} (h : findMnvs vs maxAdj = .ok out) : ∀ v ∈ out, RecOk t v := by
  unfold findMnvs at h
  have hz : ∀ p ∈ (List.range vs.length).zip vs, vs[p.1]? = some p.2 := fun p hp => zip_range_idx hp
  generalize (List.range vs.length).zip vs = zs at h hz
  have : ∀ (zs : List (Nat × Rec)) (acc out : List Rec), (∀ p ∈ zs, vs[p.1]? = some p.2) →
      (∀ v ∈ acc, RecOk t v) →
      zs.foldlM (init := acc) (fun acc (p : Nat × Rec) =>
        match mnvClass p.2 with
        | none => pure acc
        | some type0 => do
          let combs ← mnvLevels vs p.2 type0 (maxAdj - 1) 1 [[p.1]]
          pure (acc ++ combs.map (mkMnv vs))) = (.ok out : R (List Rec)) →
      ∀ v ∈ out, RecOk t v := by
    intro zs
    induction zs with
    | nil =>
      intro acc out _ hacc h
      cases h; exact hacc
    | cons p zs ih =>
      intro acc out hz hacc h
      rw [List.foldlM_cons] at h
      obtain ⟨acc', hacc', h⟩ := tvg_bind_ok.mp h
      refine ih acc' out (fun q hq => hz q (List.mem_cons_of_mem _ hq)) ?_ h
      split at hacc'
      · cases hacc'; exact hacc
      · obtain ⟨combs, hcombs, hacc'⟩ := tvg_bind_ok.mp hacc'
        cases hacc'
        have hinit : ∀ c ∈ [[p.1]], CombOk vs p.2 c := by
          intro c hc
          cases List.mem_singleton.mp hc
          exact ⟨hz p List.mem_cons_self, fun _ hj => by cases hj⟩
        have hall := mnvLevels_ok _ _ _ _ hinit hcombs
        intro v hv
        rcases List.mem_append.mp hv with hv | hv
        · exact hacc v hv
        · obtain ⟨c, hc, rfl⟩ := List.mem_map.mp hv
          exact mkMnv_ok hvs (hall c hc)
  exact this zs [] out hz (fun _ hv => by cases hv) h

theorem variantsWithMnv_ok {inp : TvgIn} {vs l : List Rec} (hvs : ∀ v ∈ vs, InOk inp.seq v)
    (h : variantsWithMnv inp vs = .ok l) : ∀ v ∈ l, RecOk inp.seq v := by
  unfold variantsWithMnv at h
  obtain ⟨start0, _, h⟩ := tvg_bind_ok.mp h
  obtain ⟨filtered, hf, h⟩ := tvg_bind_ok.mp h
  obtain ⟨merged, hm, h⟩ := tvg_bind_ok.mp h
  have hfok := filterAll_ok (Nat.le_add_left 3 start0) vs filtered hvs hf
  intro v hv
  rcases List.mem_append.mp ((mem_pySorted h v).mp hv) with hv | hv
  · exact hfok v hv
  · exact findMnvs_ok hfok _ hm v hv

end MoPepGen.Tvg
