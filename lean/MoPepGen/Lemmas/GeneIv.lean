import MoPepGen.Lemmas.Seq
/-! Gene coordinates of a genomic interval on either strand (`geneIv`): what two calls of
`coordinate_genomic_to_gene` and the swap on the minus strand compute, and where the interval is
found in the gene sequence.  Not part of `Lemmas/Seq.lean` because the rMATS files, which import
that, have a `geneIv` (`Model/RmatsSpec.lean`) and an `InGene` (`Lemmas/Rmats.lean`) of their
own. -/
namespace MoPepGen

/-- strand-corrected gene-coordinate interval of a chromosome interval (Layer S) -/
def geneIv (g : Gene) (b : Iv) : Iv :=
  match g.strand with
  | .plus => ⟨b.start - g.loc.start, b.stop - g.loc.start⟩
  | .minus => ⟨g.loc.stop - b.stop, g.loc.stop - b.start⟩

/-- the interval lies inside the gene (possibly empty) -/
def InGene (g : Gene) (b : Iv) : Prop :=
  g.loc.start ≤ b.start ∧ b.start ≤ b.stop ∧ b.stop ≤ g.loc.stop
instance (g : Gene) (b : Iv) : Decidable (InGene g b) := by unfold InGene; infer_instance

theorem geneIv_plus {g : Gene} (hs : g.strand = .plus) (b : Iv) :
    geneIv g b = ⟨b.start - g.loc.start, b.stop - g.loc.start⟩ := by
  unfold geneIv; rw [hs]

theorem geneIv_minus {g : Gene} (hs : g.strand = .minus) (b : Iv) :
    geneIv g b = ⟨g.loc.stop - b.stop, g.loc.stop - b.start⟩ := by
  unfold geneIv; rw [hs]

theorem geneIv_len (g : Gene) {b : Iv} (hin : InGene g b) : (geneIv g b).len = b.len := by
  obtain ⟨h1, h2, h3⟩ := hin
  unfold geneIv Iv.len
  cases g.strand
  · exact Nat.sub_sub_sub_cancel_right h1
  · show g.loc.stop - b.start - (g.loc.stop - b.stop) = b.stop - b.start
    rw [← Nat.sub_add_sub_cancel h3 h2, Nat.add_sub_cancel_left]

/-- the idiom "both ends through `coordinate_genomic_to_gene`, swapped on the minus strand, end
plus one" (as in `feature_coordinate_genomic_to_gene`) computes `geneIv` -/
theorem geneIv_of_genomicToGene {g : Gene} {lo hi a b : Nat} (ha : genomicToGene g lo = .ok a)
    (hb : genomicToGene g hi = .ok b) :
    geneIv g ⟨lo, hi + 1⟩ = match g.strand with
      | .plus => ⟨a, b + 1⟩
      | .minus => ⟨b, a + 1⟩ := by
  obtain ⟨ra, rfl⟩ := genomicToGene_eq_ok_iff.mp ha
  obtain ⟨rb, rfl⟩ := genomicToGene_eq_ok_iff.mp hb
  unfold geneIv
  cases g.strand
  · exact congrArg (Iv.mk _) (Nat.sub_add_comm rb.1)
  · show (⟨g.loc.stop - (hi + 1), g.loc.stop - lo⟩ : Iv) =
      ⟨g.loc.stop - 1 - hi, g.loc.stop - 1 - lo + 1⟩
    rw [Nat.sub_right_comm _ 1 lo, Nat.sub_add_cancel (Nat.sub_pos_of_lt ra.2), Nat.sub_sub,
      Nat.add_comm 1 hi]

theorem geneSeq_slice {chrom : List Char} {g : Gene} {b : Iv}
    (hc : g.loc.stop ≤ chrom.length) (hin : InGene g b) :
    chromSlice (geneSeq chrom g) (geneIv g b) =
      match g.strand with
      | .plus => chromSlice chrom b
      | .minus => revComp (chromSlice chrom b) := by
  obtain ⟨h1, h2, h3⟩ := hin
  unfold geneSeq geneIv
  cases g.strand
  · exact chromSlice_chromSlice chrom h1 h3
  · dsimp only
    rw [← Nat.sub_sub_sub_cancel_right (Nat.le_trans h1 h2), ← Nat.sub_sub_sub_cancel_right h1,
      ← chromSlice_length hc, chromSlice_revComp _ (Nat.sub_le_sub_right h2 _)]
    exact congrArg revComp (chromSlice_chromSlice chrom h1 h3)

end MoPepGen
