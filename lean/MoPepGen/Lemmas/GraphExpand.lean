/-
Layer G: what splitting a node does to the language of a graph.

`Expand G G' t a b x`: `G'` is `G` with node `t` cut in two — `t` keeps the first part `a` of its
sequence, a NEW node `r` (index `G.size`) gets the rest `b` and the successors of `t`, and a NEW
leaf `f` (index `G.size + 1`) with sequence `x` hangs on `t` beside `r`.  This is what the final
loop of `ThreeFrameTVG.translate` does with a node that holds an annotated CDS end which is not a
stop codon (`PVGNode.split_node` + the fake stop node).

`Expand.language`: from every old node the language of `G'` is the language of `G` plus, for every
walk that reaches `t`, the sequence spelled up to `t` followed by `a ++ x`.
`Expand.reach`: the walks to any other old node spell the same sequences in `G'` and `G`.
Both directions of both go step by step: a step of `G` is one or two steps of `G'`
(`Expand.lift_step`), a step of `G'` from an old node or from `r` is a step of `G`
(`Expand.sound_step`).
`Expands.language`: the same for a chain of such cuts, each of a node of the graph before the first.
-/
import MoPepGen.Lemmas.Graph
namespace MoPepGen.Graph
open MoPepGen MoPepGen.Spec

/-- `w` is the sequence of a maximal path from `i` -/
inductive Acc (G : Graph) : Nat → List Char → Prop
  | leaf {i : Nat} : i < G.size → succs G i = [] → Acc G i (nodeSeq G i)
  | step {i o : Nat} {w : List Char} : i < G.size → o ∈ succs G i → Acc G o w →
      Acc G i (nodeSeq G i ++ w)

theorem acc_iff (G : Graph) (i : Nat) (w : List Char) :
    Acc G i w ↔ ∃ p, MaxPath G i p ∧ pathSeq G p = w := by
  constructor
  · intro h
    induction h with
    | leaf hi hs => exact ⟨[_], MaxPath.leaf hi hs, List.flatMap_singleton ..⟩
    | step hi ho _ ih =>
      obtain ⟨p, hp, rfl⟩ := ih
      exact ⟨_ :: p, MaxPath.step hi ho hp, rfl⟩
  · rintro ⟨p, hp, rfl⟩
    induction hp with
    | leaf hi hs => rw [pathSeq, List.flatMap_singleton]; exact Acc.leaf hi hs
    | step hi ho _ ih => exact Acc.step hi ho ih

/-- `u` is the sequence spelled by a walk from `i` up to (excluding) the node `t` -/
inductive Reach (G : Graph) (t : Nat) : Nat → List Char → Prop
  | here : t < G.size → Reach G t t []
  | step {i o : Nat} {u : List Char} : i < G.size → o ∈ succs G i → Reach G t o u →
      Reach G t i (nodeSeq G i ++ u)

structure Expand (G G' : Graph) (t : Nat) (a b x : List Char) : Prop where
  size : G'.size = G.size + 2
  tlt : t < G.size
  /-- successors are old nodes -/
  closed : ∀ i o, o ∈ succs G i → o < G.size
  oldSuccs : ∀ i, i < G.size → i ≠ t → succs G' i = succs G i
  oldSeq : ∀ i, i < G.size → i ≠ t → nodeSeq G' i = nodeSeq G i
  tSuccs : succs G' t = [G.size, G.size + 1]
  tSeq : nodeSeq G' t = a
  rSuccs : succs G' G.size = succs G t
  rSeq : nodeSeq G' G.size = b
  fSuccs : succs G' (G.size + 1) = []
  fSeq : nodeSeq G' (G.size + 1) = x
  cut : a ++ b = nodeSeq G t

namespace Expand
variable {G G' : Graph} {t : Nat} {a b x : List Char}

theorem lt' (h : Expand G G' t a b x) {j : Nat} (hj : j < G.size + 2) : j < G'.size := h.size ▸ hj

theorem closed' (h : Expand G G' t a b x) : ∀ i o, o ∈ succs G' i → o < G'.size := by
  intro i o ho
  rw [h.size]
  by_cases hit : i = t
  · rw [hit, h.tSuccs] at ho
    rcases List.mem_cons.mp ho with rfl | ho
    · exact Nat.lt_add_of_pos_right (by decide)
    · cases List.mem_singleton.mp ho; exact Nat.lt_succ_self _
  by_cases hi : i < G.size
  · rw [h.oldSuccs i hi hit] at ho
    exact Nat.lt_add_right 2 (h.closed i o ho)
  by_cases hr : i = G.size
  · rw [hr, h.rSuccs] at ho
    exact Nat.lt_add_right 2 (h.closed _ o ho)
  by_cases hf : i = G.size + 1
  · rw [hf, h.fSuccs] at ho; cases ho
  · -- outside the graph: no successors
    have : G'.size ≤ i := by rw [h.size]; omega
    rw [succs, Array.getElem?_eq_none this] at ho; cases ho

/-- a step `j → o` of `G` is one step of `G'`, or two through the new node if `j = t`, spelling the
same: whatever is carried backwards along the steps of `G'` is carried along the steps of `G` -/
theorem lift_step (h : Expand G G' t a b x) {X : Nat → List Char → Prop}
    (hX : ∀ {i o w}, i < G'.size → o ∈ succs G' i → X o w → X i (nodeSeq G' i ++ w))
    {j o : Nat} {w : List Char} (hj : j < G.size) (ho : o ∈ succs G j) (hw : X o w) :
    X j (nodeSeq G j ++ w) := by
  by_cases hjt : j = t
  · subst hjt
    have hr := hX (h.lt' (Nat.lt_add_of_pos_right (by decide))) (h.rSuccs ▸ ho) hw
    have := hX (h.lt' (Nat.lt_add_right 2 hj)) (h.tSuccs ▸ List.mem_cons_self) hr
    rwa [h.tSeq, h.rSeq, ← List.append_assoc, h.cut] at this
  · have := hX (h.lt' (Nat.lt_add_right 2 hj)) ((h.oldSuccs j hj hjt).symm ▸ ho) hw
    rwa [h.oldSeq j hj hjt] at this

/-- the other way round: a step `j → o` of `G'` from an old node or from the new node `r`, read in
`G` — `Y` at an old node as it is, at `r` as `Y` at `t` with `a` in front; `hf`: the step `t → f` -/
theorem sound_step (h : Expand G G' t a b x) {Y : Nat → List Char → Prop}
    (hY : ∀ {i o w}, i < G.size → o ∈ succs G i → Y o w → Y i (nodeSeq G i ++ w))
    {j o : Nat} {w : List Char} (ho : o ∈ succs G' j) (hf : o = G.size + 1 → Y t (a ++ w))
    (ih : (o < G.size → Y o w) ∧ (o = G.size → Y t (a ++ w))) :
    (j < G.size → Y j (nodeSeq G' j ++ w)) ∧ (j = G.size → Y t (a ++ (nodeSeq G' j ++ w))) := by
  constructor
  · intro hj
    by_cases hjt : j = t
    · subst hjt
      rw [h.tSuccs] at ho
      rw [h.tSeq]
      rcases List.mem_cons.mp ho with ho | ho
      · exact ih.2 ho
      · exact hf (List.mem_singleton.mp ho)
    · rw [h.oldSuccs j hj hjt] at ho
      rw [h.oldSeq j hj hjt]
      exact hY hj ho (ih.1 (h.closed j o ho))
  · intro hj
    rw [hj, h.rSuccs] at ho
    rw [hj, h.rSeq, ← List.append_assoc, h.cut]
    exact hY h.tlt ho (ih.1 (h.closed t o ho))

theorem acc_leaf_eq (h : Expand G G' t a b x) {w : List Char} (hw : Acc G' (G.size + 1) w) : w = x := by
  cases hw with
  | leaf _ _ => exact h.fSeq
  | step _ ho _ => rw [h.fSuccs] at ho; cases ho

theorem acc_leaf (h : Expand G G' t a b x) : Acc G' (G.size + 1) x :=
  h.fSeq ▸ Acc.leaf (h.lt' (Nat.lt_succ_self _)) h.fSuccs

/-- the language of the old graph, or a walk to `t` followed by the cut-off end -/
def OldOrCut (G : Graph) (t : Nat) (a x : List Char) (j : Nat) (w : List Char) : Prop :=
  Acc G j w ∨ ∃ u, Reach G t j u ∧ w = u ++ a ++ x

theorem oldOrCut_step {j o : Nat} {w : List Char} (hj : j < G.size) (ho : o ∈ succs G j)
    (hq : OldOrCut G t a x o w) : OldOrCut G t a x j (nodeSeq G j ++ w) := by
  rcases hq with hq | ⟨u, hu, rfl⟩
  · exact Or.inl (Acc.step hj ho hq)
  · exact Or.inr ⟨_, Reach.step hj ho hu, by simp only [List.append_assoc]⟩

theorem language_sound (h : Expand G G' t a b x) {j : Nat} {w : List Char} (hw : Acc G' j w) :
    (j < G.size → OldOrCut G t a x j w) ∧ (j = G.size → OldOrCut G t a x t (a ++ w)) := by
  induction hw with
  | @leaf j hj hs =>
    constructor
    · intro hjo
      by_cases hjt : j = t
      · rw [hjt, h.tSuccs] at hs; cases hs
      · rw [h.oldSuccs j hjo hjt] at hs
        rw [h.oldSeq j hjo hjt]
        exact Or.inl (Acc.leaf hjo hs)
    · intro hjr
      rw [hjr, h.rSuccs] at hs
      rw [hjr, h.rSeq, h.cut]
      exact Or.inl (Acc.leaf h.tlt hs)
  | @step j o w hj ho hacc ih =>
    refine h.sound_step (Y := OldOrCut G t a x) oldOrCut_step ho (fun hof => ?_) ih
    subst hof
    rw [h.acc_leaf_eq hacc]
    exact Or.inr ⟨[], Reach.here h.tlt, rfl⟩

theorem acc_lift (h : Expand G G' t a b x) {j : Nat} {w : List Char} (hw : Acc G j w) : Acc G' j w := by
  induction hw with
  | @leaf j hj hs =>
    by_cases hjt : j = t
    · subst hjt
      have hr := Acc.leaf (h.lt' (Nat.lt_add_of_pos_right (by decide))) (h.rSuccs.trans hs)
      have := Acc.step (h.lt' (Nat.lt_add_right 2 hj)) (h.tSuccs ▸ List.mem_cons_self) hr
      rwa [h.tSeq, h.rSeq, h.cut] at this
    · have := Acc.leaf (h.lt' (Nat.lt_add_right 2 hj)) ((h.oldSuccs j hj hjt).trans hs)
      rwa [h.oldSeq j hj hjt] at this
  | step hj ho _ ih => exact h.lift_step (X := Acc G') Acc.step hj ho ih

theorem reach_end (h : Expand G G' t a b x) {j : Nat} {u : List Char} (hu : Reach G t j u) :
    Acc G' j (u ++ a ++ x) := by
  induction hu with
  | here ht =>
    have := Acc.step (h.lt' (Nat.lt_add_right 2 ht))
      (h.tSuccs ▸ List.mem_cons_of_mem _ List.mem_cons_self) h.acc_leaf
    rwa [h.tSeq] at this
  | step hj ho _ ih =>
    have := h.lift_step (X := Acc G') Acc.step hj ho ih
    rwa [← List.append_assoc, ← List.append_assoc] at this

theorem language (h : Expand G G' t a b x) {j : Nat} (hj : j < G.size) (w : List Char) :
    Acc G' j w ↔ Acc G j w ∨ ∃ u, Reach G t j u ∧ w = u ++ a ++ x := by
  constructor
  · intro hw; exact (h.language_sound hw).1 hj
  · rintro (hw | ⟨u, hu, rfl⟩)
    · exact h.acc_lift hw
    · exact h.reach_end hu

theorem reach_sound (h : Expand G G' t a b x) {t2 : Nat} (ht2 : t2 < G.size)
    {j : Nat} {u : List Char} (hu : Reach G' t2 j u) :
    (j < G.size → Reach G t2 j u) ∧ (j = G.size → Reach G t2 t (a ++ u)) := by
  induction hu with
  | here _ => exact ⟨fun _ => Reach.here ht2, fun hc => absurd hc (Nat.ne_of_lt ht2)⟩
  | @step j o u hj ho hr ih =>
    refine h.sound_step (Y := Reach G t2) Reach.step ho (fun hof => ?_) ih
    -- no walk to an old node starts at the new leaf
    subst hof
    cases hr with
    | here _ => exact absurd ht2 (Nat.not_lt_of_le (Nat.le_succ _))
    | step _ ho' _ => rw [h.fSuccs] at ho'; cases ho'

theorem reach_lift (h : Expand G G' t a b x) {t2 j : Nat} {u : List Char} (hu : Reach G t2 j u) :
    Reach G' t2 j u := by
  induction hu with
  | here ht2 => exact Reach.here (h.lt' (Nat.lt_add_right 2 ht2))
  | step hj ho _ ih => exact h.lift_step (X := Reach G' t2) Reach.step hj ho ih

theorem reach (h : Expand G G' t a b x) {t2 j : Nat} (ht2 : t2 < G.size) (hj : j < G.size)
    (u : List Char) : Reach G' t2 j u ↔ Reach G t2 j u :=
  ⟨fun hu => (h.reach_sound ht2 hu).1 hj, h.reach_lift⟩

end Expand

/-- the nodes of a walk from `i` up to (excluding) the node `t` -/
inductive NWalk (G : Graph) (t : Nat) : Nat → List Nat → Prop
  | here : t < G.size → NWalk G t t []
  | step {i o : Nat} {p : List Nat} : i < G.size → o ∈ succs G i → NWalk G t o p → NWalk G t i (i :: p)

theorem reach_iff_walk (G : Graph) (t i : Nat) (u : List Char) :
    Reach G t i u ↔ ∃ p, NWalk G t i p ∧ u = pathSeq G p := by
  constructor
  · intro h
    induction h with
    | here ht => exact ⟨[], NWalk.here ht, rfl⟩
    | step hi ho _ ih =>
      obtain ⟨p, hp, rfl⟩ := ih
      exact ⟨_ :: p, NWalk.step hi ho hp, rfl⟩
  · rintro ⟨p, hp, rfl⟩
    induction hp with
    | here ht => exact Reach.here ht
    | step hi ho _ ih => exact Reach.step hi ho ih

/-- a chain of expansions, one per listed node `t` with the kept part `a` of its sequence -/
inductive Expands (x : List Char) : Graph → List (Nat × List Char) → Graph → Prop
  | nil {G : Graph} : Expands x G [] G
  | cons {G G1 G2 : Graph} {t : Nat} {a b : List Char} {rest : List (Nat × List Char)} :
      Expand G G1 t a b x → Expands x G1 rest G2 → Expands x G ((t, a) :: rest) G2

theorem Expands.language {x : List Char} {G G2 : Graph} {T : List (Nat × List Char)}
    (h : Expands x G T G2) : (∀ ta ∈ T, ta.1 < G.size) → ∀ j, j < G.size → ∀ w,
      (Acc G2 j w ↔ Acc G j w ∨ ∃ ta ∈ T, ∃ u, Reach G ta.1 j u ∧ w = u ++ ta.2 ++ x) := by
  induction h with
  | nil => intro _ j _ w; simp
  | @cons G G1 G2 t a b rest he _ ih =>
    intro hT j hj w
    have hsz : G1.size = G.size + 2 := he.size
    have hT1 : ∀ ta ∈ rest, ta.1 < G1.size := fun ta hta =>
      hsz ▸ Nat.lt_add_right 2 (hT ta (List.mem_cons_of_mem _ hta))
    rw [ih hT1 j (hsz ▸ Nat.lt_add_right 2 hj) w, he.language hj w, or_assoc]
    simp only [List.mem_cons, or_and_right, exists_or, exists_eq_left]
    -- the walks to the nodes still to be cut spell the same before and after this cut
    refine or_congr_right (or_congr_right (exists_congr fun ta => and_congr_right fun hta =>
      exists_congr fun u => and_congr_left fun _ => ?_))
    exact he.reach (hT ta (List.mem_cons_of_mem _ hta)) hj u

end MoPepGen.Graph
