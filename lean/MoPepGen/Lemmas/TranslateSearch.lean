/-
The `while queue` search of `ThreeFrameTVG.translate` (`Model/Translate.lean`: `visitEdge`,
`visitEdges`, `processItem`, `bfs`).

A node array is looked at through three observations only (`outOf`, `presentAt`, `coreAt`);
`truncated` is not observed.  Every step of the search adds one out-edge `p → q` and possibly
makes `q` present (`EdgeAdded`); `Inv.step` says once what that does to the invariant `Inv` (one
`PVGNode` per reached TVG node, named `pix o`; out-edges of a finished node = the images of the
out-edges of its TVG node, or the stop node).  The loops are then taken by `visitEdges_ind` and
`bfs_ind`.  At the end of the search `Inv` gives `Final`, and `TermInv` says which nodes are on
`terminal_nodes`.
-/
import MoPepGen.Model.Translate
namespace MoPepGen.Translate
open MoPepGen MoPepGen.Spec MoPepGen.Graph

variable {g : TGraphIn} {st st' : St} {ns ns' : Array PNode}

theorem lt_size_of_getElem? {α : Type} {xs : Array α} {i : Nat} {a : α} (h : xs[i]? = some a) :
    i < xs.size :=
  let ⟨hlt, _⟩ := Array.getElem_of_getElem? h; hlt

theorem pix_ne_root (o : Nat) : pix o ≠ rootIx := Nat.succ_ne_zero _
theorem pix_ne_stop (o : Nat) : pix o ≠ stopIx := fun h => Nat.succ_ne_zero _ (Nat.succ.inj h)
theorem pix_inj {a b : Nat} (h : pix a = pix b) : a = b := Nat.add_right_cancel h

def outOf (ns : Array PNode) (i : Nat) : List Nat := (ns[i]?.map (·.out)).getD []
def presentAt (ns : Array PNode) (i : Nat) : Bool := (ns[i]?.map (·.present)).getD false

/-- the fields of a node that the search never changes once the node exists -/
def PNode.core (n : PNode) : List Char × Bool × Nat × List PVar × List Nat × Nat :=
  (n.seq, n.isNull, n.rf, n.vars, n.secs, n.level)

def coreAt (ns : Array PNode) (i : Nat) : Option (List Char × Bool × Nat × List PVar × List Nat × Nat) :=
  ns[i]?.map PNode.core

theorem presentAt_lt {i : Nat} (h : presentAt ns i = true) : i < ns.size := by
  rcases Nat.lt_or_ge i ns.size with h' | h'
  · exact h'
  · rw [presentAt, Array.getElem?_eq_none h'] at h; cases h

theorem map_getElem?_modify {α β : Type} (xs : Array α) (p : Nat) {f : α → α} {φ : α → β}
    (hf : ∀ a, φ (f a) = φ a) (i : Nat) : (xs.modify p f)[i]?.map φ = xs[i]?.map φ := by
  rw [Array.getElem?_modify]
  split
  · rw [Option.map_map]; exact congrArg (Option.map · xs[i]?) (funext hf)
  · rfl

@[simp] theorem size_addEdge (ns : Array PNode) (p q : Nat) : (addEdge ns p q).size = ns.size :=
  Array.size_modify

@[simp] theorem size_setTruncated (ns : Array PNode) (p : Nat) : (setTruncated ns p).size = ns.size :=
  Array.size_modify

theorem mem_outOf_addEdge {p : Nat} (hp : p < ns.size) (q i x : Nat) :
    x ∈ outOf (addEdge ns p q) i ↔ x ∈ outOf ns i ∨ (i = p ∧ x = q) := by
  unfold outOf addEdge
  rw [Array.getElem?_modify]
  by_cases hip : p = i
  · subst hip
    rw [if_pos rfl, Array.getElem?_eq_getElem hp]
    simp only [Option.map_some, Option.getD_some, true_and]
    by_cases hc : ns[p].out.contains q = true
    · rw [if_pos hc]
      exact ⟨Or.inl, fun h => h.elim id fun h => h ▸ List.contains_iff_mem.mp hc⟩
    · rw [if_neg hc, List.mem_append, List.mem_singleton]
  · rw [if_neg hip]
    exact ⟨Or.inl, fun h => h.elim id fun h => absurd h.1.symm hip⟩

@[simp] theorem presentAt_addEdge (ns : Array PNode) (p q i : Nat) :
    presentAt (addEdge ns p q) i = presentAt ns i :=
  congrArg (·.getD false) (map_getElem?_modify (φ := (·.present)) ns p (fun n => by split <;> rfl) i)

@[simp] theorem coreAt_addEdge (ns : Array PNode) (p q i : Nat) :
    coreAt (addEdge ns p q) i = coreAt ns i :=
  map_getElem?_modify (φ := PNode.core) ns p (fun n => by split <;> rfl) i

theorem map_getElem?_setTruncated {α : Type} (φ : PNode → α)
    (hφ : ∀ n, φ { n with truncated := true } = φ n) (ns : Array PNode) (p i : Nat) :
    (setTruncated ns p)[i]?.map φ = ns[i]?.map φ :=
  map_getElem?_modify ns p hφ i

@[simp] theorem outOf_setTruncated (ns : Array PNode) (p i : Nat) :
    outOf (setTruncated ns p) i = outOf ns i :=
  congrArg (·.getD []) (map_getElem?_setTruncated (·.out) (fun _ => rfl) ns p i)

@[simp] theorem presentAt_setTruncated (ns : Array PNode) (p i : Nat) :
    presentAt (setTruncated ns p) i = presentAt ns i :=
  congrArg (·.getD false) (map_getElem?_setTruncated (·.present) (fun _ => rfl) ns p i)

@[simp] theorem coreAt_setTruncated (ns : Array PNode) (p i : Nat) :
    coreAt (setTruncated ns p) i = coreAt ns i :=
  map_getElem?_setTruncated PNode.core (fun _ => rfl) ns p i

theorem outOf_set (ns : Array PNode) (j : Nat) (pn : PNode) (i : Nat) (hj : j < ns.size) :
    outOf (ns.setIfInBounds j pn) i = if j = i then pn.out else outOf ns i := by
  unfold outOf
  rw [Array.getElem?_setIfInBounds, if_pos hj]
  split <;> rfl

theorem presentAt_set (ns : Array PNode) (j : Nat) (pn : PNode) (i : Nat) (hj : j < ns.size) :
    presentAt (ns.setIfInBounds j pn) i = if j = i then pn.present else presentAt ns i := by
  unfold presentAt
  rw [Array.getElem?_setIfInBounds, if_pos hj]
  split <;> rfl

theorem coreAt_set (ns : Array PNode) (j : Nat) (pn : PNode) (i : Nat) (hj : j < ns.size) :
    coreAt (ns.setIfInBounds j pn) i = if j = i then some pn.core else coreAt ns i := by
  unfold coreAt
  rw [Array.getElem?_setIfInBounds, if_pos hj]
  split <;> rfl

/-- `ns'` is `ns` with the out-edge `p → q` added; nothing else changes for the observations,
except that the slot `q` may have become present on the way -/
structure EdgeAdded (ns ns' : Array PNode) (p q : Nat) : Prop where
  size : ns'.size = ns.size
  outs : ∀ i x, x ∈ outOf ns' i ↔ x ∈ outOf ns i ∨ (i = p ∧ x = q)
  mono : ∀ i, presentAt ns i = true → presentAt ns' i = true ∧ coreAt ns' i = coreAt ns i
  fresh : ∀ i, presentAt ns' i = true → presentAt ns i = true ∨ i = q

theorem EdgeAdded.present_eq {p q : Nat} (h : EdgeAdded ns ns' p q) {i : Nat}
    (hi : i ≠ q) : presentAt ns' i = presentAt ns i := by
  cases h' : presentAt ns' i
  · cases h0 : presentAt ns i
    · rfl
    · rw [(h.mono i h0).1] at h'; cases h'
  · exact ((h.fresh i h').resolve_right hi).symm

theorem EdgeAdded.present_eq_of_present {p q : Nat} (h : EdgeAdded ns ns' p q)
    (hq : presentAt ns q = true) (i : Nat) : presentAt ns' i = presentAt ns i := by
  by_cases hi : i = q
  · rw [hi, hq, (h.mono q hq).1]
  · exact h.present_eq hi

/-- the shape of the leaf branch of `processItem` (`c = g.clip`) and of the already-visited branch of
`visitEdge` (`c = false`) -/
theorem EdgeAdded.old {p : Nat} (hp : p < ns.size) (q : Nat) (c : Bool) :
    EdgeAdded ns (if c then setTruncated (addEdge ns p q) p else addEdge ns p q) p q := by
  cases c
  · exact ⟨size_addEdge .., mem_outOf_addEdge hp q, fun i h => by simp [h],
      fun i h => Or.inl (by simpa using h)⟩
  · exact ⟨by simp, fun i x => by rw [if_pos rfl, outOf_setTruncated]; exact mem_outOf_addEdge hp q i x,
      fun i h => by simp [h], fun i h => Or.inl (by simpa using h)⟩

/-- the shape of the new-node branch of `visitEdge` -/
theorem EdgeAdded.new {p j : Nat} {pn : PNode} (hp : p < ns.size) (hj : j < ns.size)
    (hv : presentAt ns j = false) (habs : outOf ns j = []) (hout : pn.out = [])
    (hpres : pn.present = true) (c : Bool)
    (hns' : ns' = addEdge ((if c then setTruncated ns p else ns).setIfInBounds j pn) p j) :
    EdgeAdded ns ns' p j ∧ presentAt ns' j = true ∧ coreAt ns' j = some pn.core := by
  subst hns'
  -- `ns1`: the array the node is stored into; it has the observations of `ns`
  generalize hns1 : (if c then setTruncated ns p else ns) = ns1
  have hsz : ns1.size = ns.size := by subst hns1; cases c <;> simp
  have hout1 : ∀ i, outOf ns1 i = outOf ns i := by subst hns1; cases c <;> simp
  have hpr1 : ∀ i, presentAt ns1 i = presentAt ns i := by subst hns1; cases c <;> simp
  have hco1 : ∀ i, coreAt ns1 i = coreAt ns i := by subst hns1; cases c <;> simp
  have hj1 : j < ns1.size := hsz ▸ hj
  have hp1 : p < (ns1.setIfInBounds j pn).size := by rw [Array.size_setIfInBounds, hsz]; exact hp
  refine ⟨⟨by rw [size_addEdge, Array.size_setIfInBounds, hsz], ?_, ?_, ?_⟩, ?_, ?_⟩
  · intro i x
    rw [mem_outOf_addEdge hp1, outOf_set _ _ _ _ hj1, hout1]
    by_cases hi : j = i
    · rw [if_pos hi, hout, ← hi, habs]
    · rw [if_neg hi]
  · intro i hi
    have hne : ¬ j = i := fun h => by rw [h, hi] at hv; cases hv
    rw [presentAt_addEdge, presentAt_set _ _ _ _ hj1, coreAt_addEdge, coreAt_set _ _ _ _ hj1,
      if_neg hne, if_neg hne, hpr1, hco1]
    exact ⟨hi, rfl⟩
  · intro i hi
    rw [presentAt_addEdge, presentAt_set _ _ _ _ hj1, hpr1] at hi
    by_cases hji : j = i
    · exact Or.inr hji.symm
    · rw [if_neg hji] at hi; exact Or.inl hi
  · rw [presentAt_addEdge, presentAt_set _ _ _ _ hj1, if_pos rfl, hpres]
  · rw [coreAt_addEdge, coreAt_set _ _ _ _ hj1, if_pos rfl]

theorem mkNode_ok {n : DNode} {pn : PNode} (h : mkNode g n = .ok pn) :
    ∃ aa secs, (if g.isCirc then Except.ok (nodeAA n, [])
        else fixSelenocysteines (n.locs.map aaLoc) g.sect (nodeAA n)) = .ok (aa, secs) ∧
      pn = { seq := if aa.isEmpty && n.out.isEmpty && !g.clip then ['*'] else aa, rf := n.rf,
             vars := n.vars.map toProteinCoordinates, secs := secs, level := n.level } := by
  unfold mkNode at h
  split at h
  · cases h
  · split at h
    · cases h
    · rename_i aa secs heq
      cases h
      exact ⟨aa, secs, heq, rfl⟩

theorem mkNode_out {n : DNode} {pn : PNode} (h : mkNode g n = .ok pn) :
    pn.out = [] ∧ pn.present = true := by
  obtain ⟨_, _, _, rfl⟩ := mkNode_ok h
  exact ⟨rfl, rfl⟩

theorem processItem_ok {d p : Nat} (h : processItem g st d p = .ok st') :
    ∃ dn, g.nodes[d]? = some dn ∧
      ((dn.out = [] ∧ st' = { st with nodes :=
          (if g.clip then setTruncated (addEdge st.nodes p stopIx) p else addEdge st.nodes p stopIx) }) ∨
       (dn.out ≠ [] ∧ visitEdges g dn.out.length p st dn.out = .ok st')) := by
  unfold processItem at h
  split at h
  · cases h
  · rename_i dn hd
    refine ⟨dn, hd, ?_⟩
    split at h
    · rename_i hleaf
      cases h
      exact Or.inl ⟨List.isEmpty_iff.mp hleaf, rfl⟩
    · rename_i hne
      exact Or.inr ⟨fun hc => hne (List.isEmpty_iff.mpr hc), h⟩

theorem translateCore_ok (h : translateCore g = .ok st) :
    bfs g (g.nodes.size + g.frames.length + 1) (initSt g) = .ok st := by
  unfold translateCore at h
  split at h
  · cases h
  · exact h

/-- the edge loop over `es`, with an invariant `I rest s` that may speak of the edges still to be
visited -/
theorem visitEdges_ind {nOut p : Nat} {es : List (Nat × EType)}
    {I : List (Nat × EType) → St → Prop}
    (hstep : ∀ e rest s s', e ∈ es → I (e :: rest) s → visitEdge g nOut p s e.1 = .ok s' → I rest s') :
    ∀ (rest : List (Nat × EType)) (st : St), (∀ e ∈ rest, e ∈ es) → I rest st →
      visitEdges g nOut p st rest = .ok st' → I [] st'
  | [] => fun st _ hI h => by cases h; exact hI
  | e :: rest => fun st hsub hI h => by
    rw [visitEdges] at h
    split at h
    · cases h
    · rename_i st1 h1
      exact visitEdges_ind hstep rest st1 (fun x hx => hsub x (List.mem_cons_of_mem _ hx))
        (hstep e rest st st1 (hsub e List.mem_cons_self) hI h1) h

theorem bfs_ind {I : St → Prop}
    (hstep : ∀ (st : St) (d p : Nat) (q : List (Nat × Nat)) (st1 : St), I st → st.queue = (d, p) :: q →
      processItem g { st with queue := q } d p = .ok st1 → I st1) :
    ∀ (fuel : Nat) (st st' : St), I st → bfs g fuel st = .ok st' → I st' ∧ st'.queue = []
  | 0 => fun st st' hI h => by
    rw [bfs] at h
    split at h
    · rename_i he
      cases h
      exact ⟨hI, List.isEmpty_iff.mp he⟩
    · cases h
  | fuel + 1 => fun st st' hI h => by
    rw [bfs] at h
    split at h
    · rename_i hq
      cases h
      exact ⟨hI, hq⟩
    · rename_i d p q hq
      split at h
      · cases h
      · rename_i st1 h1
        exact bfs_ind hstep fuel st1 st' (hstep st d p q st1 hI hq h1) h

/-- `p` is the `PVGNode` handed down with the queue item `d`: the root for a frame root,
`visited[d]` otherwise -/
def ItemOk (g : TGraphIn) (ns : Array PNode) (dp : Nat × Nat) : Prop :=
  (dp.2 = rootIx ∧ dp.1 ∈ g.frames) ∨ (dp.2 = pix dp.1 ∧ presentAt ns (pix dp.1) = true)

/-- the out-edge `q` of the PVG node that stands for the TVG node `dn`: the stop node for a node
without out-edges, else the image of one of its successors, which exists -/
def EdgeOk (ns : Array PNode) (dn : DNode) (q : Nat) : Prop :=
  (q = stopIx ∧ dn.out = []) ∨ ∃ e ∈ dn.out, q = pix e.1 ∧ presentAt ns (pix e.1) = true

/-- all out-edges of `dn` have their image among `outs` -/
def OutsComplete (outs : List Nat) (dn : DNode) : Prop :=
  (dn.out = [] → stopIx ∈ outs) ∧ ∀ e ∈ dn.out, pix e.1 ∈ outs

/-- the loop invariant; `extra` = the item being processed (already taken from the queue) -/
structure Inv (g : TGraphIn) (st : St) (extra : List (Nat × Nat)) : Prop where
  size : st.nodes.size = g.nodes.size + 2
  node : ∀ o, presentAt st.nodes (pix o) = true →
    ∃ dn pn, g.nodes[o]? = some dn ∧ mkNode g dn = .ok pn ∧ coreAt st.nodes (pix o) = some pn.core
  sound : ∀ o dn, g.nodes[o]? = some dn → ∀ q ∈ outOf st.nodes (pix o), EdgeOk st.nodes dn q
  rootSound : ∀ q ∈ outOf st.nodes rootIx,
    ∃ d ∈ g.frames, ∃ dn, g.nodes[d]? = some dn ∧ EdgeOk st.nodes dn q
  complete : ∀ o dn, presentAt st.nodes (pix o) = true → g.nodes[o]? = some dn →
    (o, pix o) ∉ extra ++ st.queue → OutsComplete (outOf st.nodes (pix o)) dn
  rootComplete : ∀ d ∈ g.frames, ∀ dn, g.nodes[d]? = some dn →
    (d, rootIx) ∉ extra ++ st.queue → OutsComplete (outOf st.nodes rootIx) dn
  queue : ∀ dp ∈ extra ++ st.queue, ItemOk g st.nodes dp
  absentOut : ∀ i, presentAt st.nodes i = false → outOf st.nodes i = []
  rootPresent : presentAt st.nodes rootIx = true
  closed : ∀ i q, q ∈ outOf st.nodes i → q < st.nodes.size

theorem EdgeOk.mono {dn : DNode} {q : Nat}
    (hp : ∀ i, presentAt ns i = true → presentAt ns' i = true) (h : EdgeOk ns dn q) :
    EdgeOk ns' dn q :=
  h.imp id fun ⟨e, he, hq, hpr⟩ => ⟨e, he, hq, hp _ hpr⟩

theorem OutsComplete.mono {a b : List Nat} {dn : DNode} (hab : ∀ x ∈ a, x ∈ b)
    (h : OutsComplete a dn) : OutsComplete b dn :=
  ⟨fun h0 => hab _ (h.1 h0), fun e he => hab _ (h.2 e he)⟩

theorem ItemOk.mono {dp : Nat × Nat}
    (hp : ∀ i, presentAt ns i = true → presentAt ns' i = true) (h : ItemOk g ns dp) :
    ItemOk g ns' dp :=
  h.imp id fun ⟨h1, h2⟩ => ⟨h1, hp _ h2⟩

theorem Inv.item_lt {extra : List (Nat × Nat)} (hI : Inv g st extra)
    {dp : Nat × Nat} (h : dp ∈ extra ++ st.queue) :
    dp.2 < st.nodes.size ∧ presentAt st.nodes dp.2 = true := by
  rcases hI.queue dp h with ⟨h1, _⟩ | ⟨h1, h2⟩
  · rw [h1]; exact ⟨presentAt_lt hI.rootPresent, hI.rootPresent⟩
  · rw [h1]; exact ⟨presentAt_lt h2, h2⟩

theorem Inv.pop {d p : Nat} {q : List (Nat × Nat)} (hI : Inv g st [])
    (hq : st.queue = (d, p) :: q) : Inv g { st with queue := q } [(d, p)] :=
  have hqq : [(d, p)] ++ q = [] ++ st.queue := hq.symm
  ⟨hI.size, hI.node, hI.sound, hI.rootSound, fun o dn hp ho hn => hI.complete o dn hp ho (hqq ▸ hn),
    fun d' hd' dn h1 hn => hI.rootComplete d' hd' dn h1 (hqq ▸ hn), fun dp hdp => hI.queue dp (hqq ▸ hdp),
    hI.absentOut, hI.rootPresent, hI.closed⟩

theorem Inv.done {d p : Nat} {dn : DNode} (hI : Inv g st [(d, p)])
    (hd : g.nodes[d]? = some dn) (hc : OutsComplete (outOf st.nodes p) dn) : Inv g st [] := by
  refine ⟨hI.size, hI.node, hI.sound, hI.rootSound, ?_, ?_,
    fun dp hdp => hI.queue dp (List.mem_cons_of_mem _ hdp), hI.absentOut, hI.rootPresent, hI.closed⟩
  · intro o dn' hpres ho hnq
    by_cases hdp : (o, pix o) = (d, p)
    · cases hdp
      rw [hd] at ho; cases ho
      exact hc
    · exact hI.complete o dn' hpres ho fun h => (List.mem_cons.mp h).elim hdp hnq
  · intro d' hd' dn' h1 hnq
    by_cases hdp : (d', rootIx) = (d, p)
    · cases hdp
      rw [hd] at h1; cases h1
      exact hc
    · exact hI.rootComplete d' hd' dn' h1 fun h => (List.mem_cons.mp h).elim hdp hnq

/-- one step inside the item `(d, p)`: the out-edge `p → q` is added, `q` being a legitimate
out-edge for `d`, and the items `new` are put on the queue; a node that is present only now was made
by `mkNode` from its TVG node and is among `new` -/
theorem Inv.step {d p q : Nat} {dn : DNode} {new : List (Nat × Nat)} (hI : Inv g st [(d, p)])
    (hd : g.nodes[d]? = some dn) (hE : EdgeAdded st.nodes st'.nodes p q) (hq : EdgeOk st'.nodes dn q)
    (hqueue : st'.queue = st.queue ++ new) (hitems : ∀ dp ∈ new, ItemOk g st'.nodes dp)
    (hnode : ∀ o, presentAt st'.nodes (pix o) = true → presentAt st.nodes (pix o) = true ∨
      ((o, pix o) ∈ new ∧ ∃ n pn, g.nodes[o]? = some n ∧ mkNode g n = .ok pn ∧
        coreAt st'.nodes (pix o) = some pn.core)) :
    Inv g st' [(d, p)] := by
  have hdp : (d, p) ∈ [(d, p)] ++ st.queue := List.mem_cons_self
  obtain ⟨_, hppres⟩ := hI.item_lt hdp
  have hitem := hI.queue _ hdp
  have hmono : ∀ i, presentAt st.nodes i = true → presentAt st'.nodes i = true :=
    fun i h => (hE.mono i h).1
  have hsub : ∀ i x, x ∈ outOf st.nodes i → x ∈ outOf st'.nodes i :=
    fun i x hx => (hE.outs i x).mpr (Or.inl hx)
  -- nothing leaves the queue
  have hin : ∀ x, x ∈ [(d, p)] ++ st.queue → x ∈ [(d, p)] ++ st'.queue := by
    intro x hx
    rw [hqueue, ← List.append_assoc]
    exact List.mem_append_left _ hx
  -- the new edge leaves `p`, which stands for `d`
  have hnewEdge : ∀ o' dn', g.nodes[o']? = some dn' → pix o' = p → dn' = dn := by
    intro o' dn' ho' hpo
    rcases hitem with ⟨h1, _⟩ | ⟨h1, _⟩
    · exact absurd (hpo.trans h1) (pix_ne_root o')
    · cases pix_inj (hpo.trans h1)
      rw [hd] at ho'; cases ho'; rfl
  refine ⟨hE.size.trans hI.size, ?_, ?_, ?_, ?_, ?_, ?_, ?_, hmono _ hI.rootPresent, ?_⟩
  · intro o' ho'
    rcases hnode o' ho' with h | ⟨_, h⟩
    · obtain ⟨dn', pn', h1, h2, h3⟩ := hI.node o' h
      exact ⟨dn', pn', h1, h2, (hE.mono _ h).2.trans h3⟩
    · exact h
  · intro o' dn' ho' q' hq'
    rcases (hE.outs _ _).mp hq' with hq' | ⟨hpo, rfl⟩
    · exact (hI.sound o' dn' ho' q' hq').mono hmono
    · exact hnewEdge o' dn' ho' hpo ▸ hq
  · intro q' hq'
    rcases (hE.outs _ _).mp hq' with hq' | ⟨hpo, rfl⟩
    · obtain ⟨d', hd', dn', h1, h2⟩ := hI.rootSound q' hq'
      exact ⟨d', hd', dn', h1, h2.mono hmono⟩
    · rcases hitem with ⟨_, h2⟩ | ⟨h1, _⟩
      · exact ⟨d, h2, dn, hd, hq⟩
      · exact absurd (h1.symm.trans hpo.symm) (pix_ne_root d)
  · intro o' dn' hpres ho' hnq
    rcases hnode o' hpres with h | ⟨h, _⟩
    · exact (hI.complete o' dn' h ho' fun hc => hnq (hin _ hc)).mono (hsub _)
    · exact absurd (hqueue ▸ List.mem_append_right _ (List.mem_append_right _ h)) hnq
  · intro d' hd' dn' h1 hnq
    exact (hI.rootComplete d' hd' dn' h1 fun hc => hnq (hin _ hc)).mono (hsub _)
  · intro dp hdp'
    rw [hqueue, ← List.append_assoc] at hdp'
    rcases List.mem_append.mp hdp' with hc | hc
    · exact (hI.queue dp hc).mono hmono
    · exact hitems dp hc
  · intro i hi
    have hi1 : presentAt st.nodes i = false := by
      cases hpi : presentAt st.nodes i
      · rfl
      · rw [hmono i hpi] at hi; cases hi
    have hip : i ≠ p := fun hc => by rw [hc, hppres] at hi1; cases hi1
    apply List.eq_nil_iff_forall_not_mem.mpr
    intro x hx
    rcases (hE.outs _ _).mp hx with hx | ⟨hc, _⟩
    · rw [hI.absentOut i hi1] at hx; cases hx
    · exact hip hc
  · intro i q' hq'
    rw [hE.size]
    rcases (hE.outs _ _).mp hq' with hq' | ⟨_, rfl⟩
    · exact hI.closed i q' hq'
    · rcases hq with ⟨rfl, _⟩ | ⟨e, _, rfl, hpr⟩
      · rw [hI.size]; exact Nat.le_add_left 2 _
      · exact hE.size ▸ presentAt_lt hpr

/-- what one iteration of the edge loop does: the edge `p → pix o`, and, for an `o` seen for the
first time, its translation stored in slot `pix o`, `(o, pix o)` queued, and `terminal_nodes`
extended if the node holds a fake-stop site -/
theorem visitEdge_effect {nOut d p o : Nat} (hI : Inv g st [(d, p)])
    (h : visitEdge g nOut p st o = .ok st') :
    ∃ n, g.nodes[o]? = some n ∧ EdgeAdded st.nodes st'.nodes p (pix o) ∧
      ((presentAt st.nodes (pix o) = true ∧ st'.queue = st.queue ∧ st'.terminal = st.terminal) ∨
       (presentAt st.nodes (pix o) = false ∧ presentAt st'.nodes (pix o) = true ∧
         st'.queue = st.queue ++ [(o, pix o)] ∧
         ∃ pn site, mkNode g n = .ok pn ∧ coreAt st'.nodes (pix o) = some pn.core ∧
           terminalSite (orfEndOf g n) n pn = .ok site ∧
           st'.terminal = match site with
             | some k => st.terminal ++ [(pix o, k)]
             | none => st.terminal)) := by
  obtain ⟨hplt, _⟩ := hI.item_lt (dp := (d, p)) List.mem_cons_self
  unfold visitEdge at h
  split at h
  · cases h
  · rename_i n hn
    refine ⟨n, hn, ?_⟩
    split at h
    · rename_i hv
      cases h
      exact ⟨EdgeAdded.old hplt _ false, Or.inl ⟨hv, rfl, rfl⟩⟩
    · rename_i hv
      have hv' : presentAt st.nodes (pix o) = false := Bool.not_eq_true _ ▸ hv
      split at h
      · cases h
      · rename_i pn hpn
        split at h
        · cases h
        · rename_i site hsite
          obtain rfl : _ = st' := Except.ok.inj h
          dsimp only
          obtain ⟨hout, hpres⟩ := mkNode_out hpn
          have hj : pix o < st.nodes.size := by
            rw [hI.size]; exact Nat.add_lt_add_right (lt_size_of_getElem? hn) 2
          obtain ⟨hE, h1, h2⟩ := EdgeAdded.new hplt hj hv' (hI.absentOut _ hv') hout hpres
            (pn.seq.isEmpty && n.out.isEmpty && g.clip && nOut == 1) rfl
          exact ⟨hE, Or.inr ⟨hv', h1, rfl, pn, site, hpn, h2, hsite, rfl⟩⟩

theorem visitEdge_inv {nOut d p o : Nat} {ty : EType} {dn : DNode}
    (hI : Inv g st [(d, p)]) (hd : g.nodes[d]? = some dn) (ho : (o, ty) ∈ dn.out)
    (h : visitEdge g nOut p st o = .ok st') :
    Inv g st' [(d, p)] ∧ pix o ∈ outOf st'.nodes p ∧
      (∀ i x, x ∈ outOf st.nodes i → x ∈ outOf st'.nodes i) := by
  obtain ⟨n, hn, hE, hcase⟩ := visitEdge_effect hI h
  refine ⟨?_, (hE.outs _ _).mpr (Or.inr ⟨rfl, rfl⟩), fun i x hx => (hE.outs i x).mpr (Or.inl hx)⟩
  rcases hcase with ⟨hv, hq, _⟩ | ⟨_, hpr, hq, pn, _, hpn, hcore, _⟩
  · exact hI.step (new := []) hd hE (Or.inr ⟨(o, ty), ho, rfl, (hE.mono _ hv).1⟩)
      (hq.trans (List.append_nil _).symm) nofun
      fun o' h => Or.inl ((hE.fresh _ h).elim id fun e => e ▸ hv)
  · refine hI.step hd hE (Or.inr ⟨(o, ty), ho, rfl, hpr⟩) hq ?_ fun o' h => (hE.fresh _ h).imp id fun e => ?_
    · intro dp hdp
      cases List.mem_singleton.mp hdp
      exact Or.inr ⟨rfl, hpr⟩
    · cases pix_inj e
      exact ⟨List.mem_cons_self, n, pn, hn, hpn, hcore⟩

theorem processItem_inv {d p : Nat}
    (hI : Inv g st [(d, p)]) (h : processItem g st d p = .ok st') : Inv g st' [] := by
  obtain ⟨hplt, _⟩ := hI.item_lt (dp := (d, p)) List.mem_cons_self
  obtain ⟨dn, hd, ⟨hleaf, rfl⟩ | ⟨hne, h⟩⟩ := processItem_ok h
  · -- a node without out-edges: the stop node
    have hE := EdgeAdded.old hplt stopIx g.clip
    have hI' := hI.step (st' := { st with nodes := _ }) (new := []) hd hE (Or.inl ⟨rfl, hleaf⟩)
      (List.append_nil _).symm nofun fun o' h => Or.inl ((hE.fresh _ h).resolve_right (pix_ne_stop o'))
    exact hI'.done hd
      ⟨fun _ => (hE.outs _ _).mpr (Or.inr ⟨rfl, rfl⟩), fun e he => absurd (hleaf ▸ he) List.not_mem_nil⟩
  · -- the edge loop: an out-edge of `d` is still to be visited or has its image among the out-edges of `p`
    obtain ⟨hI', hall⟩ := visitEdges_ind
      (I := fun rest s => Inv g s [(d, p)] ∧ ∀ e ∈ dn.out, e ∈ rest ∨ pix e.1 ∈ outOf s.nodes p)
      (fun e rest s s' he ⟨hs, hall⟩ hv => by
        obtain ⟨hs', hnew, hold⟩ := visitEdge_inv (ty := e.2) hs hd he hv
        refine ⟨hs', fun x hx => (hall x hx).elim (fun hx' => ?_) fun hx' => Or.inr (hold _ _ hx')⟩
        exact (List.mem_cons.mp hx').elim (fun hxe => hxe ▸ Or.inr hnew) Or.inl)
      dn.out st (fun _ he => he) ⟨hI, fun _ he => Or.inl he⟩ h
    exact hI'.done hd ⟨fun h0 => absurd h0 hne, fun e he => (hall e he).resolve_left List.not_mem_nil⟩

theorem processItem_keeps {d p : Nat} {P : St → Prop}
    (hI : Inv g st [(d, p)]) (hP : P st) (h : processItem g st d p = .ok st')
    (hedge : ∀ nOut o s s', Inv g s [(d, p)] → P s → visitEdge g nOut p s o = .ok s' → P s')
    (hleaf : ∀ ns, EdgeAdded st.nodes ns p stopIx → P { st with nodes := ns }) : P st' := by
  obtain ⟨hplt, _⟩ := hI.item_lt (dp := (d, p)) List.mem_cons_self
  obtain ⟨dn, hd, ⟨_, rfl⟩ | ⟨_, h⟩⟩ := processItem_ok h
  · exact hleaf _ (EdgeAdded.old hplt stopIx g.clip)
  · exact (visitEdges_ind (I := fun _ s => Inv g s [(d, p)] ∧ P s)
      (fun e _ s s' he hs hv => ⟨(visitEdge_inv (ty := e.2) hs.1 hd he hv).1, hedge _ _ s s' hs.1 hs.2 hv⟩)
      dn.out st (fun _ he => he) ⟨hI, hP⟩ h).2

theorem bfs_inv : ∀ (fuel : Nat) (st st' : St), Inv g st [] →
    bfs g fuel st = .ok st' → Inv g st' [] ∧ st'.queue = [] :=
  bfs_ind fun _ _ _ _ _ hI hq h => processItem_inv (hI.pop hq) h

theorem initSt_outOf (g : TGraphIn) (i : Nat) : outOf (initSt g).nodes i = [] := by
  unfold outOf
  cases h : (initSt g).nodes[i]? with
  | none => rfl
  | some n =>
    have hm := Array.mem_of_getElem? h
    simp only [initSt, Array.mem_append, List.mem_toArray, List.mem_cons, List.not_mem_nil, or_false,
      Array.mem_replicate] at hm
    rcases hm with (rfl | rfl) | ⟨_, rfl⟩ <;> rfl

theorem initSt_present_pix (g : TGraphIn) (o : Nat) : presentAt (initSt g).nodes (pix o) = false := by
  unfold presentAt initSt
  rw [Array.getElem?_append_right (Nat.le_add_left 2 o), Array.getElem?_replicate]
  split <;> rfl

theorem initSt_inv (g : TGraphIn) : Inv g (initSt g) [] := by
  refine ⟨?_, ?_, ?_, ?_, ?_, ?_, ?_, fun i _ => initSt_outOf g i, ?_, ?_⟩
  · rw [initSt, Array.size_append, Array.size_replicate]; exact Nat.add_comm 2 _
  · intro o ho; rw [initSt_present_pix] at ho; cases ho
  · intro o dn _ q hq; rw [initSt_outOf] at hq; cases hq
  · intro q hq; rw [initSt_outOf] at hq; cases hq
  · intro o dn hp; rw [initSt_present_pix] at hp; cases hp
  · intro d hd dn _ hnq
    exact absurd (List.mem_map.mpr ⟨d, List.mem_reverse.mpr hd, rfl⟩) hnq
  · intro dp hdp
    obtain ⟨d, hd, rfl⟩ := List.mem_map.mp hdp
    exact Or.inl ⟨rfl, List.mem_reverse.mp hd⟩
  · unfold presentAt initSt
    rw [Array.getElem?_append_left (by decide)]
    rfl
  · intro i q hq; rw [initSt_outOf] at hq; cases hq

/-- what holds when the search of `translate` is over: every reached TVG node has its
translation, whose out-edges are exactly the images of its out-edges (the stop node for a leaf) -/
structure Final (g : TGraphIn) (st : St) : Prop where
  size : st.nodes.size = g.nodes.size + 2
  node : ∀ o, presentAt st.nodes (pix o) = true →
    ∃ dn pn, g.nodes[o]? = some dn ∧ mkNode g dn = .ok pn ∧ coreAt st.nodes (pix o) = some pn.core
  outs : ∀ o dn, presentAt st.nodes (pix o) = true → g.nodes[o]? = some dn → ∀ q,
    q ∈ outOf st.nodes (pix o) ↔
      (q = stopIx ∧ dn.out = []) ∨ ∃ e ∈ dn.out, q = pix e.1
  reach : ∀ o dn, presentAt st.nodes (pix o) = true → g.nodes[o]? = some dn →
    ∀ e ∈ dn.out, presentAt st.nodes (pix e.1) = true
  rootOuts : ∀ q, q ∈ outOf st.nodes rootIx ↔
    ∃ d ∈ g.frames, ∃ dn, g.nodes[d]? = some dn ∧ ((q = stopIx ∧ dn.out = []) ∨ ∃ e ∈ dn.out, q = pix e.1)
  rootReach : ∀ d ∈ g.frames, ∀ dn, g.nodes[d]? = some dn →
    ∀ e ∈ dn.out, presentAt st.nodes (pix e.1) = true
  closed : ∀ i q, q ∈ outOf st.nodes i → q < st.nodes.size

theorem EdgeOk.edge {dn : DNode} {q : Nat} (h : EdgeOk ns dn q) :
    (q = stopIx ∧ dn.out = []) ∨ ∃ e ∈ dn.out, q = pix e.1 :=
  h.imp id fun ⟨e, he, h1, _⟩ => ⟨e, he, h1⟩

theorem EdgeOk.present {dn : DNode} {o : Nat} (h : EdgeOk ns dn (pix o)) :
    presentAt ns (pix o) = true := by
  rcases h with ⟨h1, _⟩ | ⟨e, _, h1, h2⟩
  · exact absurd h1 (pix_ne_stop _)
  · exact pix_inj h1 ▸ h2

theorem OutsComplete.mem {outs : List Nat} {dn : DNode} {q : Nat} (hc : OutsComplete outs dn) :
    ((q = stopIx ∧ dn.out = []) ∨ ∃ e ∈ dn.out, q = pix e.1) → q ∈ outs := by
  rintro (⟨rfl, h0⟩ | ⟨e, he, rfl⟩)
  · exact hc.1 h0
  · exact hc.2 e he

theorem translateCore_final (h : translateCore g = .ok st) : Final g st := by
  obtain ⟨hI, hq⟩ := bfs_inv _ _ _ (initSt_inv g) (translateCore_ok h)
  have hnq : ∀ x : Nat × Nat, x ∉ [] ++ st.queue := fun x hx => by rw [hq] at hx; cases hx
  refine ⟨hI.size, hI.node, fun o dn hp ho q => ⟨fun hq' => (hI.sound o dn ho q hq').edge,
      (hI.complete o dn hp ho (hnq _)).mem⟩,
    fun o dn hp ho e he => (hI.sound o dn ho _ ((hI.complete o dn hp ho (hnq _)).2 e he)).present,
    fun q => ⟨fun hq' => ?_, fun ⟨d, hd, dn, h1, h2⟩ => (hI.rootComplete d hd dn h1 (hnq _)).mem h2⟩,
    fun d hd dn h1 e he => ?_, hI.closed⟩
  · obtain ⟨d, hd, dn, h1, h2⟩ := hI.rootSound q hq'
    exact ⟨d, hd, dn, h1, h2.edge⟩
  · obtain ⟨_, _, _, _, h2⟩ := hI.rootSound _ ((hI.rootComplete d hd dn h1 (hnq _)).2 e he)
    exact h2.present

/-- which nodes are on `terminal_nodes` -/
structure TermInv (g : TGraphIn) (st : St) : Prop where
  nodup : (st.terminal.map (·.1)).Nodup
  sound : ∀ tk ∈ st.terminal, ∃ o dn pn, tk.1 = pix o ∧ presentAt st.nodes (pix o) = true ∧
    g.nodes[o]? = some dn ∧ mkNode g dn = .ok pn ∧
    terminalSite (orfEndOf g dn) dn pn = .ok (some tk.2)
  complete : ∀ o dn pn k, presentAt st.nodes (pix o) = true → g.nodes[o]? = some dn →
    mkNode g dn = .ok pn → terminalSite (orfEndOf g dn) dn pn = .ok (some k) →
    (pix o, k) ∈ st.terminal

theorem TermInv.congr (hT : TermInv g st) (ht : st'.terminal = st.terminal)
    (hp : ∀ o, presentAt st'.nodes (pix o) = presentAt st.nodes (pix o)) : TermInv g st' := by
  refine ⟨ht ▸ hT.nodup, fun tk htk => ?_, fun o dn pn k h => ht ▸ hT.complete o dn pn k (hp o ▸ h)⟩
  obtain ⟨o, dn, pn, h1, h2, h3⟩ := hT.sound tk (ht ▸ htk)
  exact ⟨o, dn, pn, h1, hp o ▸ h2, h3⟩

theorem visitEdge_termInv {nOut d p o : Nat}
    (hI : Inv g st [(d, p)]) (hT : TermInv g st) (h : visitEdge g nOut p st o = .ok st') :
    TermInv g st' := by
  obtain ⟨n, hn, hE, ⟨hv, _, ht⟩ | ⟨hv, hnew, _, pn, site, hpn, _, hsite, ht⟩⟩ := visitEdge_effect hI h
  · -- nothing new
    exact hT.congr ht fun o' => hE.present_eq_of_present hv _
  -- the node `o` is new: every other node is as before, `o` is on the list iff it has a site
  have hold : ∀ o', o' ≠ o → presentAt st'.nodes (pix o') = presentAt st.nodes (pix o') :=
    fun o' ho' => hE.present_eq fun hc => ho' (pix_inj hc)
  have hsub : ∀ tk ∈ st.terminal, tk ∈ st'.terminal := by
    intro tk htk; rw [ht]; cases site
    · exact htk
    · exact List.mem_append_left _ htk
  refine ⟨?_, ?_, ?_⟩
  · rw [ht]
    cases site with
    | none => exact hT.nodup
    | some k =>
      rw [List.map_append, List.nodup_append]
      refine ⟨hT.nodup, List.nodup_cons.mpr ⟨List.not_mem_nil, List.nodup_nil⟩, ?_⟩
      intro a ha b hb
      obtain ⟨tk, htk, rfl⟩ := List.mem_map.mp ha
      obtain ⟨o', _, _, h1, h2, _⟩ := hT.sound tk htk
      cases List.mem_singleton.mp hb
      intro hc
      rw [h1] at hc
      rw [pix_inj hc, hv] at h2
      cases h2
  · intro tk htk
    have hcases : tk ∈ st.terminal ∨ site = some tk.2 ∧ tk.1 = pix o := by
      rw [ht] at htk
      cases site with
      | none => exact Or.inl htk
      | some k =>
        rcases List.mem_append.mp htk with htk | htk
        · exact Or.inl htk
        · cases List.mem_singleton.mp htk; exact Or.inr ⟨rfl, rfl⟩
    rcases hcases with htk | ⟨hs, h1⟩
    · obtain ⟨o', dn, pn', h1, h2, h3⟩ := hT.sound tk htk
      exact ⟨o', dn, pn', h1, (hE.mono _ h2).1, h3⟩
    · exact ⟨o, n, pn, h1, hnew, hn, hpn, hs ▸ hsite⟩
  · intro o' dn pn' k hp hdn hmk hts
    by_cases ho : o' = o
    · subst ho
      rw [hn] at hdn; cases hdn
      rw [hpn] at hmk; cases hmk
      rw [hsite] at hts; cases hts
      rw [ht]
      exact List.mem_append_right _ List.mem_cons_self
    · exact hsub _ (hT.complete o' dn pn' k (hold o' ho ▸ hp) hdn hmk hts)

theorem processItem_termInv {d p : Nat}
    (hI : Inv g st [(d, p)]) (hT : TermInv g st) (h : processItem g st d p = .ok st') :
    TermInv g st' :=
  processItem_keeps hI hT h (fun _ _ _ _ hI hT hv => visitEdge_termInv hI hT hv)
    fun _ hE => hT.congr rfl fun o => hE.present_eq (pix_ne_stop o)

theorem translateCore_termInv (h : translateCore g = .ok st) : TermInv g st := by
  have h0 : TermInv g (initSt g) :=
    ⟨List.nodup_nil, fun _ htk => (nomatch htk),
      fun o _ _ _ hp => by rw [initSt_present_pix] at hp; cases hp⟩
  refine (bfs_ind (I := fun s => Inv g s [] ∧ TermInv g s) ?_ _ _ _ ⟨initSt_inv g, h0⟩
    (translateCore_ok h)).1.2
  intro st d p q st1 hs hq h1
  exact ⟨processItem_inv (hs.1.pop hq) h1,
    processItem_termInv (hs.1.pop hq) ⟨hs.2.nodup, hs.2.sound, hs.2.complete⟩ h1⟩

end MoPepGen.Translate
