/-
Completeness half of "the graph of `create_variant_graph` IS the position automaton"
(`Model/Tvg.lean`, `Model/TvgLang.lean`): under the partition invariant of `Lemmas/Tvg.lean`
every ascending, strictly separated list of records that is `attached` along the frames has a
maximal path that takes exactly these records — walk the reference nodes of the frame from left
to right up to the node ending at the record's start, step into its variant node, continue from
the reference node its `variant_end` edge leads to (in whatever frame that is).  Conversely the
records of every maximal path are `attached`.
-/
import MoPepGen.Model.TvgLang
import MoPepGen.Lemmas.Tvg
import MoPepGen.Lemmas.Spec
import MoPepGen.Lemmas.Haplotype
namespace MoPepGen.Tvg
open MoPepGen MoPepGen.Spec MoPepGen.Graph

variable {t : List Char} {s : TState}

/-! ### the decidable predicates, as propositions -/

theorem isVarOf_iff {n : TNode} {g : Nat} {v : Var} :
    isVarOf n g v = true ↔ ∃ r sq, n = ⟨g, .var r, sq⟩ ∧ r.toVar = v := by
  obtain ⟨rf, kind, sq⟩ := n
  cases kind with
  | root => simp [isVarOf]
  | ref a b => simp [isVarOf]
  | var r =>
    simp only [isVarOf, Bool.and_eq_true, beq_iff_eq, TNode.mk.injEq, NKind.var.injEq]
    constructor
    · rintro ⟨rfl, h⟩; exact ⟨r, sq, ⟨rfl, rfl, rfl⟩, h⟩
    · rintro ⟨r', sq', ⟨rfl, rfl, rfl⟩, h⟩; exact ⟨rfl, h⟩

theorem carries_iff {g : Nat} {v : Var} :
    carries s g v = true ↔ ∃ k r, IsVar s k g r ∧ r.toVar = v := by
  simp only [carries, List.any_eq_true, isVarOf_iff]
  constructor
  · rintro ⟨n, hn, r, sq, rfl, hr⟩
    obtain ⟨k, hk⟩ := List.getElem?_of_mem hn
    exact ⟨k, r, ⟨sq, hk⟩, hr⟩
  · rintro ⟨k, r, ⟨sq, hk⟩, hr⟩
    exact ⟨_, List.mem_of_getElem? hk, r, sq, rfl, hr⟩

theorem mem_bridgeFrames {g g' : Nat} {v : Var} :
    g' ∈ bridgeFrames s g v ↔
      ∃ e ∈ s.edges, (∃ r, IsVar s e.src g r ∧ r.toVar = v) ∧ nodeFrame s e.dst = g' := by
  simp only [bridgeFrames, List.mem_map, List.mem_filter]
  constructor
  · rintro ⟨e, ⟨he, hsrc⟩, rfl⟩
    refine ⟨e, he, ?_, rfl⟩
    split at hsrc
    · rename_i n hn
      obtain ⟨r, sq, rfl, hr⟩ := isVarOf_iff.mp hsrc
      exact ⟨r, ⟨sq, hn⟩, hr⟩
    · cases hsrc
  · rintro ⟨e, he, ⟨r, ⟨sq, hn⟩, hr⟩, rfl⟩
    refine ⟨e, ⟨he, ?_⟩, rfl⟩
    rw [hn]
    exact isVarOf_iff.mpr ⟨r, sq, rfl, hr⟩

theorem attached_cons {g : Nat} {v : Var} {rest : List Var} :
    attached s g (v :: rest) = true ↔
      carries s g v = true ∧ (rest = [] ∨ ∃ g' ∈ bridgeFrames s g v, attached s g' rest = true) := by
  simp only [attached, Bool.and_eq_true, Bool.or_eq_true, List.isEmpty_iff, List.any_eq_true]

theorem mem_varPool_iff {v : Var} :
    v ∈ varPool s ↔ ∃ k f r, IsVar s k f r ∧ r.toVar = v := by
  constructor
  · intro hv
    obtain ⟨n, hn, hv⟩ := List.mem_filterMap.mp hv
    obtain ⟨k, hk⟩ := List.getElem?_of_mem hn
    obtain ⟨rf, kind, sq⟩ := n
    cases kind with
    | root => cases hv
    | ref a b => cases hv
    | var r => exact ⟨k, rf, r, ⟨sq, hk⟩, Option.some.inj hv⟩
  · rintro ⟨k, f, r, hk, rfl⟩
    exact mem_varPool hk

theorem pos_of_mem_varPool (hI : Inv t s) {v : Var} (hv : v ∈ varPool s) :
    ∃ k f r, IsVar s k f r ∧ r.toVar = v ∧ f < v.start ∧ v.start < v.stop ∧ v.stop ≤ t.length := by
  obtain ⟨k, f, r, hk, rfl⟩ := mem_varPool_iff.mp hv
  exact ⟨k, f, r, hk, rfl, (hI.var_ok hk).2⟩

/-! ### edges out of / into a variant node -/

theorem Inv.var_outEdge (hI : Inv t s) {k f : Nat} {v : Rec}
    (hk : IsVar s k f v) {e : TEdge} (he : e ∈ s.edges) (hsrc : e.src = k) :
    e.ty = .variantEnd ∧ ∃ g d, IsRef s e.dst g v.stop d :=
  (hI.edgeOk e he).of_src_var (hsrc ▸ hk)

theorem Inv.var_no_outEdge (hI : Inv t s) {k f : Nat} {v : Rec}
    (hk : IsVar s k f v) (hstop : t.length ≤ v.stop) : outEdges s k = [] := by
  apply List.eq_nil_iff_forall_not_mem.mpr
  intro e he
  obtain ⟨h1, h2⟩ := mem_outEdges.mp he
  obtain ⟨_, g, d, hr⟩ := hI.var_outEdge hk h1 h2
  have := hI.ref_ok hr
  omega

theorem var_inEdge (hI : Inv t s) (hL : VarLinked t s) {k f : Nat}
    {v : Rec} (hk : IsVar s k f v) :
    ∃ j a, IsRef s j f a v.start ∧ (⟨j, k, .variantStart⟩ : TEdge) ∈ s.edges := by
  obtain ⟨⟨e, he, rfl, _⟩, _⟩ := hL k f v hk (by simp)
  obtain ⟨hty, a, ha⟩ := (hI.edgeOk e he).of_dst_var hk
  exact ⟨e.src, a, ha, hty ▸ he⟩

/-! ### walking the reference nodes -/

/-- along the reference chain of a frame: a maximal path from a reference node `j` can be entered
from every reference node of the frame that starts before `j` ends, taking no further record -/
theorem chain_walk (hI : Inv t s) {j g a' b' : Nat}
    (hj : IsRef s j g a' b') {q : List Nat} (hq : TPath s j q) :
    ∀ (n i a b : Nat), a' - a ≤ n → IsRef s i g a b → a < b' →
      ∃ p, TPath s i p ∧ pathVarsT s p = pathVarsT s q := by
  have hab' := (hI.ref_ok hj).2.2.1
  intro n
  induction n with
  | zero =>
    intro i a b hn hi ha
    have hab := (hI.ref_ok hi).2.2.1
    obtain ⟨rfl, -⟩ := hI.ref_unique hi hj ha (by omega)
    exact ⟨q, hq, rfl⟩
  | succ n ih =>
    intro i a b hn hi ha
    rcases Nat.lt_or_ge a' b with hlt | hge
    · obtain ⟨rfl, -⟩ := hI.ref_unique hi hj ha hlt
      exact ⟨q, hq, rfl⟩
    · have hab := (hI.ref_ok hi).2.2.1
      obtain ⟨m, c, hm⟩ := hI.next_ref hi (by have := (hI.ref_ok hj).2.2.2; omega)
      obtain ⟨p, hp, hv⟩ := ih m b c (by omega) hm (by omega)
      refine ⟨i :: p, TPath.step ⟨i, m, .reference⟩ (hI.refLinked _ _ _ _ _ _ hi hm) rfl hp, ?_⟩
      rw [pathVarsT_cons, nodeVarT_ref hi, hv]; rfl

theorem ref_walk_nil (hI : Inv t s) {i g a b : Nat}
    (hi : IsRef s i g a b) : ∃ p, TPath s i p ∧ pathVarsT s p = [] := by
  obtain ⟨hg, hga, hab, hbL⟩ := hI.ref_ok hi
  -- the last reference node of the frame
  obtain ⟨j, a', b', hj, h1, h2⟩ := hI.cover g (t.length - 1) hg (by omega) (by omega)
  obtain rfl : b' = t.length := by have := hI.ref_ok hj; omega
  obtain ⟨p, hp, hv⟩ := chain_walk hI hj (TPath.leaf ((hI.outEdges_eq_nil_iff hj).mpr rfl)) _ i a b
    (Nat.le_refl _) hi (Nat.lt_of_lt_of_le hab hbL)
  exact ⟨p, hp, by rw [hv, pathVarsT_cons, nodeVarT_ref hj]; rfl⟩

/-! ### completeness -/

theorem var_walk_single (hI : Inv t s) (hL : VarLinked t s) {k g : Nat}
    {r : Rec} (hk : IsVar s k g r) : ∃ q, TPath s k q ∧ pathVarsT s q = [r.toVar] := by
  rcases Nat.lt_or_ge r.stop t.length with hlt | hge
  · obtain ⟨e, he, hsrc, _⟩ := (hL k g r hk (by simp)).2 hlt
    obtain ⟨_, g', d, hr⟩ := hI.var_outEdge hk he hsrc
    obtain ⟨p, hp, hv⟩ := ref_walk_nil hI hr
    refine ⟨k :: p, TPath.step e he hsrc hp, ?_⟩
    rw [pathVarsT_cons, nodeVarT_var hk, hv]; rfl
  · exact ⟨[k], TPath.leaf (hI.var_no_outEdge hk hge), by rw [pathVarsT_cons, nodeVarT_var hk]; rfl⟩

/-- **completeness under the invariant**: records `h` that are strictly separated (in ascending
order) and attached along the frames from frame `g` on have, from every reference node of frame
`g` that starts before the first record, a maximal path taking exactly `h` -/
theorem tpath_complete (hI : Inv t s) (hL : VarLinked t s) :
    ∀ (h : List Var) (g i a b : Nat), attached s g h = true → separated h = true →
      IsRef s i g a b → (∀ v ∈ h.head?, a < v.start) →
      ∃ p, TPath s i p ∧ pathVarsT s p = h := by
  intro h
  induction h with
  | nil =>
    intro g i a b _ _ hi _
    exact ref_walk_nil hI hi
  | cons v rest ih =>
    intro g i a b hatt hsep hi hfirst
    obtain ⟨hcar, hrest⟩ := attached_cons.mp hatt
    have key : ∃ k r q, IsVar s k g r ∧ r.toVar = v ∧ TPath s k q ∧ pathVarsT s q = v :: rest := by
      cases rest with
      | nil =>
        obtain ⟨k, r, hk, hr⟩ := carries_iff.mp hcar
        obtain ⟨q, hq, hv⟩ := var_walk_single hI hL hk
        exact ⟨k, r, q, hk, hr, hq, hr ▸ hv⟩
      | cons w rest' =>
        obtain ⟨g', hg', hatt'⟩ := hrest.resolve_left (List.cons_ne_nil w rest')
        obtain ⟨e, he, ⟨r, hk, hr⟩, hfr⟩ := mem_bridgeFrames.mp hg'
        obtain ⟨_, g'', d, hd⟩ := hI.var_outEdge hk he rfl
        obtain rfl : g'' = g' := by rw [← hfr, nodeFrame_isRef hd]
        have hsep' : v.stop < w.start ∧ separated (w :: rest') = true := by
          simpa [separated] using hsep
        obtain ⟨p, hp, hv⟩ := ih g'' e.dst r.stop d hatt' hsep'.2 hd (by
          intro x hx
          cases hx
          rw [show r.stop = v.stop from congrArg Var.stop hr]
          exact hsep'.1)
        refine ⟨_, r, e.src :: p, hk, hr, TPath.step e he rfl hp, ?_⟩
        rw [pathVarsT_cons, nodeVarT_var hk, hv, hr]; rfl
    obtain ⟨k, r, q, hk, rfl, hq, hqv⟩ := key
    obtain ⟨j, a', hj, hedge⟩ := var_inEdge hI hL hk
    obtain ⟨p, hp, hv⟩ := chain_walk hI hj (TPath.step ⟨j, k, .variantStart⟩ hedge rfl hq) _ i a b
      (Nat.le_refl _) hi (hfirst _ rfl)
    refine ⟨p, hp, ?_⟩
    rw [hv, pathVarsT_cons, nodeVarT_ref hj]
    exact hqv

/-- **the language, completeness half**: from the reference node of frame `f` that starts at `f`,
every strictly separated `h` attached along the frames has a maximal path that takes exactly `h`
and spells `(applyHap t h).drop f` -/
theorem tpath_language_complete (hI : Inv t s) (hL : VarLinked t s)
    {i f b : Nat} (hi : IsRef s i f f b) {h : List Var} (hatt : attached s f h = true)
    (hsep : separated h = true) :
    ∃ p, TPath s i p ∧ pathVarsT s p = h ∧ pathSeqT s p = (applyHap t h).drop f := by
  have hfirst : ∀ v ∈ h.head?, f < v.start := by
    intro v hv
    cases h with
    | nil => cases hv
    | cons w rest =>
      cases hv
      obtain ⟨k, r, hk, rfl⟩ := carries_iff.mp (attached_cons.mp hatt).1
      exact (hI.var_ok hk).2.1
  obtain ⟨p, hp, hv⟩ := tpath_complete hI hL h f i f b hatt hsep hi hfirst
  exact ⟨p, hp, hv, hv ▸ (tpath_language_sound hI hL hi hp).2.2⟩

/-! ### `attached` is necessary -/

/-- the records of every maximal path are attached along the frames the path runs through -/
theorem tpath_attached (hI : Inv t s)
    {i : Nat} {p : List Nat} (hp : TPath s i p) :
    (∀ g a b, IsRef s i g a b → attached s g (pathVarsT s p) = true) ∧
    (∀ g r, IsVar s i g r → attached s g (pathVarsT s p) = true) := by
  induction hp with
  | @leaf i hout =>
    constructor
    · intro g a b hi
      rw [pathVarsT_cons, nodeVarT_ref hi]; rfl
    · intro g r hi
      rw [pathVarsT_cons, nodeVarT_var hi]
      exact attached_cons.mpr ⟨carries_iff.mpr ⟨i, r, hi, rfl⟩, Or.inl rfl⟩
  | @step i p e he hsrc _ ih =>
    subst hsrc
    constructor
    · intro g a b hi
      rw [pathVarsT_cons, nodeVarT_ref hi, List.nil_append]
      rcases (hI.edgeOk e he).of_src_ref hi with ⟨_, c, h2⟩ | ⟨_, v, h2, _⟩
      · exact ih.1 _ _ _ h2
      · exact ih.2 _ _ h2
    · intro g r hi
      rw [pathVarsT_cons, nodeVarT_var hi]
      obtain ⟨_, g', d, hd⟩ := hI.var_outEdge hi he rfl
      refine attached_cons.mpr ⟨carries_iff.mpr ⟨_, r, hi, rfl⟩, Or.inr ⟨g', ?_, ih.1 _ _ _ hd⟩⟩
      exact mem_bridgeFrames.mpr ⟨e, he, ⟨r, hi, rfl⟩, nodeFrame_isRef hd⟩

/-- **the path language of a frame, as a set**: under the invariant, `(w, h)` is the (sequence,
records) pair of a maximal path from the reference node of frame `f` starting at `f` exactly when
`h` is strictly separated, attached along the frames from `f` on, and `w = (applyHap t h).drop f` -/
theorem tpath_language_eq (hI : Inv t s) (hL : VarLinked t s)
    {i f b : Nat} (hi : IsRef s i f f b) (w : List Char) (h : List Var) :
    (∃ p, TPath s i p ∧ pathSeqT s p = w ∧ pathVarsT s p = h) ↔
      (attached s f h = true ∧ separated h = true ∧ w = (applyHap t h).drop f) := by
  constructor
  · rintro ⟨p, hp, rfl, rfl⟩
    obtain ⟨_, h2, h3⟩ := tpath_language_sound hI hL hi hp
    exact ⟨(tpath_attached hI hp).1 _ _ _ hi, h2, h3⟩
  · rintro ⟨hatt, hsep, rfl⟩
    obtain ⟨p, hp, hv, hs⟩ := tpath_language_complete hI hL hi hatt hsep
    exact ⟨p, hp, hs, hv⟩

/-! ### frames that carry every record -/

/-- `G m x` says that frame `m` carries every record of the graph that starts behind `x`, and so
do the frames their `variant_end` edges lead to (behind the record): then every strictly
separated list of records of the graph that starts behind `x` is attached from frame `m` on -/
theorem attached_of_carrying (hI : Inv t s) (hL : VarLinked t s)
    (G : Nat → Nat → Prop)
    (hcar : ∀ m x k f r, G m x → IsVar s k f r → x < r.start → carries s m r.toVar = true)
    (hbr : ∀ m x e r, G m x → e ∈ s.edges → IsVar s e.src m r → x < r.start →
      G (nodeFrame s e.dst) r.start) :
    ∀ (h : List Var) (m x : Nat), G m x → (∀ v ∈ h, v ∈ varPool s) → separated h = true →
      (∀ v ∈ h.head?, x < v.start) → attached s m h = true := by
  intro h
  induction h with
  | nil => intros; rfl
  | cons v rest ih =>
    intro m x hG hpool hsep hfirst
    obtain ⟨k0, f0, r0, hk0, rfl⟩ := mem_varPool_iff.mp (hpool _ List.mem_cons_self)
    have hx : x < r0.start := hfirst _ rfl
    have hcar := hcar m x k0 f0 r0 hG hk0 hx
    refine attached_cons.mpr ⟨hcar, ?_⟩
    cases rest with
    | nil => exact Or.inl rfl
    | cons w rest' =>
      right
      have hsep' : r0.toVar.stop < w.start ∧ separated (w :: rest') = true := by
        simpa [separated] using hsep
      have hsw : r0.stop < w.start := hsep'.1
      obtain ⟨k, r, hk, hr⟩ := carries_iff.mp hcar
      obtain ⟨_, _, _, _, _, _, _, hw⟩ := pos_of_mem_varPool hI (hpool w (by simp))
      have e0 : r.start = r0.start := congrArg Var.start hr
      have e1 : r.stop = r0.stop := congrArg Var.stop hr
      obtain ⟨e, he, rfl, _⟩ := (hL k m r hk (by simp)).2 (by omega)
      obtain ⟨_, g', d, hd⟩ := hI.var_outEdge hk he rfl
      have hG' := hbr m x e r hG he hk (by omega)
      rw [nodeFrame_isRef hd] at hG'
      refine ⟨g', mem_bridgeFrames.mpr ⟨e, he, ⟨r, hk, hr⟩, nodeFrame_isRef hd⟩, ?_⟩
      apply ih g' r.start hG' (fun y hy => hpool y (List.mem_cons_of_mem _ hy)) hsep'.2
      intro y hy
      cases hy
      have := (hI.var_ok hk).2.2.1
      omega

theorem allFrames_iff :
    allFrames s = true ↔ ∀ k f r, IsVar s k f r → ∀ g, g < 3 → carries s g r.toVar = true := by
  simp only [allFrames, List.all_eq_true]
  constructor
  · intro h k f r ⟨sq, hk⟩ g hg
    have := h _ (List.mem_of_getElem? hk)
    simp only [List.all_eq_true, List.mem_cons, List.not_mem_nil, or_false] at this
    exact this g (by omega)
  · intro h n hn
    obtain ⟨k, hk⟩ := List.getElem?_of_mem hn
    obtain ⟨rf, kind, sq⟩ := n
    cases kind with
    | root => rfl
    | ref a b => rfl
    | var r =>
      simp only [List.all_eq_true, List.mem_cons, List.not_mem_nil, or_false]
      intro g hg
      exact h k rf r ⟨sq, hk⟩ g (by omega)

theorem attached_of_allFrames (hI : Inv t s) (hL : VarLinked t s)
    (hall : allFrames s = true) (h : List Var) (g : Nat) (hg : g < 3)
    (hpool : ∀ v ∈ h, v ∈ varPool s) (hsep : separated h = true) : attached s g h = true := by
  refine attached_of_carrying hI hL (fun m _ => m < 3)
    (fun m _ k f r hm hk _ => allFrames_iff.mp hall k f r hk m hm) ?_ h g 0 hg hpool hsep ?_
  · intro m x e r _ he hk _
    obtain ⟨_, g', d, hd⟩ := hI.var_outEdge hk he rfl
    rw [nodeFrame_isRef hd]
    exact (hI.ref_ok hd).1
  · intro v hv
    obtain ⟨_, _, _, _, _, h1, _⟩ := pos_of_mem_varPool hI (hpool v (List.mem_of_mem_head? hv))
    exact Nat.lt_of_le_of_lt (Nat.zero_le _) h1

/-! ### the record lists of the paths, as an executable list -/

theorem varRecs_eq_varPool (s : TState) : varRecs s = varPool s := rfl

theorem mem_attachedSubs (hI : Inv t s) (hL : VarLinked t s)
    {i f b : Nat} (hi : IsRef s i f f b) (h : List Var) :
    h ∈ attachedSubs s f ↔ ∃ p, TPath s i p ∧ pathVarsT s p = h := by
  simp only [attachedSubs, List.mem_filter, List.mem_map, Bool.and_eq_true]
  constructor
  · rintro ⟨_, hsep, hatt⟩
    obtain ⟨p, hp, hv, _⟩ := tpath_language_complete hI hL hi hatt hsep
    exact ⟨p, hp, hv⟩
  · rintro ⟨p, hp, rfl⟩
    obtain ⟨h1, h2, _⟩ := tpath_language_sound hI hL hi hp
    refine ⟨?_, h2, (tpath_attached hI hp).1 _ _ _ hi⟩
    have hpos : ∀ v ∈ pathVarsT s p, v.start ≤ v.stop := by
      intro v hv
      obtain ⟨_, _, _, _, _, _, h, _⟩ := pos_of_mem_varPool hI (h1 v hv)
      exact Nat.le_of_lt h
    obtain ⟨s', hs', he⟩ := Hap.exists_sublist_sort_eq (pool := (varRecs s).eraseDups) h2 hpos
      (fun v hv => List.mem_eraseDups.mpr (h1 v hv))
    exact ⟨s', (mem_sublists _ _).mpr hs', he.symm⟩

end MoPepGen.Tvg
