import MoPepGen.Lemmas.Fusion
/-! Lemmas for property C15 about the three converters: what a successful conversion returns.

The converters differ in the order of their look-ups and in the names they put into the record;
once the two genes are resolved they emit the same records (`Emitted`), so everything about the
records is proved once for `Emitted`.  A successful run is taken apart with `split at h`, one
`match` of the model at a time; the failing branch comes first in every `match`. -/
namespace MoPepGen.Fusion
open MoPepGen

theorem bpToGene_ok {g : GeneEntry} {bp i : Nat} (h : bpToGene g bp = .ok i) :
    bp ≠ 0 ∧ genomicToGene g.gene (bp - 1) = .ok i := by
  unfold bpToGene at h
  split at h
  · cases h
  rename_i h0
  split at h
  · rename_i hg
    cases h
    exact ⟨h0, hg⟩
  · cases h

theorem mem_txsWithPosition {g : GeneEntry} {pos : Nat} {t : TxEntry} :
    t ∈ txsWithPosition g pos ↔
      t ∈ g.txs ∧ t.tx.exons ≠ [] ∧ t.loc.start ≤ pos ∧ pos < t.loc.stop := by
  simp only [txsWithPosition, List.mem_filter, Bool.and_eq_true, Bool.not_eq_true',
    List.isEmpty_eq_false_iff, Iv.contains_iff, ne_eq]

/-- the fields of an emitted record that the reading of the record depends on -/
theorem mem_mkRecords {gd ga : String} {dg ag : GeneEntry} {dc ac : String}
    {lb rb dpos apos : Nat} {ref : String} {dtxs atxs : List TxEntry} {r : FusionRec}
    (h : r ∈ mkRecords gd ga dg ag dc ac lb rb dpos apos ref dtxs atxs) :
    ∃ d ∈ dtxs, ∃ a ∈ atxs, r.gene = gd ∧ r.start = dpos ∧ r.donorTx = d.id ∧ r.accGene = ga ∧
      r.accTx = a.id ∧ r.accPos = apos := by
  simp only [mkRecords, List.mem_flatMap, List.mem_map] at h
  obtain ⟨d, hd, a, ha, rfl⟩ := h
  exact ⟨d, hd, a, ha, rfl, rfl, rfl, rfl, rfl, rfl⟩

theorem mkRecords_pairs {gd ga : String} {dg ag : GeneEntry} {dc ac : String}
    {lb rb dpos apos : Nat} {ref : String} {dtxs atxs : List TxEntry} :
    (mkRecords gd ga dg ag dc ac lb rb dpos apos ref dtxs atxs).map
        (fun r => (r.donorTx, r.accTx)) =
      dtxs.flatMap fun d => atxs.map fun a => (d.id, a.id) := by
  simp only [mkRecords, List.map_flatMap, List.map_map, Function.comp_def]

theorem checkedRecords_ok {ref : String} {d a : List TxEntry} {recs rs : List FusionRec}
    (h : checkedRecords ref d a recs = .ok rs) : rs = recs := by
  unfold checkedRecords at h
  split at h
  · cases h
  · cases h
    rfl

/-- what each of the three converters returns once the donor gene `dg` and the acceptor gene
`ag` are resolved: both breakpoints lie in their genes, and there is one record per pair of
transcripts that contain the left / right breakpoint.  `gd ga dc ac` are the names the tool
writes into the records. -/
def Emitted (dg ag : GeneEntry) (gd ga dc ac : String) (left right : Nat) (rs : List FusionRec) :
    Prop :=
  ∃ d0 apos ref, bpToGene dg left = .ok d0 ∧ bpToGene ag right = .ok apos ∧
    rs = mkRecords gd ga dg ag dc ac left right (d0 + 1) apos ref
      (txsWithPosition dg (left - 1)) (txsWithPosition ag (right - 1))

theorem Emitted.gene {dg ag : GeneEntry} {gd ga dc ac : String} {left right : Nat}
    {rs : List FusionRec} (he : Emitted dg ag gd ga dc ac left right rs) {r : FusionRec}
    (hr : r ∈ rs) : r.gene = gd := by
  obtain ⟨d0, apos, ref, _, _, rfl⟩ := he
  obtain ⟨_, _, _, _, hg, _⟩ := mem_mkRecords hr
  exact hg

theorem convertStar_ok {anno : Anno} {genome : Genome} {r : StarRow} {rs : List FusionRec}
    (h : convertStar anno genome r = .ok rs) :
    ∃ dg ag, anno.find r.leftGene = some dg ∧ anno.find r.rightGene = some ag ∧
      Emitted dg ag r.leftGene r.rightGene r.leftChrom r.rightChrom r.left r.right rs := by
  unfold convertStar at h
  split at h
  · cases h
  rename_i dg hdg
  split at h
  · cases h
  rename_i d0 hd0
  split at h
  · cases h
  rename_i ag hag
  split at h
  · cases h
  rename_i apos ha0
  split at h
  · cases h
  split at h
  · cases h
  rename_i ref _
  exact ⟨dg, ag, hdg, hag, d0, apos, ref, hd0, ha0, checkedRecords_ok h⟩

theorem convertArriba_ok {anno : Anno} {genome : Genome} {r : ArribaRow} {rs : List FusionRec}
    (h : convertArriba anno genome r = .ok rs) :
    ∃ dg ag, anno.find r.geneId1 = some dg ∧ anno.find r.geneId2 = some ag ∧
      Emitted dg ag r.geneId1 r.geneId2 dg.chrom ag.chrom r.bp1 r.bp2 rs := by
  unfold convertArriba at h
  split at h
  · cases h
  rename_i dg hdg
  split at h
  · cases h
  rename_i ag hag
  split at h
  · cases h
  rename_i d0 hd0
  split at h
  · cases h
  rename_i apos ha0
  split at h
  · cases h
  split at h
  · cases h
  rename_i ref _
  exact ⟨dg, ag, hdg, hag, d0, apos, ref, hd0, ha0, checkedRecords_ok h⟩

theorem convertFc_ok {anno : Anno} {genome : Genome} {r : FcRow} {rs : List FusionRec}
    (h : convertFc anno genome r = .ok rs) :
    ∃ dg ag, fcGenes anno r = .ok (dg, ag) ∧
      Emitted dg ag dg.id ag.id dg.chrom ag.chrom r.left r.right rs := by
  unfold convertFc at h
  split at h
  · cases h
  rename_i dg ag hg
  split at h
  · cases h
  rename_i d0 hd0
  split at h
  · cases h
  rename_i apos ha0
  split at h
  · cases h
  split at h
  · cases h
  rename_i ref _
  exact ⟨dg, ag, hg, d0, apos, ref, hd0, ha0, checkedRecords_ok h⟩

theorem fcPre_go (maxCommon minSpanUnique : Nat) (r : FcRow) :
    fcPre maxCommon minSpanUnique r = .go ↔
      ¬ (r.common > maxCommon ∨ r.spanUnique < minSpanUnique) := by
  unfold fcPre
  split <;> simp [*]

/-! ## every record names a gene of the annotation (so the sort by gene rank loses nothing) -/

theorem find_mem {anno : Anno} {id : String} {g : GeneEntry} (h : anno.find id = some g) :
    g ∈ anno.genes ∧ g.id = id := by
  rw [Anno.find] at h
  exact ⟨List.mem_of_find?_eq_some h, by simpa using List.find?_some h⟩

theorem findUnversioned_mem {anno : Anno} {id : String} {g : GeneEntry}
    (h : anno.findUnversioned id = .ok g) : g ∈ anno.genes := by
  unfold Anno.findUnversioned at h
  split at h
  · split at h
    · rename_i hf
      cases h
      exact (find_mem hf).1
    · cases h
  split at h
  · cases h
  split at h
  · rename_i hf
    cases h
    exact List.mem_of_find?_eq_some hf
  split at h
  · rename_i hf
    cases h
    exact List.mem_of_find?_eq_some hf
  · cases h

theorem fcGenes_mem {anno : Anno} {r : FcRow} {dg ag : GeneEntry}
    (h : fcGenes anno r = .ok (dg, ag)) : dg ∈ anno.genes := by
  unfold fcGenes at h
  split at h
  · split at h
    · cases h
    rename_i g5 h5
    split at h
    · cases h
    cases h
    exact (find_mem h5).1
  · split at h
    · cases h
    rename_i g5 h5
    split at h
    · cases h
    cases h
    exact findUnversioned_mem h5

theorem star_gene_in_anno (anno : Anno) (genome : Genome) (row : StarRow) (rs : List FusionRec)
    (r : FusionRec) (h : convertStar anno genome row = .ok rs) (hr : r ∈ rs) :
    ∃ g ∈ anno.genes, r.gene = g.id := by
  obtain ⟨dg, ag, hdg, _, he⟩ := convertStar_ok h
  obtain ⟨hm, hid⟩ := find_mem hdg
  exact ⟨dg, hm, (he.gene hr).trans hid.symm⟩

theorem arriba_gene_in_anno (anno : Anno) (genome : Genome) (row : ArribaRow)
    (rs : List FusionRec) (r : FusionRec) (h : convertArriba anno genome row = .ok rs)
    (hr : r ∈ rs) : ∃ g ∈ anno.genes, r.gene = g.id := by
  obtain ⟨dg, ag, hdg, _, he⟩ := convertArriba_ok h
  obtain ⟨hm, hid⟩ := find_mem hdg
  exact ⟨dg, hm, (he.gene hr).trans hid.symm⟩

theorem fc_gene_in_anno (anno : Anno) (genome : Genome) (row : FcRow) (rs : List FusionRec)
    (r : FusionRec) (h : convertFc anno genome row = .ok rs) (hr : r ∈ rs) :
    ∃ g ∈ anno.genes, r.gene = g.id := by
  obtain ⟨dg, ag, hg, he⟩ := convertFc_ok h
  exact ⟨dg, fcGenes_mem hg, he.gene hr⟩

end MoPepGen.Fusion
