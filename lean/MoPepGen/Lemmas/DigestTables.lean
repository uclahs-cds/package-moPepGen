import MoPepGen.Generated.Expasy
import MoPepGen.Model.WingsLocal
/-!
Facts about the regenerated ExPASy tables that several statements and test vectors of the property
files share (Props/C10 above all), evaluated here once.
-/
namespace MoPepGen

theorem lookup_mem {β : Type} {k : String} {v : β} {l : List (String × β)}
    (h : l.lookup k = some v) : (k, v) ∈ l := by
  obtain ⟨l₁, l₂, rfl, -⟩ := List.lookup_eq_some_iff.mp h
  exact List.mem_append_right _ List.mem_cons_self

theorem lookup_map_snd {β γ : Type} (f : β → γ) (k : String) :
    ∀ (l : List (String × β)),
      (l.map fun e => (e.1, f e.2)).lookup k = (l.lookup k).map f
  | [] => rfl
  | (k', v') :: l => by
    rw [List.map_cons, List.lookup_cons, List.lookup_cons, lookup_map_snd f k l]
    cases k == k' <;> rfl

namespace Generated

/-- `trypsin` is entry 34 of `EXPASY_RULES`.  A lookup by name compares the key with every name
in front of it; the test vectors about trypsin go through this equation instead of repeating
that. -/
theorem lookup_trypsin : expasyRules.lookup "trypsin" = some (expasyRules.getD 34 default).2 := by
  decide +kernel

/-- `trypsin_exception` is entry 35 -/
theorem lookup_trypsin_exception :
    expasyRules.lookup "trypsin_exception" = some (expasyRules.getD 35 default).2 := by
  decide +kernel

theorem expasy_balanced : ∀ e ∈ expasyRules, e.2.balanced = true := by decide +kernel

theorem expasyWings_shape : ∀ x ∈ expasyWings, x.2.1 = 0 ∨ x.2.2 ≤ x.2.1 := by decide +kernel

end Generated
end MoPepGen
