import MoPepGen.Lemmas.Split
/-! For C18 `encode_decode`: the invariant `EncInv` of the loop of `encode_fasta` over the records
(`id_mapper`, the `.dict` lines, the written records) and the round trip through the dictionary,
`decode_encode`. -/
namespace MoPepGen

/-- the header `encode_fasta` looks up in `id_mapper`: the decoy mark stripped -/
def DecoyCfg.strip (c : DecoyCfg) (h : List Char) : List Char :=
  if c.isDecoy h then c.real h else h

/-- the encoded title of a record whose stripped header has identifier `i` -/
def DecoyCfg.mark (c : DecoyCfg) (h : List Char) (i : List Char) : List Char :=
  if c.isDecoy h then c.wrap i else i

theorem lookupHdr_none_iff (m : List (List Char × List Char)) (h : List Char) :
    lookupHdr m h = none ↔ h ∉ m.map (·.1) := by
  unfold lookupHdr
  cases hf : m.find? (fun kv => kv.1 == h) with
  | none =>
    refine ⟨fun _ hm => ?_, fun _ => rfl⟩
    obtain ⟨kv, hkv, rfl⟩ := List.mem_map.mp hm
    exact absurd BEq.rfl (List.find?_eq_none.mp hf kv hkv)
  | some kv =>
    refine ⟨nofun, fun hn => absurd (List.mem_map.mpr ⟨kv, List.mem_of_find?_eq_some hf, ?_⟩) hn⟩
    exact beq_iff_eq.mp (List.find?_some hf :)

theorem lookupHdr_some_mem (m : List (List Char × List Char)) (h i : List Char)
    (e : lookupHdr m h = some i) : (h, i) ∈ m := by
  unfold lookupHdr at e
  split at e
  · rename_i kv hf
    cases e
    exact beq_iff_eq.mp (List.find?_some hf :) ▸ List.mem_of_find?_eq_some hf
  · cases e

theorem lookupHdr_append (m m' : List (List Char × List Char)) (h : List Char) :
    lookupHdr (m ++ m') h = (lookupHdr m h).or (lookupHdr m' h) := by
  unfold lookupHdr
  rw [List.find?_append]
  cases m.find? (fun kv => kv.1 == h) <;> rfl

theorem lookupHdr_append_left (m m' : List (List Char × List Char)) (h : List Char)
    (hm : h ∈ m.map (·.1)) : lookupHdr (m ++ m') h = lookupHdr m h := by
  rw [lookupHdr_append]
  cases hl : lookupHdr m h with
  | none => exact absurd hm ((lookupHdr_none_iff m h).mp hl)
  | some _ => rfl

theorem lookupHdr_append_new (m : List (List Char × List Char)) (h i : List Char)
    (hm : lookupHdr m h = none) : lookupHdr (m ++ [(h, i)]) h = some i := by
  rw [lookupHdr_append, hm, lookupHdr, List.find?_cons, BEq.rfl]
  rfl

theorem lookup_swap : ∀ (m : List (List Char × List Char)) (h i : List Char),
    (m.map (·.2)).Nodup → (h, i) ∈ m → lookupHdr (m.map fun kv => (kv.2, kv.1)) i = some h := by
  intro m
  induction m with
  | nil => intro h i _ hm; cases hm
  | cons kv rest ih =>
    intro h i hn hm
    rw [List.map_cons, List.nodup_cons] at hn
    rw [List.map_cons, lookupHdr, List.find?_cons]
    rcases List.mem_cons.mp hm with e | hm
    · rw [← e, BEq.rfl]
    · have hne : (kv.2 == i) = false :=
        beq_eq_false_iff_ne.mpr fun e => hn.1 (e ▸ List.mem_map_of_mem (f := (·.2)) hm)
      rw [hne]
      exact ih h i hn.2 hm

/-- the state of `encode_fasta` after the records `recs`.  `dict`: the dictionary file is the mapper
with the columns swapped; `out`: every written record carries the identifier of its stripped
header, so equal headers share one. -/
structure EncInv (c : DecoyCfg) (uuid : Nat → List Char) (recs : List (List Char × Pep))
    (st : EncState) : Prop where
  keys_nodup : (st.mapper.map (·.1)).Nodup
  keys : ∀ h, h ∈ st.mapper.map (·.1) ↔ h ∈ recs.map (fun r => c.strip r.1)
  ids : st.mapper.map (·.2) = (List.range st.next).map uuid
  dict : st.dict = st.mapper.map (fun kv => (kv.2, kv.1))
  next_le : st.next ≤ recs.length
  out : st.out = recs.map fun r =>
    (c.mark r.1 ((lookupHdr st.mapper (c.strip r.1)).getD []), r.2)

theorem encodeStep_found (c : DecoyCfg) (uuid : Nat → List Char) (st : EncState)
    (r : List Char × Pep) (i : List Char) (h : lookupHdr st.mapper (c.strip r.1) = some i) :
    encodeStep c uuid st r = { st with out := st.out ++ [(c.mark r.1 i, r.2)] } := by
  unfold encodeStep
  unfold DecoyCfg.strip at h
  simp only [h, DecoyCfg.mark]

theorem encodeStep_new (c : DecoyCfg) (uuid : Nat → List Char) (st : EncState)
    (r : List Char × Pep) (h : lookupHdr st.mapper (c.strip r.1) = none) :
    encodeStep c uuid st r =
      { mapper := st.mapper ++ [(c.strip r.1, uuid st.next)],
        dict := st.dict ++ [(uuid st.next, c.strip r.1)],
        next := st.next + 1,
        out := st.out ++ [(c.mark r.1 (uuid st.next), r.2)] } := by
  unfold encodeStep
  unfold DecoyCfg.strip at h ⊢
  simp only [h, DecoyCfg.mark]

theorem encInv_step (c : DecoyCfg) (uuid : Nat → List Char) (recs : List (List Char × Pep))
    (st : EncState) (r : List Char × Pep) (inv : EncInv c uuid recs st) :
    EncInv c uuid (recs ++ [r]) (encodeStep c uuid st r) := by
  have hlen : (recs ++ [r]).length = recs.length + 1 := List.length_append
  cases hl : lookupHdr st.mapper (c.strip r.1) with
  | some i =>
    -- a header seen before: only `out` grows
    rw [encodeStep_found c uuid st r i hl]
    have hk : c.strip r.1 ∈ recs.map (fun r => c.strip r.1) :=
      (inv.keys _).mp (List.mem_map.mpr ⟨_, lookupHdr_some_mem _ _ _ hl, rfl⟩)
    refine ⟨inv.keys_nodup, fun h => ?_, inv.ids, inv.dict,
      hlen ▸ Nat.le_succ_of_le inv.next_le, ?_⟩
    · rw [inv.keys h, List.map_append, List.mem_append]
      exact ⟨.inl, fun h' => h'.elim id fun e => List.mem_singleton.mp e ▸ hk⟩
    · rw [List.map_append, ← inv.out, List.map_singleton, hl]
      rfl
  | none =>
    -- a new header: it gets the next identifier, in the mapper and in the dictionary
    rw [encodeStep_new c uuid st r hl]
    refine ⟨?_, fun h => ?_, ?_, ?_, hlen ▸ Nat.succ_le_succ inv.next_le, ?_⟩
    · rw [List.map_append]
      exact nodup_append_singleton inv.keys_nodup ((lookupHdr_none_iff _ _).mp hl)
    · rw [List.map_append, List.mem_append, inv.keys h, List.map_append, List.mem_append]
      rfl
    · rw [List.map_append, inv.ids, List.range_succ, List.map_append]
      rfl
    · rw [List.map_append, inv.dict]
      rfl
    · rw [List.map_append, List.map_singleton, lookupHdr_append_new _ _ _ hl, inv.out]
      refine congrArg (· ++ _) (List.map_congr_left fun r0 hr0 => ?_)
      -- the records written before keep their identifiers
      rw [lookupHdr_append_left _ _ _ ((inv.keys _).mpr (List.mem_map_of_mem hr0))]

theorem encInv_foldl (c : DecoyCfg) (uuid : Nat → List Char) :
    ∀ (recs recs0 : List (List Char × Pep)) (st : EncState), EncInv c uuid recs0 st →
      EncInv c uuid (recs0 ++ recs) (recs.foldl (encodeStep c uuid) st) := by
  intro recs
  induction recs with
  | nil => intro recs0 st inv; rwa [List.append_nil]
  | cons r rs ih =>
    intro recs0 st inv
    have := ih (recs0 ++ [r]) _ (encInv_step c uuid recs0 st r inv)
    rwa [List.append_assoc] at this

theorem encode_inv (c : DecoyCfg) (uuid : Nat → List Char) (recs : List (List Char × Pep)) :
    EncInv c uuid recs (encode c uuid recs) :=
  encInv_foldl c uuid recs [] {} ⟨.nil, fun _ => Iff.rfl, rfl, rfl, Nat.le_refl _, rfl⟩

theorem EncInv.lookup {c : DecoyCfg} {uuid : Nat → List Char} {recs : List (List Char × Pep)}
    {st : EncState} (inv : EncInv c uuid recs st) {r : List Char × Pep} (hr : r ∈ recs) :
    ∃ i, lookupHdr st.mapper (c.strip r.1) = some i ∧ (c.strip r.1, i) ∈ st.mapper := by
  cases hl : lookupHdr st.mapper (c.strip r.1) with
  | none =>
    exact absurd ((inv.keys _).mpr (List.mem_map_of_mem hr)) ((lookupHdr_none_iff _ _).mp hl)
  | some i => exact ⟨i, rfl, lookupHdr_some_mem _ _ _ hl⟩

theorem EncInv.dict_lookup {c : DecoyCfg} {uuid : Nat → List Char}
    {recs : List (List Char × Pep)} {st : EncState} (inv : EncInv c uuid recs st)
    (hinj : ((List.range recs.length).map uuid).Nodup) {h i : List Char}
    (hm : (h, i) ∈ st.mapper) : lookupHdr st.dict i = some h := by
  rw [inv.dict]
  refine lookup_swap _ _ _ ?_ hm
  rw [inv.ids]
  exact ((List.range_sublist.mpr inv.next_le).map uuid).nodup hinj

/-- `Hw`, `Hr`: the decoy mark is recognised on a marked identifier / re-attached to a stripped
header (`Props.C18.encode_decode_partial`, `decoy_marks_empty_prefix`); `Hu`: the identifiers in use carry no
decoy mark (only needed when some record is not a decoy). -/
theorem decode_encode (c : DecoyCfg) (uuid : Nat → List Char) (recs : List (List Char × Pep))
    (hinj : ((List.range recs.length).map uuid).Nodup)
    (Hw : ∀ i : List Char, c.isDecoy (c.wrap i) = true ∧ c.real (c.wrap i) = i)
    (Hr : ∀ h : List Char, c.isDecoy h = true → c.wrap (c.real h) = h)
    (Hu : ∀ r ∈ recs, c.isDecoy r.1 = false → ∀ k, k < recs.length → c.isDecoy (uuid k) = false) :
    let st := encode c uuid recs
    st.out.map (fun r => (decode c st.dict r.1, r.2)) = recs.map (fun r => (some r.1, r.2)) := by
  have inv := encode_inv c uuid recs
  show (encode c uuid recs).out.map _ = _
  rw [inv.out, List.map_map]
  refine List.map_congr_left fun r hr => ?_
  obtain ⟨i, hl, hmem⟩ := inv.lookup hr
  have hd := inv.dict_lookup hinj hmem
  show (decode c _ (c.mark r.1 ((lookupHdr _ (c.strip r.1)).getD [])), r.2) = _
  rw [hl, Option.getD_some]
  unfold DecoyCfg.strip at hd
  unfold DecoyCfg.mark decode
  cases hdec : c.isDecoy r.1 with
  | true =>
    rw [hdec, if_pos rfl] at hd
    rw [if_pos rfl, (Hw i).1, if_pos rfl, (Hw i).2, hd, Option.map_some, Hr r.1 hdec]
  | false =>
    rw [hdec, if_neg Bool.false_ne_true] at hd
    -- `i` is one of the identifiers handed out, which carry no decoy mark
    have hi : i ∈ (List.range (encode c uuid recs).next).map uuid :=
      inv.ids ▸ List.mem_map_of_mem (f := (·.2)) hmem
    obtain ⟨k, hk, rfl⟩ := List.mem_map.mp hi
    rw [if_neg Bool.false_ne_true,
      Hu r hr hdec k (Nat.lt_of_lt_of_le (List.mem_range.mp hk) inv.next_le),
      if_neg Bool.false_ne_true, hd]

theorem decoy_marks_empty_prefix (c : DecoyCfg) (he : c.str = []) (hp : c.prefixPos = true) :
    (∀ i : List Char, c.isDecoy (c.wrap i) = true ∧ c.real (c.wrap i) = i) ∧
    (∀ h : List Char, c.isDecoy h = true → c.wrap (c.real h) = h) ∧
    (∀ h : List Char, c.isDecoy h = true) := by
  cases c
  cases he
  cases hp
  exact ⟨fun _ => ⟨rfl, rfl⟩, fun _ _ => rfl, fun _ => rfl⟩

end MoPepGen
