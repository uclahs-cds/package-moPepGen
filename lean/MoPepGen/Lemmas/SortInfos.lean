import MoPepGen.Lemmas.SrcOrder
/-! For C18: the source sets `from_variant_peptide` builds are, before the wildcard map is
applied, duplicate-free lists of keys of the order; `chooseKey` is a function of the set; what
`sortInfos` returns and how it depends on the order of the infos. -/
namespace MoPepGen

/-- a duplicate-free list of plain keys of the order: what `VariantSourceSet.add` keeps -/
def SrcEnv.Sources (env : SrcEnv) (s : SrcSet) : Prop :=
  s.Nodup ∧ ∀ y ∈ s, env.order.has (.one y) = true

theorem SrcEnv.sources_nil (env : SrcEnv) : env.Sources [] := ⟨.nil, fun _ h => nomatch h⟩

theorem mem_setInsert (x y : Src) (s : SrcSet) : y ∈ setInsert x s ↔ y = x ∨ y ∈ s := by
  unfold setInsert
  split
  · rename_i hc
    exact ⟨.inr, fun h => h.elim (fun e => e ▸ List.contains_iff_mem.mp hc) id⟩
  · rw [List.mem_append, List.mem_singleton, Or.comm]

theorem setInsert_nodup (x : Src) (s : SrcSet) (h : s.Nodup) : (setInsert x s).Nodup := by
  unfold setInsert
  split
  · exact h
  · rename_i hc
    exact nodup_append_singleton h fun hm => hc (List.contains_iff_mem.mpr hm)

theorem addSource_sources {env : SrcEnv} {s s' : SrcSet} {x : Src} (h : env.Sources s)
    (hr : addSource env s x = .ok s') : env.Sources s' := by
  unfold addSource at hr
  dsimp only at hr
  split at hr
  · rename_i hh
    cases hr
    exact ⟨setInsert_nodup _ _ h.1, fun y hy =>
      ((mem_setInsert _ _ _).mp hy).elim (fun e => e ▸ hh) (h.2 y)⟩
  · cases hr

/-- every label adds one source, or `from_variant_peptide` raises -/
theorem addLabels_cons_ok {env : SrcEnv} {gene : Option Field} {s s' : SrcSet} {v : Field}
    {vs : List Field} (h : addLabels env gene s (v :: vs) = .ok s') :
    ∃ x s₁, addSource env s x = .ok s₁ ∧ addLabels env gene s₁ vs = .ok s' := by
  simp only [addLabels] at h
  split at h
  · cases h
  · rename_i s₁ hr
    split at hr
    · exact ⟨_, s₁, hr, h⟩
    · split at hr
      · exact ⟨_, s₁, hr, h⟩
      · split at hr
        · cases hr
        · split at hr
          · cases hr
          · exact ⟨_, s₁, hr, h⟩

theorem addLabels_sources {env : SrcEnv} {gene : Option Field} {vs : List Field} :
    ∀ {s s' : SrcSet}, env.Sources s → addLabels env gene s vs = .ok s' → env.Sources s' := by
  induction vs with
  | nil => intro s s' hs h; cases h; exact hs
  | cons v vs ih =>
    intro s s' hs h
    obtain ⟨x, s₁, h₁, h₂⟩ := addLabels_cons_ok h
    exact ih (addSource_sources hs h₁) h₂

theorem addGenes_sources {env : SrcEnv} {l : List (Option Field × List Field)} :
    ∀ {s s' : SrcSet}, env.Sources s → addGenes env s l = .ok s' → env.Sources s' := by
  induction l with
  | nil => intro s s' hs h; cases h; exact hs
  | cons x xs ih =>
    intro s s' hs h
    rw [addGenes] at h
    split at h
    · cases h
    · rename_i s₁ hr
      exact ih (addLabels_sources hs hr) h

theorem entryInfo_ok {env : SrcEnv} {e : Entry} {i : Entry × SrcSet} (h : entryInfo env e = .ok i) :
    ∃ d vids s₁ s₂, parseEntry e = .ok d ∧ identVarIds env.tx2gene d = .ok vids ∧
      (if d.orf.isSome then addSource env [] Generated.sourceNovelOrf else .ok []) = .ok s₁ ∧
      addGenes env s₁ vids = .ok s₂ ∧ i = (d.str, applyWildcard env.wildcard s₂) := by
  unfold entryInfo at h
  split at h
  · cases h
  · rename_i d h₁
    split at h
    · cases h
    · rename_i vids h₂
      dsimp only at h
      split at h
      · cases h
      · rename_i s₁ h₃
        split at h
        · cases h
        · rename_i s₂ h₄
          split at h
          · cases h; exact ⟨d, vids, s₁, s₂, h₁, h₂, h₃, h₄, rfl⟩
          · cases h

theorem entryInfo_sources {env : SrcEnv} {e : Entry} {i : Entry × SrcSet}
    (h : entryInfo env e = .ok i) : ∃ s, env.Sources s ∧ i.2 = applyWildcard env.wildcard s := by
  obtain ⟨d, vids, s₁, s₂, _, _, h₃, h₄, rfl⟩ := entryInfo_ok h
  refine ⟨s₂, addGenes_sources ?_ h₄, rfl⟩
  split at h₃
  · exact addSource_sources env.sources_nil h₃
  · cases h₃; exact env.sources_nil

def wildNodup (w : List (SrcSet × SrcSet)) : Prop := ∀ kv ∈ w, kv.2.Nodup

theorem applyWildcard_nodup (w : List (SrcSet × SrcSet)) (s : SrcSet) (hw : wildNodup w)
    (hs : s.Nodup) : (applyWildcard w s).Nodup := by
  unfold applyWildcard
  split
  · rename_i kv hf; exact hw kv (List.mem_of_find?_eq_some hf)
  · exact hs

theorem headerInfos_nodup (env : SrcEnv) (hw : wildNodup env.wildcard) (h : Header)
    (infos : List (Entry × SrcSet)) (hh : headerInfos env h = .ok infos) :
    ∀ i ∈ infos, i.2.Nodup := by
  intro i hi
  rw [headerInfos_eq_mapM] at hh
  obtain ⟨e, _, he⟩ := mapM_ok_mem hh i hi
  obtain ⟨s, hs, e'⟩ := entryInfo_sources he
  exact e' ▸ applyWildcard_nodup _ _ hw hs.1

/-! `chooseKey` reads `len(sources)`, hence the `Nodup` hypotheses: on duplicate-free lists it is a
function of the set. -/

theorem chooseKey_congr (c : SplitCfg) {s s' : SrcSet} (h : sameSet s s' = true) (hs : s.Nodup)
    (hs' : s'.Nodup) : chooseKey c s = chooseKey c s' := by
  unfold chooseKey setStr subsetB
  rw [sameSet_length h hs hs', contains_congr h]

theorem withInts_ok {o : Order} {infos : List (Entry × SrcSet)}
    {w : List (List Nat × (Entry × SrcSet))} (h : withInts o infos = .ok w) :
    w.map (·.2) = infos ∧ ∀ x ∈ w, toInt o x.2.2 = some x.1 := by
  rw [withInts_eq_mapM] at h
  constructor
  · refine (mapM_ok_map (h := id) (fun i _ x e => ?_) h).trans (List.map_id _)
    split at e <;> cases e
    rfl
  · intro x hx
    obtain ⟨i, _, e⟩ := mapM_ok_mem h x hx
    split at e <;> cases e
    assumption

theorem sortInfos_ok_iff {o : Order} {infos : List (Entry × SrcSet)}
    {l : List (List Nat × (Entry × SrcSet))} : sortInfos o infos = .ok l ↔
      ∃ w, withInts o infos = .ok w ∧ l = isort (fun a b => intsLe a.1 b.1) w := by
  unfold sortInfos
  constructor
  · intro h
    split at h
    · cases h
    · cases h; exact ⟨_, ‹_›, rfl⟩
  · rintro ⟨w, hw, rfl⟩
    rw [hw]

theorem sortInfos_spec {o : Order} {infos : List (Entry × SrcSet)}
    {l : List (List Nat × (Entry × SrcSet))} (h : sortInfos o infos = .ok l) :
    (l.map (·.2)).Perm infos ∧ (∀ x ∈ l, toInt o x.2.2 = some x.1) ∧
      l.Pairwise (fun a b => intsLe a.1 b.1 = true) := by
  obtain ⟨w, hw, rfl⟩ := sortInfos_ok_iff.mp h
  obtain ⟨h₁, h₂⟩ := withInts_ok hw
  have hp := isort_perm (fun a b : List Nat × (Entry × SrcSet) => intsLe a.1 b.1) w
  exact ⟨h₁ ▸ hp.map _, fun x hx => h₂ x (hp.subset hx),
    isort_sorted _ (fun a b => intsLe_total a.1 b.1) (fun a b c => intsLe_trans a.1 b.1 c.1) w⟩

theorem sortInfos_head {o : Order} {infos : List (Entry × SrcSet)}
    {i : List Nat × (Entry × SrcSet)} {is : List (List Nat × (Entry × SrcSet))}
    (h : sortInfos o infos = .ok (i :: is)) : i.2 ∈ infos ∧ toInt o i.2.2 = some i.1 :=
  ⟨(sortInfos_spec h).1.subset (List.mem_map_of_mem List.mem_cons_self),
    (sortInfos_spec h).2.1 i List.mem_cons_self⟩

/-- the sorted sequence of `to_int` images only depends on the multiset of images: it is the sort
of the images (`isort_map`), and `intsLe` is antisymmetric (`isort_eq_of_perm`) -/
theorem sortInfos_keys_eq {o : Order} {infos infos' : List (Entry × SrcSet)}
    {l l' : List (List Nat × (Entry × SrcSet))} (h : sortInfos o infos = .ok l)
    (h' : sortInfos o infos' = .ok l')
    (hp : (infos'.map (toInt o ·.2)).Perm (infos.map (toInt o ·.2))) :
    l'.map (·.1) = l.map (·.1) := by
  obtain ⟨w, hw, rfl⟩ := sortInfos_ok_iff.mp h
  obtain ⟨w', hw', rfl⟩ := sortInfos_ok_iff.mp h'
  have img : ∀ {infos w}, withInts o infos = .ok w →
      w.map (·.1) = infos.map ((·.getD []) ∘ (toInt o ·.2)) := fun hw => by
    obtain ⟨e₁, e₂⟩ := withInts_ok hw
    rw [← e₁, List.map_map]
    exact List.map_congr_left fun x hx => (congrArg (·.getD []) (e₂ x hx)).symm
  rw [isort_map, isort_map, img hw, img hw', ← List.map_map,
    ← List.map_map]
  exact isort_eq_of_perm intsLe intsLe_total intsLe_trans intsLe_antisymm (hp.map _)

theorem splitPep_ok_iff {c : SplitCfg} {p : PRec} {k : DbKey} {q : PRec} :
    splitPep c p = .ok (k, q) ↔ ∃ infos i is, headerInfos c.env p.header = .ok infos ∧
      sortInfos c.env.order infos = .ok (i :: is) ∧ k = chooseKey c i.2.2 ∧
      q = ⟨p.seq, (i :: is).map (·.2.1)⟩ := by
  unfold splitPep
  constructor
  · intro h
    split at h
    · cases h
    · rename_i infos h₁
      split at h
      · cases h
      · cases h
      · rename_i i is h₂
        cases h
        exact ⟨infos, i, is, h₁, h₂, rfl, rfl⟩
  · rintro ⟨infos, i, is, h₁, h₂, rfl, rfl⟩
    rw [h₁]
    dsimp only
    rw [h₂]

theorem sumSources_ok_iff {env : SrcEnv} {p : PRec} {s : SrcSet} :
    sumSources env p = .ok s ↔ ∃ infos i is, headerInfos env p.header = .ok infos ∧
      sortInfos env.order infos = .ok (i :: is) ∧ s = i.2.2 := by
  unfold sumSources
  constructor
  · intro h
    split at h
    · cases h
    · rename_i infos h₁
      split at h
      · cases h
      · cases h
      · rename_i i is h₂
        cases h
        exact ⟨infos, i, is, h₁, h₂, rfl⟩
  · rintro ⟨infos, i, is, h₁, h₂, rfl⟩
    rw [h₁]
    dsimp only
    rw [h₂]

theorem splitPep_key {c : SplitCfg} {p : PRec} {k : DbKey} {q : PRec}
    (h : splitPep c p = .ok (k, q)) : ∃ s, sumSources c.env p = .ok s ∧ k = chooseKey c s := by
  obtain ⟨infos, i, is, h₁, h₂, hk, _⟩ := splitPep_ok_iff.mp h
  exact ⟨_, sumSources_ok_iff.mpr ⟨infos, i, is, h₁, h₂, rfl⟩, hk⟩

end MoPepGen
