import MoPepGen.Model.Coord
/-! The loop of `find_intron_index` over arbitrary exon lists.  The two strands run the same loop
with mirrored tests; it is stated once (`findIntronLoop`) and characterised once. -/
namespace MoPepGen

/-- The loop both strands of `find_intron_index` run over the exons in transcript order: stop at
the first exon with `startHit` (its 3' end is within the start range of the feature's 5' end) and
accept iff a next exon exists and has `endHit` (within the end range) or `endBefore` (the feature
ends before it); give up at an exon `beyond` the feature.  `j` is the position of the head in the
whole list, `idx j` the index reported for a hit there. -/
def findIntronLoop (startHit endHit : Iv → Bool) (endBefore beyond : Iv → Prop)
    [DecidablePred endBefore] [DecidablePred beyond] (idx : Nat → Nat) :
    List Iv → Nat → Except CoordErr Nat
  | [], _ => .error .intronNotFound
  | e :: es, j =>
    if startHit e then
      match es with
      | [] => .error .intronNotFound
      | e2 :: _ =>
        if endHit e2 then .ok (idx j)
        else if endBefore e2 then .ok (idx j)
        else .error .intronNotFound
    else if beyond e then .error .intronNotFound
    else findIntronLoop startHit endHit endBefore beyond idx es (j + 1)

section
variable {startHit endHit : Iv → Bool} {endBefore beyond : Iv → Prop} [DecidablePred endBefore]
  [DecidablePred beyond] {idx : Nat → Nat}

theorem findIntronLoop_ok_iff : ∀ (es : List Iv) (j0 k : Nat),
    findIntronLoop startHit endHit endBefore beyond idx es j0 = .ok k ↔
      ∃ (j : Nat) (up dn : Iv), es[j]? = some up ∧ es[j + 1]? = some dn ∧
        startHit up = true ∧ (endHit dn = true ∨ endBefore dn) ∧
        (∀ (j' : Nat) (e' : Iv), j' < j → es[j']? = some e' →
          startHit e' = false ∧ ¬ beyond e') ∧
        k = idx (j + j0) := by
  intro es
  induction es with
  | nil =>
    intro j0 k
    constructor
    · intro h; cases h
    · rintro ⟨j, up, _, hu, _⟩; cases hu
  | cons e es ih =>
    intro j0 k
    unfold findIntronLoop
    by_cases h1 : startHit e = true
    · -- a start hit at the head: the position can only be 0
      rw [if_pos h1]
      have none_before : ∀ (j' : Nat) (e' : Iv), j' < 0 → (e :: es)[j']? = some e' →
          startHit e' = false ∧ ¬ beyond e' := fun j' _ hj' => absurd hj' (Nat.not_lt_zero _)
      constructor
      · intro h
        cases es with
        | nil => cases h
        | cons e2 es' =>
          dsimp only at h
          split at h
          · cases h
            exact ⟨0, e, e2, rfl, rfl, h1, Or.inl ‹_›, none_before, by rw [Nat.zero_add]⟩
          · split at h
            · cases h
              exact ⟨0, e, e2, rfl, rfl, h1, Or.inr ‹_›, none_before, by rw [Nat.zero_add]⟩
            · cases h
      · rintro ⟨j, up, dn, hu, hd, _, hd2, hpre, rfl⟩
        cases j with
        | succ j => have := (hpre 0 e (Nat.succ_pos _) rfl).1; rw [h1] at this; cases this
        | zero =>
          cases es with
          | nil => cases hd
          | cons e2 es' =>
            cases hd
            rw [Nat.zero_add]
            dsimp only
            split
            · rfl
            · exact if_pos (hd2.resolve_left ‹_›)
    · rw [if_neg h1]
      by_cases h2 : beyond e
      · rw [if_pos h2]
        constructor
        · intro h; cases h
        · rintro ⟨j, up, dn, hu, _, hh, _, hpre, _⟩
          cases j with
          | zero => cases hu; exact absurd hh h1
          | succ j => exact absurd h2 (hpre 0 e (Nat.succ_pos _) rfl).2
      · -- the loop goes on: position `j` of the tail is position `j + 1` of the list
        rw [if_neg h2, ih]
        constructor
        · rintro ⟨j, up, dn, hu, hd, hh, he, hpre, rfl⟩
          refine ⟨j + 1, up, dn, hu, hd, hh, he, ?_,
            congrArg idx (Nat.add_right_comm j 1 j0).symm⟩
          intro j' e' hj' he'
          cases j' with
          | zero => cases he'; exact ⟨Bool.eq_false_iff.mpr h1, h2⟩
          | succ j' => exact hpre j' e' (Nat.lt_of_succ_lt_succ hj') he'
        · rintro ⟨j, up, dn, hu, hd, hh, he, hpre, rfl⟩
          cases j with
          | zero => cases hu; exact absurd hh h1
          | succ j =>
            exact ⟨j, up, dn, hu, hd, hh, he,
              fun j' e' hj' he' => hpre (j' + 1) e' (Nat.succ_lt_succ hj') he',
              congrArg idx (Nat.add_right_comm j 1 j0)⟩

theorem findIntronLoop_error : ∀ (es : List Iv) (j0 : Nat) (x : CoordErr),
    findIntronLoop startHit endHit endBefore beyond idx es j0 = .error x →
      x = .intronNotFound := by
  intro es
  induction es with
  | nil => intro j0 x h; cases h; rfl
  | cons e es ih =>
    intro j0 x h
    unfold findIntronLoop at h
    split at h
    · split at h
      · cases h; rfl
      · split at h
        · cases h
        · split at h
          · cases h
          · cases h; rfl
    · split at h
      · cases h; rfl
      · exact ih _ _ h

end

/-- plus strand, started at index 0: the index is the position -/
theorem findIntronPlus_eq_loop (f : Iv) (rs re : Int × Int) : ∀ (es : List Iv) (j : Nat),
    findIntronPlus f rs re es j =
      findIntronLoop (fun e => inRange ((f.start : Int) - e.stop) rs)
        (fun e => inRange ((f.stop : Int) - e.start) re) (fun e => e.start ≥ f.stop)
        (fun e => e.start > f.stop) (fun j => j) es j := by
  intro es
  induction es with
  | nil => intro j; rfl
  | cons e es ih =>
    intro j
    unfold findIntronPlus findIntronLoop
    rw [ih]
    rfl

/-- minus strand, over the reversed exon list: started at index `i`, position `j` reports
`i - j` -/
theorem findIntronMinus_eq_loop (f : Iv) (rs re : Int × Int) (i : Nat) :
    ∀ (es : List Iv) (j : Nat),
    findIntronMinus f rs re es (i - j) =
      findIntronLoop (fun e => inRange ((e.start : Int) - f.stop) rs)
        (fun e => inRange ((e.stop : Int) - f.start) re) (fun e => e.stop ≤ f.start)
        (fun e => e.stop < f.start) (i - ·) es j := by
  intro es
  induction es with
  | nil => intro j; rfl
  | cons e es ih =>
    intro j
    unfold findIntronMinus findIntronLoop
    rw [Nat.sub_sub, ih]
    simp only [Int.neg_sub]
    rfl

theorem findIntronIndex_error {t : Transcript} {f : Iv} {rs re : Int × Int} {x : CoordErr}
    (h : findIntronIndex t f rs re = .error x) : x = .intronNotFound := by
  unfold findIntronIndex at h
  cases hs : t.strand <;> rw [hs] at h
  · exact findIntronLoop_error _ _ _ ((findIntronPlus_eq_loop f rs re t.exons 0).symm.trans h)
  · exact findIntronLoop_error _ _ _
      ((findIntronMinus_eq_loop f rs re (t.exons.length - 1) t.exons.reverse 0).symm.trans h)

end MoPepGen
