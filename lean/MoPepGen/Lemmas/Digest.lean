import MoPepGen.Model.Pairing
import MoPepGen.Lemmas.Regex
/-!
Lemmas about Model/Digest.lean: the positional site predicate `isSite` — the alternative and
window behind a site, and its locality in the take / drop form of which every cut and window
statement of Props/C10 is an instance —, the candidate loops of `enzymatic_cleave` and the filter
`filterKeep`.
-/
namespace MoPepGen

theorem isSite_zero (rule : Re) (exc : Option Re) (s : Pep) : isSite rule exc s 0 = false := rfl

theorem isSite_succ (rule : Re) (exc : Option Re) (s : Pep) (j : Nat) :
    isSite rule exc s (j + 1) = (rule.matchAt s j && !exc.any (·.matchAt s j)) := by
  cases exc <;>
    simp only [isSite, Nat.add_sub_cancel, Nat.succ_pos, decide_true, Bool.true_and,
      Option.any_none, Option.any_some]

theorem isSite_bounds {rule : Re} {exc : Option Re} {s : Pep} {i : Nat}
    (h : isSite rule exc s i = true) : 0 < i ∧ i ≤ s.length := by
  cases i with
  | zero => cases h
  | succ j =>
    rw [isSite_succ, Bool.and_eq_true] at h
    exact ⟨Nat.succ_pos j, Re.matchAt_lt h.1⟩

theorem boundary_le_length {rule : Re} {exc : Option Re} {s : Pep} {a : Nat}
    (h : a = 0 ∨ isSite rule exc s a = true ∨ a = s.length) : a ≤ s.length := by
  rcases h with rfl | h | rfl
  · exact Nat.zero_le _
  · exact (isSite_bounds h).2
  · exact Nat.le_refl _

theorem Re.matchAt_window {r : Re} {s : Pep} {i : Nat} (h : r.matchAt s i = true) :
    ∃ a, a ∈ r ∧ r.find? (·.matchAt s i) = some a ∧ ∃ d, i = d + a.lb.length ∧
      clsSeq a.flat (s.drop d) = true ∧ r.matchRange s (i + 1) = (d, i + 1 + a.la.length) := by
  obtain ⟨a, hf⟩ := Option.isSome_iff_exists.mp (List.find?_isSome.mpr (List.any_eq_true.mp h))
  have ma := List.find?_some hf
  obtain ⟨d, rfl⟩ := Nat.exists_eq_add_of_le' (Alt.matchAt_room ma).1
  rw [Alt.matchAt_add_lb] at ma
  rw [Re.matchRange, Nat.add_sub_cancel, hf]
  exact ⟨a, List.mem_of_find?_eq_some hf, rfl, d, rfl, ma, congrArg (·, _) (Nat.add_sub_cancel ..)⟩

theorem isSite_none_window {rule : Re} {s : Pep} {i : Nat} (h : isSite rule none s i = true) :
    ∃ a, a ∈ rule ∧ ∃ d, i = d + a.lb.length + 1 ∧ clsSeq a.flat (s.drop d) = true ∧
      rule.matchRange s i = (d, i + a.la.length) := by
  cases i with
  | zero => cases h
  | succ j =>
    rw [isSite_succ, Bool.and_eq_true] at h
    obtain ⟨a, ha, -, d, rfl, ca, hR⟩ := Re.matchAt_window h.1
    exact ⟨a, ha, d, rfl, ca, hR⟩

theorem Re.le_lbMax {r : Re} {a : Alt} (h : a ∈ r) : a.lb.length ≤ r.lbMax :=
  le_foldr_max (·.lb.length) h

theorem Re.le_laMax {r : Re} {a : Alt} (h : a ∈ r) : a.la.length ≤ r.laMax :=
  le_foldr_max (·.la.length) h

theorem Re.matchAt_drop (r : Re) (s : List Char) {d i : Nat} (h : d + r.lbMax ≤ i) :
    r.matchAt (s.drop d) (i - d) = r.matchAt s i :=
  any_congr' fun a ha =>
    a.matchAt_drop s (Nat.le_trans (Nat.add_le_add_left (Re.le_lbMax ha) d) h)

theorem Re.matchAt_take (r : Re) (s : List Char) {e i : Nat} (h : i + 1 + r.laMax ≤ e) :
    r.matchAt (s.take e) i = r.matchAt s i :=
  any_congr' fun a ha =>
    a.matchAt_take s (Nat.le_trans (Nat.add_le_add_left (Re.le_laMax ha) _) h)

theorem isSite_drop (rule : Re) (exc : Option Re) (s : Pep) {d i : Nat}
    (hr : d + rule.lbMax < i) (he : ∀ e, exc = some e → d + e.lbMax < i) :
    isSite rule exc (s.drop d) (i - d) = isSite rule exc s i := by
  cases i with
  | zero => cases hr
  | succ j =>
    have hd : d ≤ j := Nat.le_of_lt_succ (Nat.lt_of_le_of_lt (Nat.le_add_right d _) hr)
    rw [Nat.succ_sub hd, isSite_succ, isSite_succ, rule.matchAt_drop s (Nat.le_of_lt_succ hr)]
    cases exc with
    | none => rfl
    | some e =>
      rw [Option.any_some, Option.any_some, e.matchAt_drop s (Nat.le_of_lt_succ (he e rfl))]

theorem isSite_take (rule : Re) (exc : Option Re) (s : Pep) {e i : Nat}
    (hr : i + rule.laMax ≤ e) (he : ∀ x, exc = some x → i + x.laMax ≤ e) :
    isSite rule exc (s.take e) i = isSite rule exc s i := by
  cases i with
  | zero => rfl
  | succ j =>
    rw [isSite_succ, isSite_succ, rule.matchAt_take s hr]
    cases exc with
    | none => rfl
    | some x => rw [Option.any_some, Option.any_some, x.matchAt_take s (he x rfl)]

theorem isSite_window (rule : Re) (exc : Option Re) (s : Pep) {l r : Nat} (i : Nat)
    (hl : rule.lbMax + 1 ≤ l) (hr : rule.laMax ≤ r)
    (he : ∀ e, exc = some e → e.lbMax + 1 ≤ l ∧ e.laMax ≤ r) :
    isSite rule exc s i = isSite rule exc (slice s (i - l) (i + r)) (i - (i - l)) := by
  rw [slice, Nat.sub_add_comm (Nat.sub_le i l),
    isSite_take rule exc _ (Nat.add_le_add_left hr _) fun x hx =>
      Nat.add_le_add_left (he x hx).2 _]
  rcases Nat.lt_or_ge l i with hlt | hge
  · rw [isSite_drop rule exc s (by omega) fun x hx => by have := he x hx; omega]
  · rw [Nat.sub_eq_zero_of_le hge]
    rfl

theorem mem_metTwin (st : Nat) (nf : Bool) (p q : Pep) :
    q ∈ (if st == 0 && !nf && p.head? == some 'M' then [p.drop 1] else []) ++ [p] ↔
      q = p ∨ (st = 0 ∧ nf = false ∧ p.head? = some 'M' ∧ q = p.drop 1) := by
  rw [List.mem_append, List.mem_singleton, or_comm, List.mem_ite_nil_right, List.mem_singleton,
    Bool.and_eq_true, Bool.and_eq_true, beq_iff_eq, beq_iff_eq, Bool.not_eq_true', and_assoc,
    and_assoc]

/-- `p` is cut out of `s` by two entries `st < en` of the boundary list `bs` with at most `misc`
entries between them — or is that stretch without its leading Met when it starts at the first
boundary and the CDS start is known -/
def IdxCandidate (s : Pep) (bs : List Nat) (misc : Nat) (nf : Bool) (p : Pep) : Prop :=
  ∃ st en, st < en ∧ en < bs.length ∧ en - st - 1 ≤ misc ∧
    (p = slice s (bs.getD st 0) (bs.getD en 0) ∨
      (st = 0 ∧ nf = false ∧ (slice s (bs.getD st 0) (bs.getD en 0)).head? = some 'M' ∧
        p = (slice s (bs.getD st 0) (bs.getD en 0)).drop 1))

theorem mem_cleaveCandidates (s : Pep) (bs : List Nat) (misc : Nat) (nf : Bool) (p : Pep) :
    p ∈ cleaveCandidates s bs misc nf ↔ IdxCandidate s bs misc nf p := by
  simp only [cleaveCandidates, List.mem_flatMap, List.mem_range, mem_metTwin, IdxCandidate]
  constructor
  · rintro ⟨st, -, k, hk, hp⟩
    obtain ⟨hk1, hk2⟩ := Nat.lt_min.mp hk
    exact ⟨st, st + 1 + k, Nat.lt_add_right k (Nat.lt_succ_self st), Nat.add_lt_of_lt_sub' hk2,
      by omega, hp⟩
  · rintro ⟨st, en, h1, h2, h3, hp⟩
    obtain ⟨k, rfl⟩ := Nat.exists_eq_add_of_le (Nat.succ_le_of_lt h1)
    have : st < bs.length - 1 ∧ k < misc + 1 ∧ k < bs.length - (st + 1) := by omega
    exact ⟨st, this.1, k, Nat.lt_min.mpr this.2, hp⟩

theorem keep_length {c : CleaveCfg} {p : Pep} (h : c.keep p = some true) :
    c.minLen ≤ p.length ∧ p.length ≤ c.maxLen := by
  unfold CleaveCfg.keep at h
  split at h
  · cases h
  · split at h
    · cases h
    · simp only [Option.some.injEq, Bool.and_eq_true, decide_eq_true_eq] at h
      exact ⟨h.1.2, h.2⟩

theorem filterKeep_eq (c : CleaveCfg) : ∀ l : List Pep, filterKeep c l =
    if l.any (c.keep · == none) then none else some (l.filter (c.keep · == some true))
  | [] => rfl
  | q :: l => by
    rw [filterKeep, filterKeep_eq c l, List.any_cons, List.filter_cons]
    cases c.keep q with
    | none => rfl
    | some b => cases b <;> cases l.any (c.keep · == none) <;> rfl

theorem filterKeep_none (c : CleaveCfg) (l : List Pep) :
    filterKeep c l = none ↔ ∃ p ∈ l, c.keep p = none := by
  simp only [filterKeep_eq, ite_eq_left_iff, reduceCtorEq, imp_false, Decidable.not_not,
    List.any_eq_true, beq_iff_eq]

theorem filterKeep_some (c : CleaveCfg) (l r : List Pep) (h : filterKeep c l = some r) (p : Pep) :
    p ∈ r ↔ p ∈ l ∧ c.keep p = some true := by
  rw [filterKeep_eq] at h
  split at h
  · cases h
  · cases h
    rw [List.mem_filter, beq_iff_eq]

theorem iToL_idem (p : Pep) : iToL (iToL p) = iToL p := by
  rw [iToL, iToL, List.map_map]
  apply List.map_congr_left
  intro c _
  rw [Function.comp]
  split <;> rfl

end MoPepGen
