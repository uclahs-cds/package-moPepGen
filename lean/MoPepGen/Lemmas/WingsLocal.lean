import MoPepGen.Model.WingsLocal
import MoPepGen.Lemmas.Digest
/-!
Lemmas for the local range search (Model/WingsLocal.lean).  The loop of
`get_local_matched_range` is read through the cursor schedule `localSched`: the schedule has a
first pass `k` whose cursors are outside the window or whose segment carries a match, within the
fuel (`exists_exit`); the loop returns what that pass determines (`localLoop_of_exit`), and so
does `getLocalMatchedRange` (`getLocal_spec`, `getLocal_of_exit`).
-/
namespace MoPepGen

theorem Re.search_iff (r : Re) (t : Pep) : r.search t = true ↔ ∃ i, r.matchAt t i = true := by
  rw [Re.search, Re.finditer, finditerFrom_eq, List.head?_filter, List.find?_isSome]
  exact ⟨fun ⟨i, _, h⟩ => ⟨i, h⟩, fun ⟨i, h⟩ =>
    ⟨i, List.mem_range'_1.mpr ⟨Nat.zero_le _, (Nat.zero_add _).symm ▸ Re.matchAt_lt h⟩, h⟩⟩

theorem Re.search_false_iff (r : Re) (t : Pep) : r.search t = false ↔ ∀ i, r.matchAt t i = false := by
  rw [← Bool.not_eq_true, Re.search_iff]
  simp

theorem Alt.matchAt_slice (a : Alt) (s : Pep) {u l i : Nat} (h1 : a.lb.length ≤ i)
    (h2 : u + i + 1 + a.la.length ≤ l) : a.matchAt (slice s u l) i = a.matchAt s (u + i) := by
  rw [slice, a.matchAt_take _ (by omega),
    ← a.matchAt_drop s (d := u) (i := u + i) (Nat.add_le_add_left h1 u), Nat.add_sub_cancel_left]

/-- `p.search(seq[u:l])` succeeds iff some alternative matches in `seq` with its whole window
(look-behind, consumed residue, look-ahead) inside `[u, l)`. -/
theorem Re.search_slice_iff (r : Re) (s : Pep) (u l : Nat) :
    r.search (slice s u l) = true ↔
      ∃ a, a ∈ r ∧ ∃ j, a.matchAt s j = true ∧ u + a.lb.length ≤ j ∧ j + 1 + a.la.length ≤ l := by
  rw [Re.search_iff]
  simp only [Re.matchAt, List.any_eq_true]
  constructor
  · rintro ⟨i, a, ha, hm⟩
    obtain ⟨h1, h2⟩ := Alt.matchAt_room hm
    have h3 : u + i + 1 + a.la.length ≤ l := by
      have := Nat.le_trans h2 (List.length_take_le (l - u) (s.drop u))
      omega
    rw [a.matchAt_slice s h1 h3] at hm
    exact ⟨a, ha, u + i, hm, Nat.add_le_add_left h1 u, h3⟩
  · rintro ⟨a, ha, j, hm, h1, h2⟩
    obtain ⟨i, rfl⟩ := Nat.exists_eq_add_of_le (Nat.le_trans (Nat.le_add_right u _) h1)
    exact ⟨i, a, ha, by rwa [a.matchAt_slice s (Nat.le_of_add_le_add_left h1) h2]⟩

theorem Re.search_slice_mono (r : Re) (s : Pep) (u l u' l' : Nat) (hl : l' ≤ s.length)
    (hu : u' ≤ u) (hll : l ≤ l') (h : r.search (slice s u l) = true) :
    r.search (slice s u' l') = true := by
  rw [Re.search_slice_iff] at h ⊢
  obtain ⟨a, ha, j, hm, h1, h2⟩ := h
  exact ⟨a, ha, j, hm, Nat.le_trans (Nat.add_le_add_right hu _) h1, Nat.le_trans h2 hll⟩

theorem inWin_iff {upper lower u l : Int} :
    inWin upper lower u l = true ↔ upper ≤ u ∧ u < l ∧ l ≤ lower := by
  rw [inWin, Bool.and_eq_true, Bool.and_eq_true, decide_eq_true_eq, decide_eq_true_eq,
    decide_eq_true_eq, and_assoc]

theorem localStep_eq (site lower : Int) (c : Int × Int) :
    localStep site lower c = (c.1 - 1, c.2) ∨ localStep site lower c = (c.1, c.2 + 1) := by
  rw [localStep]
  split
  · exact Or.inl rfl
  · exact Or.inr rfl

theorem localSched_mono {site lower : Int} {c0 : Int × Int} {k j : Nat} (h : k ≤ j) :
    (localSched site lower c0 j).1 ≤ (localSched site lower c0 k).1 ∧
    (localSched site lower c0 k).2 ≤ (localSched site lower c0 j).2 := by
  induction h with
  | refl => exact ⟨Int.le_refl _, Int.le_refl _⟩
  | step _ ih =>
    rw [localSched]
    rcases localStep_eq site lower (localSched site lower c0 ‹Nat›) with e | e <;> rw [e] <;>
      exact ⟨by omega, by omega⟩

theorem localStep_width (site lower : Int) (c : Int × Int) :
    (localStep site lower c).2 - (localStep site lower c).1 = c.2 - c.1 + 1 := by
  rcases localStep_eq site lower c with e | e <;> rw [e] <;> (simp only; omega)

theorem localSched_width (site lower : Int) (c0 : Int × Int) (k : Nat) :
    (localSched site lower c0 k).2 - (localSched site lower c0 k).1 = c0.2 - c0.1 + k := by
  induction k with
  | zero => exact (Int.add_zero _).symm
  | succ n ih => rw [localSched, localStep_width, ih, Int.natCast_add, Int.add_assoc]; rfl

/-- a pass in terms of the reaches `a = site - ucur`, `b = lcur - site`: the left cursor moves on
a tie and once the right one has arrived at `lower = site + B` -/
theorem localStep_reach (site : Int) (a b B : Nat) :
    localStep site (site + B) (site - a, site + b) =
      if a ≤ b ∨ b = B then (site - (a + 1 : Nat), site + b)
      else (site - a, site + (b + 1 : Nat)) := by
  have e : (site - (site - (a : Int)) ≤ site + (b : Int) - site ∨
      site + (b : Int) = site + (B : Int)) ↔ (a ≤ b ∨ b = B) := by omega
  simp only [localStep, e, Int.natCast_add, Int.sub_sub, Int.add_assoc, Int.cast_ofNat_Int]

/-- The induction runs over a description of `b = min (max b0 ⌈k/2⌉) B` that a pass preserves
without `min`, `max` or division: `b0 ≤ b ≤ B`, `b = b0 ∨ 2b ≤ k+1`, `b = B ∨ k ≤ 2b`. -/
theorem localSched_closed (site : Int) (b0 B : Nat) (h0 : b0 ≤ 1) (hB : b0 ≤ B) (k : Nat) :
    localSched site (site + (B : Int)) (site - ((1 - b0 : Nat) : Int), site + (b0 : Int)) k =
      localSchedClosed site b0 B k := by
  have key : ∃ a b : Nat, localSched site (site + (B : Int))
        (site - ((1 - b0 : Nat) : Int), site + (b0 : Int)) k = (site - (a : Int), site + (b : Int)) ∧
      a + b = k + 1 ∧ b0 ≤ b ∧ b ≤ B ∧ (b = b0 ∨ 2 * b ≤ k + 1) ∧ (b = B ∨ k ≤ 2 * b) := by
    induction k with
    | zero => exact ⟨1 - b0, b0, rfl, by omega⟩
    | succ n ih =>
      obtain ⟨a, b, hs, hi⟩ := ih
      rw [localSched, hs, localStep_reach]
      by_cases c : a ≤ b ∨ b = B
      · exact ⟨a + 1, b, if_pos c, by omega⟩
      · exact ⟨a, b + 1, if_neg c, by omega⟩
  obtain ⟨a, b, hs, ha, h1, h2, h3, h4⟩ := key
  have h5 : b ≤ max b0 ((k + 1) / 2) :=
    h3.elim (fun e => e ▸ Nat.le_max_left _ _) fun h => Nat.le_trans (by omega) (Nat.le_max_right _ _)
  obtain rfl : b = min (max b0 ((k + 1) / 2)) B := by
    rcases h4 with rfl | h4
    · exact (Nat.min_eq_right h5).symm
    · rw [Nat.le_antisymm (Nat.max_le.mpr ⟨h1, by omega⟩) h5, Nat.min_eq_left h2]
  obtain rfl : a = k + 1 - min (max b0 ((k + 1) / 2)) B := Nat.eq_sub_of_add_eq ha
  exact hs

section loop
variable {p : Re} {s : Pep} {site upper lower : Int}

theorem localLoop_out {fuel : Nat} {c : Int × Int} (h : inWin upper lower c.1 c.2 = false) :
    localLoop p s site upper lower (fuel + 1) c.1 c.2 = some (c.1, c.2, false) := by
  simp only [localLoop, h, Bool.not_false, if_true]

theorem localLoop_hit {fuel : Nat} {c : Int × Int} (h1 : inWin upper lower c.1 c.2 = true)
    (h2 : p.search (segOf s c) = true) :
    localLoop p s site upper lower (fuel + 1) c.1 c.2 = some (c.1, c.2, true) := by
  rw [segOf] at h2
  simp only [localLoop, h1, h2, Bool.not_true, Bool.false_eq_true, if_false, if_true]

theorem localLoop_step {fuel : Nat} {c : Int × Int} (h1 : inWin upper lower c.1 c.2 = true)
    (h2 : p.search (segOf s c) = false) :
    localLoop p s site upper lower (fuel + 1) c.1 c.2 =
      localLoop p s site upper lower fuel (localStep site lower c).1 (localStep site lower c).2 := by
  rw [segOf] at h2
  simp only [localLoop, h1, h2, Bool.not_true, Bool.false_eq_true, if_false, Prod.eta]

/-! ### the loop leaves at the first exit of the schedule

The start cursors `c` stay fixed; the statements speak of the loop entered at the `i`-th cursors of
the schedule (`i = 0` for the loop as it is called). -/

variable (p s site upper lower)

/-- the `k`-th pass leaves the loop: outside the window, or the segment carries a match -/
def ExitAt (c : Int × Int) (k : Nat) : Prop :=
  inWin upper lower (localSched site lower c k).1 (localSched site lower c k).2 = false ∨
    p.search (segOf s (localSched site lower c k)) = true

/-- what the loop returns when it leaves with the cursors `c` -/
def exitValue (c : Int × Int) : Int × Int × Bool := (c.1, c.2, inWin upper lower c.1 c.2)

variable {p s site upper lower} {c : Int × Int}

theorem NoHitBefore.succ {i : Nat} (hn : NoHitBefore p s site upper lower c i)
    (he : ¬ ExitAt p s site upper lower c i) : NoHitBefore p s site upper lower c (i + 1) :=
  fun j hj => (Nat.lt_succ_iff_lt_or_eq.mp hj).elim (hn j) fun e =>
    e ▸ ⟨eq_true_of_ne_false fun h => he (Or.inl h), eq_false_of_ne_true fun h => he (Or.inr h)⟩

/-- Every pass widens `[ucur, lcur)` by one and a segment wider than the window is outside it:
from the `i`-th cursors `(ucur, lcur)` the schedule has an exit within
`lower - upper + 1 - (lcur - ucur)` passes. -/
theorem exists_exit {fuel i : Nat} (hn : NoHitBefore p s site upper lower c i)
    (h : (lower - upper + 1 -
      ((localSched site lower c i).2 - (localSched site lower c i).1)).toNat < fuel) :
    ∃ k, k < fuel + i ∧ NoHitBefore p s site upper lower c k ∧ ExitAt p s site upper lower c k := by
  induction fuel generalizing i with
  | zero => omega
  | succ n ih =>
    by_cases he : ExitAt p s site upper lower c i
    · exact ⟨i, by omega, hn, he⟩
    · have hw := inWin_iff.mp (eq_true_of_ne_false fun h => he (Or.inl h))
      obtain ⟨k, hk, r⟩ := ih (hn.succ he) (by rw [localSched, localStep_width]; omega)
      exact ⟨k, by omega, r⟩

theorem localLoop_of_exit {fuel i k : Nat} (hik : i ≤ k) (hk : k < fuel + i)
    (hn : NoHitBefore p s site upper lower c k) (he : ExitAt p s site upper lower c k) :
    localLoop p s site upper lower fuel (localSched site lower c i).1 (localSched site lower c i).2 =
      some (exitValue upper lower (localSched site lower c k)) := by
  induction fuel generalizing i with
  | zero => omega
  | succ n ih =>
    rcases Nat.lt_or_eq_of_le hik with hlt | rfl
    · rw [localLoop_step (hn i hlt).1 (hn i hlt).2]
      exact ih (i := i + 1) hlt (by omega)
    · rw [exitValue]
      cases h1 : inWin upper lower (localSched site lower c i).1 (localSched site lower c i).2 with
      | false => exact localLoop_out h1
      | true => exact localLoop_hit h1 (he.resolve_left (by rw [h1]; exact Bool.noConfusion))

/-- If every segment covering the target `[ra, rb)` carries a match, the target lies in
the window and does not reach further right of the site than left, then from in-window start
cursors the schedule stays inside the window as long as no segment carried a match. -/
theorem localSched_inWin {ra rb : Int}
    (hcov : ∀ u l : Int, u ≤ ra → rb ≤ l → p.search (slice s u.toNat l.toNat) = true)
    (hbal : rb - site ≤ site - ra) (hA : upper ≤ ra) (hB : rb ≤ lower)
    (hin : inWin upper lower c.1 c.2 = true) :
    ∀ {k : Nat}, NoHitBefore p s site upper lower c k →
      inWin upper lower (localSched site lower c k).1 (localSched site lower c k).2 = true
  | 0, _ => hin
  | k + 1, hn => by
    have hk := hn k (Nat.lt_succ_self k)
    have hin' := inWin_iff.mp hk.1
    have hnc : ¬ ((localSched site lower c k).1 ≤ ra ∧ rb ≤ (localSched site lower c k).2) :=
      fun hc => Bool.false_ne_true (hk.2 ▸ hcov _ _ hc.1 hc.2)
    rw [localSched, inWin_iff, localStep]
    split <;> (simp only; omega)

end loop

theorem localStart_measure (s : Pep) (site : Nat) (w : Nat × Nat) :
    (localLower s site w - localUpper site w + 1 -
      ((localStart site w).2 - (localStart site w).1)).toNat < localFuel w := by
  have h1 : localLower s site w ≤ site + w.2 := Int.min_le_left _ _
  have h2 : (site : Int) - w.1 ≤ localUpper site w := Int.le_max_left _ _
  have h3 : (localStart site w).2 - (localStart site w).1 = 1 := by
    rw [localStart]
    split <;> (simp only; omega)
  rw [h3, localFuel]
  omega

theorem localUpper_nonneg (site : Nat) (w : Nat × Nat) : 0 ≤ localUpper site w :=
  Int.le_max_right _ _

/-- how `getLocalMatchedRange` reads the final cursors `c` of its loop: the range, if they are still
inside the window -/
def rangeOf (upper lower : Int) (c : Int × Int) : Option (Nat × Nat) :=
  if inWin upper lower c.1 c.2 then some (c.1.toNat, c.2.toNat) else none

/-- what `getLocalMatchedRange` returns when its loop leaves at pass `k` -/
def localResult (s : Pep) (site : Nat) (w : Nat × Nat) (k : Nat) : Option (Nat × Nat) :=
  rangeOf (localUpper site w) (localLower s site w)
    (localSched site (localLower s site w) (localStart site w) k)

/-- `getLocalMatchedRange` never runs out of fuel: its loop leaves at some pass `k`, whatever
larger fuel it is given. -/
theorem getLocal_spec (p : Re) (s : Pep) (site : Nat) (w : Nat × Nat) :
    ∃ k, NoHitBefore p s site (localUpper site w) (localLower s site w) (localStart site w) k ∧
      ExitAt p s site (localUpper site w) (localLower s site w) (localStart site w) k ∧
      getLocalMatchedRange p s site w = some (localResult s site w k) ∧
      ∀ fuel, localFuel w ≤ fuel →
        localLoop p s site (localUpper site w) (localLower s site w) fuel (localStart site w).1
          (localStart site w).2 =
        some (exitValue (localUpper site w) (localLower s site w)
          (localSched site (localLower s site w) (localStart site w) k)) := by
  obtain ⟨k, hk, hn, he⟩ := exists_exit (p := p) (c := localStart site w) (i := 0)
    (fun _ h => absurd h (Nat.not_lt_zero _)) (localStart_measure s site w)
  have hloop := fun fuel (hf : localFuel w ≤ fuel) =>
    localLoop_of_exit (fuel := fuel) (i := 0) (Nat.zero_le k) (Nat.lt_of_lt_of_le hk hf) hn he
  refine ⟨k, hn, he, ?_, hloop⟩
  have h := hloop _ (Nat.le_refl _)
  rw [localSched] at h
  simp only [getLocalMatchedRange, h, exitValue, localResult, rangeOf]
  generalize inWin _ _ _ _ = b
  cases b <;> rfl

theorem getLocal_of_exit {p : Re} {s : Pep} {site : Nat} {w : Nat × Nat} {k : Nat}
    (hn : NoHitBefore p s site (localUpper site w) (localLower s site w) (localStart site w) k)
    (he : ExitAt p s site (localUpper site w) (localLower s site w) (localStart site w) k) :
    getLocalMatchedRange p s site w = some (localResult s site w k) := by
  obtain ⟨k', -, -, hr, hk'⟩ := getLocal_spec p s site w
  have h := (hk' _ (Nat.le_max_left _ (k + 1))).symm.trans (localLoop_of_exit
    (c := localStart site w) (i := 0) (Nat.zero_le k) (Nat.lt_of_lt_of_le (Nat.lt_succ_self k) (Nat.le_max_right _ _)) hn he)
  rw [Option.some.injEq, exitValue, exitValue, Prod.mk.injEq, Prod.mk.injEq] at h
  rw [hr, localResult, localResult, Prod.ext h.1 h.2.1]

/-- **The search with a target.**  Let `[ra, rb)` be a stretch around `site` that carries a match
in every segment covering it, lies inside the wings window and reaches no further right of the
site than left; let the right wing not be the longer one.  Then the search does not raise, and
what it returns lies inside every segment of the schedule that covers `[ra, rb)`: the
schedule stays in the window until it covers the target (`localSched_inWin`), and the result is
the first segment with any match. -/
theorem getLocal_finds (p : Re) (s : Pep) (site : Nat) (w : Nat × Nat) (ra rb : Nat)
    (hcov : ∀ u l : Nat, u ≤ ra → rb ≤ l → p.search (slice s u l) = true)
    (hw : w.2 ≤ w.1) (h1 : ra < site) (h2 : site ≤ rb) (hl : site ≤ ra + w.1)
    (hr : rb ≤ site + w.2) (hs : rb ≤ s.length) (hbal : rb + ra ≤ 2 * site) :
    ∃ u l, getLocalMatchedRange p s site w = some (some (u, l)) ∧
      ∀ j c, c = localSched site (localLower s site w) (localStart site w) j → c.1 ≤ ra →
        (rb : Int) ≤ c.2 → c.1 ≤ u ∧ (l : Int) ≤ c.2 := by
  have h0 := localUpper_nonneg site w
  have hcov' : ∀ u l : Int, u ≤ ra → rb ≤ l → p.search (slice s u.toNat l.toNat) = true :=
    fun u l hu hl => hcov _ _ (Int.toNat_le.mpr hu)
      ((Int.le_toNat (Int.le_trans (Int.natCast_nonneg rb) hl)).mpr hl)
  have hA : localUpper site w ≤ ra := Int.max_le.mpr ⟨by omega, Int.natCast_nonneg ra⟩
  have hB : (rb : Int) ≤ localLower s site w := Int.le_min.mpr ⟨by omega, Int.ofNat_le.mpr hs⟩
  have hin : inWin (localUpper site w) (localLower s site w) (localStart site w).1
      (localStart site w).2 = true := by
    rw [inWin_iff, localStart, if_pos hw]
    exact ⟨by omega, by omega, by omega⟩
  obtain ⟨k, hn, -, hres, -⟩ := getLocal_spec p s site w
  have hk := localSched_inWin hcov' (by omega) hA hB hin hn
  rw [localResult, rangeOf, if_pos hk] at hres
  refine ⟨_, _, hres, fun j c hc hj1 hj2 => ?_⟩
  subst hc
  have hkj : k ≤ j := Nat.le_of_not_lt fun hlt =>
    Bool.false_ne_true ((hn j hlt).2 ▸ hcov' _ _ hj1 hj2)
  have hkw := inWin_iff.mp hk
  have hk0 := Int.le_trans h0 hkw.1
  rw [Int.toNat_of_nonneg hk0, Int.toNat_of_nonneg (Int.le_trans hk0 (Int.le_of_lt hkw.2.1))]
  exact localSched_mono hkj

theorem localSitesLoop_ok (rule : Re) (ex : List Nat) (w : Nat × Nat) (s : Pep) (xs : List Nat)
    (l : List (Nat × (Nat × Nat))) (h : localSitesLoop rule ex w s xs = .ok l) :
    l.map (·.1) = xs.filter (fun x => !ex.contains x) ∧
    ∀ q, q ∈ l → getLocalMatchedRange rule s q.1 w = some (some q.2) := by
  induction xs generalizing l with
  | nil => cases h; exact ⟨rfl, nofun⟩
  | cons x xs ih =>
    rw [localSitesLoop] at h
    rw [List.filter_cons]
    split at h
    · rename_i hx
      rw [hx]
      exact ih l h
    · rename_i hx
      rw [Bool.not_eq_true] at hx
      rw [hx]
      split at h
      · cases h
      · cases h
      · rename_i r hg
        split at h
        · rename_i l' hl
          cases h
          obtain ⟨h1, h2⟩ := ih l' hl
          exact ⟨congrArg (x :: ·) h1, List.forall_mem_cons.mpr ⟨hg, h2⟩⟩
        · cases h

theorem localSitesLoop_total (rule : Re) (ex : List Nat) (w : Nat × Nat) (s : Pep) (xs : List Nat)
    (h : ∀ x, x ∈ xs → ∃ r, getLocalMatchedRange rule s x w = some (some r)) :
    ∃ l, localSitesLoop rule ex w s xs = .ok l := by
  induction xs with
  | nil => exact ⟨[], rfl⟩
  | cons x xs ih =>
    obtain ⟨l, hl⟩ := ih fun y hy => h y (List.mem_cons_of_mem _ hy)
    obtain ⟨r, hr⟩ := h x List.mem_cons_self
    rw [localSitesLoop, hr, hl]
    split
    · exact ⟨l, rfl⟩
    · exact ⟨_, rfl⟩

end MoPepGen
