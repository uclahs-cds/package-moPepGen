/-
Layer S — the DEFINITION the properties C01/C02/C03/C05/C08/C09 speak about:
"the digestion products of the translation of the transcript carrying a
compatible combination of the supplied variants", written without reference to
how moPepGen computes it (no graphs).  Executable, so the driver can evaluate it
on the inputs of the real command.

Scope of this file: linear transcripts (coding / non-coding, cds_start_NF,
mRNA_end_NF, selenocysteine) with SNV / RNA-editing / INDEL records (and their
merged adjacent forms).  Fusion, circRNA and alternative-splicing records are
reduced to this file's `TxIn` and `Var` by the harness (`harness/cv_backbone.py` assembles
the backbone, `harness/cv_explore.py` writes a splicing record as small records) before
`callBackbone` / `callCirc` below are evaluated.
-/
import MoPepGen.Model.Digest
import MoPepGen.Generated.Codon
namespace MoPepGen.Spec

/-! ### translation -/

def codon (a b c : Char) : Char := (Generated.codonTable.lookup (a, b, c)).getD 'X'

/-- `Bio.Seq.translate` (standard table, no `to_stop`): trailing partial codon dropped. -/
def translate : List Char → List Char
  | a :: b :: c :: rest => codon a b c :: translate rest
  | _ => []

/-! ### inputs -/

/-- compatibility class for merging adjacent records (`find_mnvs_from_adjacent_variants`) -/
inductive VCls where
  | snv      -- SNV, RNAEditingSite
  | indel    -- INDEL
  | other    -- anything that is never merged
  deriving DecidableEq, Repr, Inhabited

/-- a small variant in transcript coordinates, VCF style (`ref` non-empty, `[start,end)` = ref) -/
structure Var where
  start : Nat
  stop  : Nat
  ref   : List Char
  alt   : List Char
  cls   : VCls
  ids   : List Nat          -- ids of the GVF records it stands for (2 for a merged pair)
  /-- first position at which the record counts as touching a Sec codon: `start` in general,
  `start + 1` for an alternative-splicing Deletion (its first base is kept) -/
  touch : Nat := start
  deriving Repr, Inhabited, DecidableEq

structure TxIn where
  seq     : List Char
  coding  : Bool                -- has a known ORF (`is_protein_coding`)
  orfStart : Nat                -- meaningful when `coding`
  orfEnd  : Nat                 -- annotated ORF end (start of the stop codon), when `coding`
  startNF : Bool
  endNF   : Bool
  sec     : List Nat            -- starts of annotated Sec codons (transcript coordinates)
  /-- fusion / circRNA backbones: a non-coding backbone may only open an ORF at an ATG starting
  at or before this position (the start of the acceptor part) -/
  orfLimit : Option Nat := none
  /-- the backbone is a fusion transcript (the mRNA_end_NF rule on the last annotated codon of the
  donor does not apply to its records) -/
  isFusion : Bool := false
  deriving Repr, Inhabited

structure Cfg where
  cleave : CleaveCfg
  sect   : Bool
  w2f    : Bool
  canonical : List Pep

/-! ### which records can be used, and which combinations -/

def startIndex (t : TxIn) : Nat := (if t.coding then t.orfStart else 0) + 3

/-- "start exclusion / end inclusion" form of an indel that sits on the last base of the
start codon (`to_end_inclusion`): the anchor base moves to the right end. -/
def toEndInclusion (seq : List Char) (v : Var) : Var :=
  match seq[v.stop]? with
  | none => v
  | some c => { v with start := v.start + 1, stop := v.stop + 1, touch := v.touch + 1,
                       ref := v.ref.drop 1 ++ [c], alt := v.alt.drop 1 ++ [c] }

/-- The records the statement's "supplied variants" ranges over for transcript `t`:
after the start codon (an indel anchored ON the last start-codon base is re-anchored
to its right end), and — for `mRNA_end_NF` — not touching the last annotated codon. -/
def usable (t : TxIn) (v : Var) : Option Var :=
  let v := if v.start + 1 == startIndex t && v.cls == .indel then toEndInclusion t.seq v else v
  if v.start < startIndex t then none
  else
    let txEnd := if t.coding then t.orfEnd else t.seq.length
    if t.endNF && !t.isFusion && v.start < txEnd && txEnd - 3 < v.stop then none
    else some v

def sameMergeCls (a b : Var) : Bool := a.cls != .other && a.cls == b.cls

/-- merged forms of adjacent records of one class (pairs: `--max-adjacent-as-mnv 2`) -/
def mergedPairs (vs : List Var) : List Var :=
  vs.flatMap fun a => (vs.filter fun b => a.stop == b.start && sameMergeCls a b).map fun b =>
    { start := a.start, stop := b.stop, ref := a.ref ++ b.ref, alt := a.alt ++ b.alt,
      cls := .other, ids := a.ids ++ b.ids, touch := a.touch }

def insertByStart (v : Var) : List Var → List Var
  | [] => [v]
  | w :: ws => if v.start ≤ w.start then v :: w :: ws else w :: insertByStart v ws

def sortByStart (vs : List Var) : List Var := vs.foldr insertByStart []

/-- strictly separated (neither overlapping nor adjacent), in ascending order -/
def separated : List Var → Bool
  | [] => true
  | [_] => true
  | a :: b :: rest => a.stop < b.start && separated (b :: rest)

def sublists {α : Type} : List α → List (List α)
  | [] => [[]]
  | x :: xs => let r := sublists xs; r ++ r.map (x :: ·)

/-- the usable records of `t` together with the merged forms of adjacent pairs -/
def recordPool (t : TxIn) (vs : List Var) : List Var :=
  let us := vs.filterMap (usable t)
  us ++ mergedPairs us

/-- every compatible combination ("haplotype") of the usable records, merged pairs included:
any sub-collection of the pool that, put in ascending order, is strictly separated -/
def haplotypes (t : TxIn) (vs : List Var) : List (List Var) :=
  ((sublists (recordPool t vs)).map sortByStart).filter fun h => !h.isEmpty && separated h

/-! ## a pruned enumerator for the compatible combinations, and the equation the compiler uses

`haplotypes` above is the DEFINITION: all `2^n` sub-collections of the pool, each sorted by
`start`, the non-empty strictly separated ones kept.  That is the clearest way to say "every
compatible combination", and exponential in the pool size whatever the records look like.

`haplotypesFast` extends a sub-collection only by records compatible with everything already
chosen (work proportional to the number of compatible sub-collections).  Proved below, for ALL
record lists — no well-formedness hypothesis (ties in `start`, `stop < start`, duplicates) —

* `separated_sort_eq_pairwiseOk` : `separated (sortByStart s) = pairwiseOk s`,
* `filter_sublists_eq_pruned`    : `(sublists p).filter pairwiseOk = prunedSublists p`,
* `haplotypes_eq_haplotypesFast` : `haplotypes t vs = haplotypesFast t vs` (same list, same order),

and the last one is registered as a `@[csimp]` equation (`haplotypes_eq_fast`): every definition
COMPILED after this point (`callVariant`, `callBackbone`, `callCirc`, `callCircMixed…`,
`witnessCompletion` below, `Graph.allHaps`, the driver ops) evaluates `haplotypesFast` wherever
the source says `haplotypes`, while every theorem keeps talking about the definition.  `csimp`
acts when a caller is compiled, which is why this block sits HERE, in front of the callers, and
not in a later file.  Not an axiom, not `implemented_by`: a kernel-checked equality; what is
trusted is that Lean's compiler honours `csimp`.  Core tactics only (this file is linked into
the native driver). -/

/-- are `x` and `y` strictly separated once the collection is put in ascending order?  `x` is
the record that comes EARLIER in the unsorted collection: the stable insertion sort
`sortByStart` puts it in front of `y` exactly when `x.start ≤ y.start` (ties keep their order) -/
def compatOrd (x y : Var) : Bool :=
  if x.start ≤ y.start then decide (x.stop < y.start) else decide (y.stop < x.start)

/-- every record is `compatOrd` with every later one -/
def pairwiseOk : List Var → Bool
  | [] => true
  | x :: s => s.all (compatOrd x) && pairwiseOk s

/-- the sub-collections of `p` (in the order of `sublists`) that are pairwise compatible:
`x` is only put in front of those sub-collections of the rest it is compatible with -/
def prunedSublists : List Var → List (List Var)
  | [] => [[]]
  | x :: xs =>
    let r := prunedSublists xs
    r ++ (r.filter fun s => s.all (compatOrd x)).map (x :: ·)

/-- `haplotypes` without the exponential detour -/
def haplotypesFast (t : TxIn) (vs : List Var) : List (List Var) :=
  ((prunedSublists (recordPool t vs)).filter fun s => !s.isEmpty).map sortByStart

theorem insertByStart_perm (v : Var) : ∀ (l : List Var), (insertByStart v l).Perm (v :: l)
  | [] => .refl _
  | w :: ws => by
    simp only [insertByStart]
    split
    · exact .refl _
    · exact ((insertByStart_perm v ws).cons w).trans (.swap v w ws)

theorem sortByStart_cons (a : Var) (l : List Var) :
    sortByStart (a :: l) = insertByStart a (sortByStart l) := rfl

theorem sortByStart_perm : ∀ (l : List Var), (sortByStart l).Perm l
  | [] => .refl _
  | a :: l => (insertByStart_perm a _).trans ((sortByStart_perm l).cons a)

theorem mem_insertByStart (x y : Var) (l : List Var) :
    y ∈ insertByStart x l ↔ y = x ∨ y ∈ l :=
  (insertByStart_perm x l).mem_iff.trans List.mem_cons

theorem mem_sortByStart_iff (y : Var) (l : List Var) : y ∈ sortByStart l ↔ y ∈ l :=
  (sortByStart_perm l).mem_iff

/-- ascending in `start` (ties allowed) -/
abbrev Ascending (l : List Var) : Prop := l.Pairwise fun a b => a.start ≤ b.start

theorem pairwise_insertByStart (R : Var → Var → Prop) (x : Var) : ∀ (l : List Var), Ascending l →
    ((insertByStart x l).Pairwise R ↔
      (∀ y ∈ l, if x.start ≤ y.start then R x y else R y x) ∧ l.Pairwise R) := by
  intro l
  induction l with
  | nil => intro _; simp [insertByStart]
  | cons w ws ih =>
    intro hs
    obtain ⟨hw, hws⟩ := List.pairwise_cons.mp hs
    simp only [insertByStart]
    split
    · rename_i hle
      have hc : ∀ y ∈ w :: ws, x.start ≤ y.start :=
        List.forall_mem_cons.mpr ⟨hle, fun y hy => Nat.le_trans hle (hw y hy)⟩
      rw [List.pairwise_cons]
      exact and_congr_left' (forall₂_congr fun y hy => by rw [if_pos (hc y hy)])
    · rename_i hnle
      have hm : (∀ y ∈ insertByStart x ws, R w y) ↔ R w x ∧ ∀ y ∈ ws, R w y := by
        simp only [mem_insertByStart, forall_eq_or_imp]
      rw [List.pairwise_cons, List.pairwise_cons, ih hws, hm, List.forall_mem_cons, if_neg hnle]
      exact and_and_and_comm

theorem insertByStart_ascending (x : Var) (l : List Var) (h : Ascending l) :
    Ascending (insertByStart x l) := by
  refine (pairwise_insertByStart _ x l h).mpr ⟨fun y _ => ?_, h⟩
  split
  · assumption
  · exact Nat.le_of_lt (Nat.lt_of_not_le ‹_›)

theorem sortByStart_ascending : ∀ (l : List Var), Ascending (sortByStart l) := by
  intro l
  induction l with
  | nil => exact List.Pairwise.nil
  | cons a l ih => rw [sortByStart_cons]; exact insertByStart_ascending a _ ih

theorem sortByStart_isEmpty (s : List Var) : (sortByStart s).isEmpty = s.isEmpty :=
  (sortByStart_perm s).isEmpty_eq

/-- no hypothesis `start ≤ stop` on the records: `a.stop < b.start ≤ c.start` needs
`b.start ≤ c.start` (the list is ascending), not `b.start ≤ b.stop` -/
theorem separated_iff_pairwise : ∀ (l : List Var), Ascending l →
    (separated l = true ↔ l.Pairwise fun a b => a.stop < b.start) := by
  intro l
  induction l with
  | nil => intro _; simp [separated]
  | cons a rest ih =>
    intro hs
    obtain ⟨_, hrest⟩ := List.pairwise_cons.mp hs
    cases rest with
    | nil => simp [separated]
    | cons b r =>
      obtain ⟨hb, _⟩ := List.pairwise_cons.mp hrest
      simp only [separated, Bool.and_eq_true, decide_eq_true_eq, ih hrest,
        List.pairwise_cons (a := a), List.forall_mem_cons]
      exact ⟨fun ⟨h1, h2⟩ => ⟨⟨h1, fun y hy => Nat.lt_of_lt_of_le h1 (hb y hy)⟩, h2⟩,
        fun ⟨h1, h2⟩ => ⟨h1.1, h2⟩⟩

theorem compatOrd_iff (x y : Var) :
    compatOrd x y = true ↔ if x.start ≤ y.start then x.stop < y.start else y.stop < x.start := by
  unfold compatOrd
  split <;> exact decide_eq_true_iff

theorem separated_sort_eq_pairwiseOk (s : List Var) :
    separated (sortByStart s) = pairwiseOk s := by
  rw [Bool.eq_iff_iff]
  induction s with
  | nil => exact Iff.rfl
  | cons x s ih =>
    have hasc := sortByStart_ascending s
    rw [sortByStart_cons,
      separated_iff_pairwise _ (insertByStart_ascending x _ hasc),
      pairwise_insertByStart _ x _ hasc, ← separated_iff_pairwise _ hasc, ih]
    simp only [pairwiseOk, Bool.and_eq_true, List.all_eq_true, mem_sortByStart_iff, compatOrd_iff]

theorem filter_sublists_eq_pruned : ∀ (p : List Var),
    (sublists p).filter pairwiseOk = prunedSublists p := by
  intro p
  induction p with
  | nil => rfl
  | cons x xs ih =>
    simp only [sublists, prunedSublists, List.filter_append, List.filter_map, ih]
    congr 2
    rw [← ih, List.filter_filter]
    apply List.filter_congr
    intro s _
    simp [pairwiseOk]

theorem haplotypes_eq_haplotypesFast (t : TxIn) (vs : List Var) :
    haplotypes t vs = haplotypesFast t vs := by
  simp only [haplotypes, haplotypesFast, List.filter_map]
  congr 1
  rw [← filter_sublists_eq_pruned, List.filter_filter]
  apply List.filter_congr
  intro s _
  simp [sortByStart_isEmpty, separated_sort_eq_pairwiseOk]

@[csimp] theorem haplotypes_eq_fast : @haplotypes = @haplotypesFast := by
  funext t vs
  exact haplotypes_eq_haplotypesFast t vs

/-- the transcript sequence carrying haplotype `h` (ascending, separated) -/
def applyHap (seq : List Char) (h : List Var) : List Char :=
  let rec go (pos : Nat) (rest : List Char) : List Var → List Char
    | [] => rest
    | v :: vs =>
      (rest.take (v.start - pos)) ++ v.alt ++ go v.stop (rest.drop (v.stop - pos)) vs
  go 0 seq h

/-- annotated Sec codons that survive haplotype `h`, at their new positions -/
def secAfter (sec : List Nat) (h : List Var) : List Nat :=
  sec.filterMap fun s =>
    -- convention of the command (and of its brute-force twin): a Sec codon is read as U
    -- only if NO record's location — anchor base included — overlaps it
    let touches := h.any fun v => v.touch < s + 3 && s < v.stop
    if touches then none
    else
      let shift : Int := h.foldl (fun acc v =>
        if v.stop ≤ s then acc + (v.alt.length : Int) - (v.ref.length : Int) else acc) 0
      some ((s : Int) + shift).toNat

/-! ### proteins of a sequence -/

/-- translation from `start` to the first stop; annotated Sec codons in frame read `U`.
Returns the protein and whether a stop codon terminated it. -/
def proteinFrom (seq : List Char) (sec : List Nat) (start : Nat) : Pep × Bool :=
  let aa := translate (seq.drop start)
  let aa := (List.range aa.length).zip aa |>.map fun (i, c) =>
    if c == '*' && sec.contains (start + 3 * i) then 'U' else c
  let prot := aa.takeWhile (· != '*')
  (prot, prot.length < aa.length)

/-- positions of every `ATG` -/
def startCodons (seq : List Char) : List Nat :=
  (List.range seq.length).filter fun i =>
    seq[i]? == some 'A' && seq[i+1]? == some 'T' && seq[i+2]? == some 'G'

/-- the reading frames the statement allows: the known ORF for a coding transcript,
every ATG otherwise -/
def orfStarts (t : TxIn) (seq : List Char) : List Nat :=
  if t.coding then [t.orfStart]
  else match t.orfLimit with
    | none => startCodons seq
    | some lim => (startCodons seq).filter (· ≤ lim)

/-! ### digestion products with the documented N-terminal / alt-translation forms -/

def massOk (c : CleaveCfg) (p : Pep) : Bool :=
  match molWeight c.tab c.water p with
  | some w => decide (c.minMw ≤ w)
  | none => false

def pepOk (c : CleaveCfg) (p : Pep) : Bool :=
  decide (c.minLen ≤ p.length) && decide (p.length ≤ c.maxLen) && massOk c p

/-- all W→F images of `p` for non-empty subsets of its tryptophans -/
def w2fImages (p : Pep) : List Pep :=
  let rec go : Pep → List (Pep × Bool)
    | [] => [([], false)]
    | c :: cs =>
      let r := go cs
      if c == 'W' then (r.map fun (q, b) => (c :: q, b)) ++ (r.map fun (q, _) => ('F' :: q, true))
      else r.map fun (q, b) => (c :: q, b)
  (go p).filterMap fun (q, b) => if b then some q else none

/-- prefixes of `p` ending just before a `U` (selenocysteine read as termination) -/
def sectForms (p : Pep) : List Pep :=
  (List.range p.length).filterMap fun k => if p[k]? == some 'U' then some (p.take k) else none

/-- raw digestion products of one protein: stretches between boundaries with ≤ misc sites
between, plus the Met-removed twin of those starting the protein (unless `nf`);
`dropOpenEnd` drops the products that reach the end of a protein not closed by a stop —
unless that end is itself a cleavage site of the rule as decided on the protein alone (a rule
without look-ahead cuts behind its residue whatever follows, so the product is complete). -/
def rawProducts (c : CleaveCfg) (prot : Pep) (nf : Bool) (dropOpenEnd : Bool) : List Pep :=
  let sites := cleaveSites c.rule c.exc prot
  let bs := bounds sites prot.length
  (List.range (bs.length - 1)).flatMap fun st =>
    (List.range (min (c.misc + 1) (bs.length - (st + 1)))).flatMap fun k =>
      let a := bs.getD st 0
      let b := bs.getD (st + 1 + k) 0
      if dropOpenEnd && b == prot.length && !sites.contains prot.length then []
      else
        let p := slice prot a b
        (if st == 0 && !nf && p.head? == some 'M' then [p.drop 1] else []) ++ [p]

/-- all forms (plain, Sec-terminated, W→F) of the products of one protein -/
def productForms (g : Cfg) (prot : Pep) (nf closed : Bool) (endNF : Bool) : List Pep :=
  let raw := rawProducts g.cleave prot nf (endNF && !closed)
  let secs := if g.sect then
      -- termination at a Sec: the product that would contain the U ends before it.
      -- Convention of the command (shared by its brute-force twin): the Sec-terminated
      -- forms are derived from the REPORTED products only, so for mRNA_end_NF a product
      -- that reaches the open end of the sequence contributes no Sec-terminated form either.
      raw.flatMap sectForms
    else []
  let base := raw ++ secs
  let all := if g.w2f then base ++ base.flatMap w2fImages else base
  all.filter (pepOk g.cleave)

/-! ### compiled form of `productForms`
`productForms` generates every W→F image of every raw product before it applies the length and
mass limits: a product with k tryptophans has 2^k − 1 images, and enzymes with rare sites
(caspases, enterokinase) leave products of several hundred residues.  The images have the
length of their product, so products beyond `maxLen` contribute nothing.  `productFormsFast`
skips them; the two functions are EQUAL (as lists, same order) and the equation is registered
with `@[csimp]` HERE, before the callers below are compiled, so the native driver runs the fast
one wherever `productForms` occurs while every theorem keeps talking about the definition. -/

theorem w2fImages_go_spec : ∀ (p q : Pep) (b : Bool), (q, b) ∈ w2fImages.go p →
    q.length = p.length ∧ (b = true → q ≠ p) := by
  intro p
  induction p with
  | nil =>
    intro q b h
    simp only [w2fImages.go, List.mem_singleton, Prod.mk.injEq] at h
    simp [h.1, h.2]
  | cons c cs ih =>
    intro q b h
    have keep : (q, b) ∈ (w2fImages.go cs).map (fun (q, b) => (c :: q, b)) →
        q.length = (c :: cs).length ∧ (b = true → q ≠ c :: cs) := by
      intro h
      obtain ⟨⟨q', b'⟩, hm, he⟩ := List.mem_map.mp h
      cases he
      obtain ⟨hl, hne⟩ := ih q' b hm
      exact ⟨congrArg (· + 1) hl, fun hb e => hne hb (List.cons.inj e).2⟩
    simp only [w2fImages.go] at h
    split at h
    · next hc =>
      rcases List.mem_append.mp h with h | h
      · exact keep h
      · obtain ⟨⟨q', b'⟩, hm, he⟩ := List.mem_map.mp h
        cases he
        refine ⟨congrArg (· + 1) (ih q' b' hm).1, fun _ e => ?_⟩
        rw [eq_of_beq hc] at e
        exact absurd (List.cons.inj e).1 (by decide)
    · exact keep h

theorem mem_w2fImages (p q : Pep) : q ∈ w2fImages p ↔ (q, true) ∈ w2fImages.go p := by
  simp only [w2fImages, List.mem_filterMap, Prod.exists, Option.ite_none_right_eq_some,
    Option.some.injEq]
  constructor
  · rintro ⟨r, b, hm, rfl, rfl⟩
    exact hm
  · exact fun h => ⟨q, true, h, rfl, rfl⟩

theorem w2fImages_length (p q : Pep) (h : q ∈ w2fImages p) : q.length = p.length :=
  (w2fImages_go_spec p q true ((mem_w2fImages p q).mp h)).1

theorem flatMap_filter_of_nil {α β : Type} (l : List α) (h : α → List β) (q : α → Bool)
    (hq : ∀ a, q a = false → h a = []) : l.flatMap h = (l.filter q).flatMap h := by
  induction l with
  | nil => rfl
  | cons a l ih =>
    cases hqa : q a with
    | true => rw [List.filter_cons_of_pos hqa, List.flatMap_cons, List.flatMap_cons, ih]
    | false =>
      rw [List.filter_cons_of_neg (by simp [hqa]), List.flatMap_cons, hq a hqa, ih]
      rfl

/-- the forms of the products of one protein, W→F images only of products within `maxLen` -/
def productFormsFast (g : Cfg) (prot : Pep) (nf closed : Bool) (endNF : Bool) : List Pep :=
  let raw := rawProducts g.cleave prot nf (endNF && !closed)
  let secs := if g.sect then raw.flatMap sectForms else []
  let base := raw ++ secs
  if g.w2f then
    base.filter (pepOk g.cleave) ++
      ((base.filter fun p => decide (p.length ≤ g.cleave.maxLen)).flatMap fun p =>
        (w2fImages p).filter (pepOk g.cleave))
  else base.filter (pepOk g.cleave)

theorem w2f_filter_nil (c : CleaveCfg) (p : Pep) (h : decide (p.length ≤ c.maxLen) = false) :
    (w2fImages p).filter (pepOk c) = [] := by
  apply List.filter_eq_nil_iff.mpr
  intro q hq
  simp [pepOk, w2fImages_length p q hq, of_decide_eq_false h]

theorem productForms_eq_fast' (g : Cfg) (prot : Pep) (nf closed endNF : Bool) :
    productForms g prot nf closed endNF = productFormsFast g prot nf closed endNF := by
  simp only [productForms, productFormsFast]
  by_cases hw : g.w2f = true
  · rw [if_pos hw, if_pos hw, List.filter_append, List.filter_flatMap,
      ← flatMap_filter_of_nil _ _ _ fun a ha => w2f_filter_nil g.cleave a ha]
  · rw [if_neg hw, if_neg hw]

@[csimp] theorem productForms_eq_fast : @productForms = @productFormsFast := by
  funext g prot nf closed endNF
  exact productForms_eq_fast' g prot nf closed endNF


/-- every peptide form the transcript sequence `seq` gives under the allowed reading frames -/
def peptidesOf (g : Cfg) (t : TxIn) (seq : List Char) (sec : List Nat) (endNF : Bool) : List Pep :=
  (orfStarts t seq).flatMap fun s =>
    let (prot, closed) := proteinFrom seq sec s
    -- the Met-removed twin is reported whenever the translation starts with M, also for
    -- cds_start_NF transcripts (convention of the command, unlike the canonical pool)
    productForms g prot false closed endNF

/-- peptides of the unmodified transcript (with the requested alt-translation forms) -/
def referencePeptides (g : Cfg) (t : TxIn) : List Pep :=
  peptidesOf g t t.seq t.sec false

/-- S: the set C01/C02 speak about: products of some haplotype's translation, meeting the
limits, that are neither products of the unmodified transcript nor canonical. -/
def callVariant (g : Cfg) (t : TxIn) (vs : List Var) : List Pep :=
  let deny := referencePeptides g t
  ((haplotypes t vs).flatMap fun h =>
      peptidesOf g t (applyHap t.seq h) (secAfter t.sec h) t.endNF).filter fun p =>
    !deny.contains p && !g.canonical.contains p

/-- S: the set for a fusion / circRNA BACKBONE `t` (already assembled from the breakpoints or
the fragments): the backbone itself is the variant, so the empty combination of small records
counts; `deny` = the products of the unmodified donor / host transcript. -/
def callBackbone (g : Cfg) (t : TxIn) (vs : List Var) (deny : List Pep) : List Pep :=
  (([] :: haplotypes t vs).flatMap fun h =>
      -- the start of the acceptor part moves with the indels of the combination that lie before it
      let lim := t.orfLimit.map fun l =>
        ((l : Int) + h.foldl (fun acc v =>
          if v.stop ≤ l then acc + (v.alt.length : Int) - (v.ref.length : Int) else acc) 0).toNat
      peptidesOf g { t with orfLimit := lim } (applyHap t.seq h) (secAfter t.sec h) t.endNF).filter fun p =>
    !deny.contains p && !g.canonical.contains p

/-- S: the set for a circRNA: `circSeq` = the fragments concatenated in transcript order; a
combination of the small records inside the fragments is applied to the ONE molecule, which
is then read around the circle (four copies suffice for peptides of bounded length); every
ATG opens a frame; only peptides closed by a stop codon count. -/
def callCirc (g : Cfg) (circSeq : List Char) (vs : List Var) (deny : List Pep) : List Pep :=
  -- which records are usable: a circle has no 3' end, so the mRNA_end_NF rule on the last
  -- codon does not apply (`endNF := false` here) …
  let tU : TxIn := { seq := circSeq, coding := false, orfStart := 0, orfEnd := 0, startNF := false,
                     endNF := false, sec := [] }
  -- … while the unrolled copies do end openly: products reaching that end do not count
  let t : TxIn := { tU with endNF := true }
  (([] :: haplotypes tU vs).flatMap fun h =>
      let m := applyHap circSeq h
      peptidesOf { g with sect := false } t (m ++ m ++ m ++ m) [] true).filter fun p =>
    !deny.contains p && !g.canonical.contains p

/-- NOT the definition — used only to classify a discrepancy: the set obtained when each of
the (four) passes around the circle may carry its own combination of the records, which is
what a graph with independent bubbles per copy yields -/
def callCircMixed (g : Cfg) (circSeq : List Char) (vs : List Var) (deny : List Pep) : List Pep :=
  let tU : TxIn := { seq := circSeq, coding := false, orfStart := 0, orfEnd := 0, startNF := false,
                     endNF := false, sec := [] }
  let t : TxIn := { tU with endNF := true }
  let copies := ([] :: haplotypes tU vs).map (applyHap circSeq)
  (copies.flatMap fun a => copies.flatMap fun b => copies.flatMap fun c => copies.flatMap fun d =>
      peptidesOf { g with sect := false } t (a ++ b ++ c ++ d) [] true).filter fun p =>
    !deny.contains p && !g.canonical.contains p

/-- NOT the definition — classification only: like `callCircMixed`, but the passes may differ
only in records that keep the reading frame (length change divisible by three); frameshifting
records are carried by all passes or by none -/
def callCircMixedInFrame (g : Cfg) (circSeq : List Char) (vs : List Var) (deny : List Pep) : List Pep :=
  let tU : TxIn := { seq := circSeq, coding := false, orfStart := 0, orfEnd := 0, startNF := false,
                     endNF := false, sec := [] }
  let t : TxIn := { tU with endNF := true }
  let isFs (v : Var) : Bool := ((v.alt.length : Int) - (v.ref.length : Int)) % 3 != 0
  let haps := [] :: haplotypes tU vs
  (haps.flatMap fun ha =>
    let same := haps.filter fun h => (h.filter isFs) == (ha.filter isFs)
    let a := applyHap circSeq ha
    same.flatMap fun hb => same.flatMap fun hc => same.flatMap fun hd =>
      peptidesOf { g with sect := false } t
        (a ++ applyHap circSeq hb ++ applyHap circSeq hc ++ applyHap circSeq hd) [] true).filter
    fun p => !deny.contains p && !g.canonical.contains p

/-- ascending, non-overlapping; adjacency only between two records of one merge class and
never three in a row (what the merged pairs of `haplotypes` allow) -/
def separatedOrPaired : List Var → Bool
  | [] => true
  | [_] => true
  | a :: b :: rest =>
    if a.stop < b.start then separatedOrPaired (b :: rest)
    else if a.stop == b.start && sameMergeCls a b then
      -- `b` must be strictly separated from what follows
      (match rest with
        | [] => true
        | c :: _ => decide (b.stop < c.start)) && separatedOrPaired (b :: rest)
    else false

/-- S (C03): applying exactly the records named by `ids` (all of them usable and mutually
compatible) to the transcript gives a translation of which `p` is a digestion product -/
def witness (g : Cfg) (t : TxIn) (vs : List Var) (ids : List Nat) (p : Pep) : Bool :=
  let us := sortByStart (vs.filterMap (usable t))
  let h := us.filter fun v => v.ids.all ids.contains
  ids.all (fun i => h.any (·.ids.contains i)) && separatedOrPaired h &&
    (peptidesOf g t (applyHap t.seq h) (secAfter t.sec h) t.endNF).contains p

/-- the smallest set of additional record ids that turns `ids` into a witness for `p`
(`none` if no compatible combination containing `ids` yields `p`): used to describe HOW a
header entry fails to be a witness -/
def witnessCompletion (g : Cfg) (t : TxIn) (vs : List Var) (ids : List Nat) (p : Pep) :
    Option (List Nat) :=
  let cands := (haplotypes t vs).filter fun h =>
    ids.all (h.flatMap (·.ids)).contains &&
      (peptidesOf g t (applyHap t.seq h) (secAfter t.sec h) t.endNF).contains p
  let extras := cands.map fun h => (h.flatMap (·.ids)).filter fun i => !ids.contains i
  extras.foldl (fun best e => match best with
    | none => some e
    | some b => if e.length < b.length then some e else some b) none

/-! ### header entries on a circRNA backbone (C03) -/

/-- the reading of a circle that decides which records are usable (the `tU` of `callCirc`) -/
def circHost (circSeq : List Char) : TxIn :=
  { seq := circSeq, coding := false, orfStart := 0, orfEnd := 0, startNF := false,
    endNF := false, sec := [] }

/-- the peptide forms of the ONE molecule that carries the combination `h`, read around the
circle (the inner expression of `callCirc`, see `Props.C03.callCirc_unfold`) -/
def circPeptides (g : Cfg) (circSeq : List Char) (h : List Var) : List Pep :=
  let m := applyHap circSeq h
  peptidesOf { g with sect := false } { circHost circSeq with endNF := true } (m ++ m ++ m ++ m) [] true

/-- S (C03, circRNA backbone): applying exactly the records named by `ids` (all of them usable
inside the circle and mutually compatible) to the one molecule — the same records in EVERY pass
around the circle — gives a translation of which `p` is a digestion product -/
def witnessCirc (g : Cfg) (circSeq : List Char) (vs : List Var) (ids : List Nat) (p : Pep) : Bool :=
  let us := sortByStart (vs.filterMap (usable (circHost circSeq)))
  let h := us.filter fun v => v.ids.all ids.contains
  ids.all (fun i => h.any (·.ids.contains i)) && separatedOrPaired h &&
    (circPeptides g circSeq h).contains p

/-- classification only: the smallest set of additional record ids that turns `ids` into a
witness for `p` on the circle (`none`: no combination containing `ids` yields `p`) -/
def witnessCircCompletion (g : Cfg) (circSeq : List Char) (vs : List Var) (ids : List Nat) (p : Pep) :
    Option (List Nat) :=
  let cands := ([] :: haplotypes (circHost circSeq) vs).filter fun h =>
    ids.all (h.flatMap (·.ids)).contains && (circPeptides g circSeq h).contains p
  let extras := cands.map fun h => (h.flatMap (·.ids)).filter fun i => !ids.contains i
  extras.foldl (fun best e => match best with
    | none => some e
    | some b => if e.length < b.length then some e else some b) none

/-! ### where an omitted record lies relative to the peptide (classification of label defects) -/

/-- the stretch `[a, b)` that record `v ∈ h` occupies in the sequence carrying `h` -/
def appliedSpan (h : List Var) (v : Var) : Nat × Nat :=
  let shift : Int := h.foldl (fun acc w =>
    if w.stop ≤ v.start then acc + (w.alt.length : Int) - (w.ref.length : Int) else acc) 0
  let a := ((v.start : Int) + shift).toNat
  (a, a + max v.alt.length 1)

/-- DNA stretches `[a, b)` of the occurrences of `p` inside the stop-free translation of a
permitted reading frame of `seq` -/
def occurrences (t : TxIn) (seq : List Char) (sec : List Nat) (p : Pep) : List (Nat × Nat) :=
  (orfStarts t seq).flatMap fun s =>
    let prot := (proteinFrom seq sec s).1
    (List.range (prot.length + 1 - p.length)).filterMap fun i =>
      if (prot.drop i).take p.length == p then some (s + 3 * i, s + 3 * (i + p.length)) else none

/-- NOT part of any definition — used only to classify a header entry that is no witness: in the
combination `ids ++ extra` (a witness for `p`), does one of the records the entry OMITS
(`extra`) lie inside the stretch that encodes `p`?  (`false` when `p` is not a plain stretch
of the translation, e.g. a W→F form.) -/
def omittedInside (t : TxIn) (vs : List Var) (ids extra : List Nat) (p : Pep) : Bool :=
  let us := sortByStart (vs.filterMap (usable t))
  let all := ids ++ extra
  let h := us.filter fun v => v.ids.all all.contains
  let seq := applyHap t.seq h
  let occ := occurrences t seq (secAfter t.sec h) p
  (h.filter fun v => v.ids.any extra.contains).any fun v =>
    let (a, b) := appliedSpan h v
    occ.any fun (x, y) => decide (a < y) && decide (x < b)

/-- NOT part of any definition — classification only: like `omittedInside`, but for the
neighbourhood of the peptide: an omitted record ends within one codon in front of the peptide's
first codon or starts within one codon behind its last (it creates or removes the cleavage site
that bounds the peptide). -/
def omittedAdjacent (t : TxIn) (vs : List Var) (ids extra : List Nat) (p : Pep) : Bool :=
  let us := sortByStart (vs.filterMap (usable t))
  let all := ids ++ extra
  let h := us.filter fun v => v.ids.all all.contains
  let seq := applyHap t.seq h
  let occ := occurrences t seq (secAfter t.sec h) p
  (h.filter fun v => v.ids.any extra.contains).any fun v =>
    let (a, b) := appliedSpan h v
    occ.any fun (x, y) =>
      (decide (b ≤ x) && decide (x ≤ b + 3)) || (decide (y ≤ a) && decide (a ≤ y + 3))

/-! ### callNovelORF and callAltTranslation (no variants) -/

/-- S (C08): peptides of every ATG-initiated ORF in three frames of the transcript, minus the
canonical pool; with W→F reassignment also the W→F images of those (non-canonical) peptides.
(A W→F image of a CANONICAL peptide is an alt-translation peptide of a canonical protein —
callAltTranslation's subject — not a novel-ORF peptide.) -/
def novelOrfPeptides (g : Cfg) (seq : List Char) : List Pep :=
  let t : TxIn := { seq := seq, coding := false, orfStart := 0, orfEnd := 0, startNF := false,
                    endNF := false, sec := [] }
  let plain := (peptidesOf { g with sect := false, w2f := false } t seq [] false).filter
    fun p => !g.canonical.contains p
  if g.w2f then
    plain ++ ((plain.flatMap w2fImages).filter fun p => pepOk g.cleave p && !g.canonical.contains p)
  else plain

/-- S (C09): digestion products of the annotated ORF that arise ONLY through Sec termination
and/or W→F substitution (per flags), minus the canonical pool -/
def altTranslationPeptides (g : Cfg) (t : TxIn) : List Pep :=
  let plain := peptidesOf { g with sect := false, w2f := false } t t.seq t.sec t.endNF
  (peptidesOf g t t.seq t.sec t.endNF).filter fun p =>
    !plain.contains p && !g.canonical.contains p

end MoPepGen.Spec
