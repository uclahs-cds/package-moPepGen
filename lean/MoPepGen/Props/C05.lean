import MoPepGen.Props.C02
import MoPepGen.Generated.Expasy
import MoPepGen.Generated.Weights
import MoPepGen.Lemmas.DigestTables
/-!
# C05 — options and inputs act monotonically  (PARTIAL for the real command)

Theorems on the definitional layer `Spec.callVariant` (all inputs):
* adding records only adds peptides, and every added peptide needs a combination that uses an
  added record (`callVariant_mono_records`, `added_uses_new_combination`) — full statement;
* relaxing a limit / enabling SECT or W2F only adds PRODUCT FORMS (`peptidesOf_mono`);
  for the reported set this gives `callVariant_mono_limits_partial`: a peptide reported under
  the stricter setting is still reported under the relaxed one UNLESS it became a product of
  the unmodified transcript or canonical under the relaxed setting.  The unconditional
  statement of the property is FALSE for the definition: `relaxing_misc_can_remove` is a
  concrete counter-example (an exception context makes the same string a 0-miscleavage
  product of the variant transcript and a 1-miscleavage product of the reference);
* every peptide gained by relaxing is not a product form under the stricter setting
  (`added_outside_stricter`).
The real command is tied to this by paired real runs (`harness/c05.py`).
-/
namespace MoPepGen.Props.C05
open MoPepGen MoPepGen.Spec MoPepGen.Props.C01 MoPepGen.Props.C02

/-! ### records -/

/-- Adding GVF records can only add peptides. -/
theorem callVariant_mono_records (g : Cfg) (t : TxIn) {vs vs' : List Var} (h : vs.Sublist vs')
    (p : Pep) (hp : p ∈ callVariant g t vs) : p ∈ callVariant g t vs' := by
  rw [spec_declarative] at hp ⊢
  obtain ⟨⟨hh, hm, hprod⟩, hr, hc⟩ := hp
  exact ⟨⟨hh, haplotypes_mono t h hh hm, hprod⟩, hr, hc⟩

/-- Every peptide gained by adding records is produced by a combination that was not
available before (it uses an added record). -/
theorem added_uses_new_combination (g : Cfg) (t : TxIn) (vs vs' : List Var) (p : Pep)
    (hp : p ∈ callVariant g t vs') (hn : p ∉ callVariant g t vs) :
    ∃ h ∈ haplotypes t vs', h ∉ haplotypes t vs ∧ ProductOf g t h p := by
  rw [spec_declarative] at hp hn
  obtain ⟨⟨h, hm, hprod⟩, hr, hc⟩ := hp
  exact ⟨h, hm, fun hold => hn ⟨⟨h, hold, hprod⟩, hr, hc⟩, hprod⟩

/-! ### limits and alt-translation flags -/

/-- `g'` is at least as permissive as `g` -/
structure Relaxed (g g' : Cfg) : Prop where
  cleave : MiscLe g.cleave g'.cleave
  tab : g'.cleave.tab = g.cleave.tab
  water : g'.cleave.water = g.cleave.water
  minLen : g'.cleave.minLen ≤ g.cleave.minLen
  maxLen : g.cleave.maxLen ≤ g'.cleave.maxLen
  minMw : g'.cleave.minMw ≤ g.cleave.minMw
  sect : g.sect = true → g'.sect = true
  w2f : g.w2f = true → g'.w2f = true

theorem pepOk_mono {g g' : Cfg} (h : Relaxed g g') (p : Pep) (hp : pepOk g.cleave p = true) :
    pepOk g'.cleave p = true := by
  simp only [pepOk, massOk, Bool.and_eq_true, decide_eq_true_eq] at hp ⊢
  rw [h.tab, h.water]
  obtain ⟨⟨h1, h2⟩, h3⟩ := hp
  refine ⟨⟨Nat.le_trans h.minLen h1, Nat.le_trans h2 h.maxLen⟩, ?_⟩
  cases hw : molWeight g.cleave.tab g.cleave.water p with
  | none => rw [hw] at h3; cases h3
  | some w =>
    rw [hw] at h3
    exact decide_eq_true (Int.le_trans h.minMw (of_decide_eq_true h3))

/-- relaxing only adds product forms of one protein -/
theorem productForms_mono {g g' : Cfg} (h : Relaxed g g') (prot : Pep) (nf closed endNF : Bool)
    (p : Pep) (hp : p ∈ productForms g prot nf closed endNF) :
    p ∈ productForms g' prot nf closed endNF := by
  rw [mem_productForms] at hp ⊢
  obtain ⟨⟨b, hb, hpb⟩, hok⟩ := hp
  have hraw := fun q hq => rawProducts_mono_misc h.cleave prot nf (endNF && !closed) q hq
  -- the same base form `b`: raw products stay, SECT and W2F stay switched on
  refine ⟨⟨b, ?_, hpb.imp_right (And.imp_left h.w2f)⟩, pepOk_mono h p hok⟩
  rcases hb with hb | ⟨hs, r, hr, hb⟩
  · exact Or.inl (hraw b hb)
  · exact Or.inr ⟨h.sect hs, r, hraw r hr, hb⟩

/-- relaxing a limit, or enabling Sec termination / W→F, only adds product forms -/
theorem peptidesOf_mono {g g' : Cfg} (h : Relaxed g g') (t : TxIn) (seq : List Char)
    (sec : List Nat) (endNF : Bool) (p : Pep) (hp : p ∈ peptidesOf g t seq sec endNF) :
    p ∈ peptidesOf g' t seq sec endNF := by
  rw [mem_peptidesOf] at hp ⊢
  obtain ⟨s, hs, hp⟩ := hp
  exact ⟨s, hs, productForms_mono h _ _ _ _ p hp⟩

/-- the products of the unmodified transcript grow too -/
theorem reference_mono {g g' : Cfg} (h : Relaxed g g') (t : TxIn) (p : Pep)
    (hp : p ∈ referencePeptides g t) : p ∈ referencePeptides g' t :=
  peptidesOf_mono h t _ _ _ p hp

/-- MONOTONE UP TO THE EXCLUSIONS: a peptide reported under the stricter setting is reported
under the relaxed one unless it is now a product of the unmodified transcript or canonical. -/
theorem callVariant_mono_limits_partial {g g' : Cfg} (h : Relaxed g g') (t : TxIn)
    (vs : List Var) (p : Pep) (hp : p ∈ callVariant g t vs)
    (hr : p ∉ referencePeptides g' t) (hc : p ∉ g'.canonical) : p ∈ callVariant g' t vs := by
  rw [spec_declarative] at hp ⊢
  obtain ⟨⟨hh, hm, hprod⟩, _, _⟩ := hp
  exact ⟨⟨hh, hm, peptidesOf_mono h t _ _ _ p hprod⟩, hr, hc⟩

/-- ATTRIBUTION: a peptide gained by relaxing is not a product form of any variant combination
under the stricter setting (it lies outside the stricter limit, or needs the enabled form),
provided the canonical pool only grew. -/
theorem added_outside_stricter {g g' : Cfg} (h : Relaxed g g') (t : TxIn) (vs : List Var)
    (hcanon : ∀ q, q ∈ g.canonical → q ∈ g'.canonical) (p : Pep)
    (hp : p ∈ callVariant g' t vs) (hn : p ∉ callVariant g t vs) :
    ¬ Realizable g t vs p := by
  rw [spec_declarative] at hp hn
  obtain ⟨_, hr', hc'⟩ := hp
  exact fun hreal => hn ⟨hreal, fun hr => hr' (reference_mono h t p hr), fun hc => hc' (hcanon p hc)⟩

/-! ### the unconditional statement fails for the definition -/

def tryp : Re := (Generated.expasyRules.lookup "trypsin").getD []
def trypExc : Re := (Generated.expasyRules.lookup "trypsin_exception").getD []
def exCfg (m : Nat) : Cfg :=
  { cleave := { rule := tryp, exc := some trypExc, misc := m, minMw := 0, minLen := 7, maxLen := 25,
                tab := Generated.proteinWeights, water := Generated.waterWeight },
    sect := false, w2f := false, canonical := [] }
/-- M G A A K R H A A A A A A K G G * ; the record turns the K codon AAG into AGG (R) -/
def exTx : TxIn :=
  { seq := "ATGGGTGCTGCTAAGCGTCATGCTGCTGCTGCTGCTGCTAAGGGTGGTTAA".toList, coding := true,
    orfStart := 0, orfEnd := 48, startNF := false, endNF := false, sec := [] }
def exVar : Var := { start := 13, stop := 14, ref := ['A'], alt := ['G'], cls := .snv, ids := [0] }

/-- Relaxing `--miscleavage` from 0 to 1 REMOVES a peptide of the definition's set:
`RHAAAAAAK` is a 0-miscleavage product of the variant transcript (`…AAR|RHAAAAAAK|…`: the
trypsin exception `(?<=R)R(?=[HR])` protects the second R) and a 1-miscleavage product of the
reference (`…AAK|R|HAAAAAAK|…`), hence excluded once one miscleavage is allowed. -/
theorem relaxing_misc_can_remove :
    "RHAAAAAAK".toList ∈ callVariant (exCfg 0) exTx [exVar] ∧
      "RHAAAAAAK".toList ∉ callVariant (exCfg 1) exTx [exVar] := by
  unfold exTx exCfg tryp trypExc
  rw [Generated.lookup_trypsin, Generated.lookup_trypsin_exception]
  char_lists
  decide +kernel

/-- What the compiled driver evaluates is the definition.  The native driver runs
`productFormsFast` (W→F images only of products within `maxLen`) wherever `productForms` occurs
(`@[csimp]` in `Spec/CallVariant.lean`); the two are equal for every configuration, protein and
flag combination — as lists, in the same order. -/
theorem productForms_compiled_eq (g : Cfg) (prot : Pep) (nf closed endNF : Bool) :
    productForms g prot nf closed endNF = productFormsFast g prot nf closed endNF :=
  productForms_eq_fast' g prot nf closed endNF

/-- non-vacuity: with W→F on and `maxLen := 25` the 30-residue product keeps no image, the short
one keeps its image -/
example : productForms { exCfg 0 with w2f := true } "AWAAAAAAKWAAAAAAAAAAAAAAAAAAAAAAAAAAAAAR".toList false true false
    = ["AWAAAAAAK".toList, "AFAAAAAAK".toList] := by
  unfold exCfg tryp trypExc
  rw [Generated.lookup_trypsin, Generated.lookup_trypsin_exception]
  char_lists
  decide +kernel

end MoPepGen.Props.C05
