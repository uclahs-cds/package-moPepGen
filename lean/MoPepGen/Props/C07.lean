import MoPepGen.Lemmas.Pipeline
/-!
# C07 — `--skip-failed` isolates failures; without it failures abort

Theorems about `wrapper` (model of `call_variant_peptides_wrapper`), `processAll` /
`runAll` (result loop + tally) and `reducer` (model of `caller_reducer`), for every
subset of failing units in every position and any number of fusions / circRNAs.
A failing unit is a unit whose caller result is `none`; the callers' results are
data, so the statements hold for any behaviour of the graph algorithm.
Correspondence: fault injection through the guarded hook at the entry of the three
per-unit callers, every subset of units, real FASTA/table/tally vs this model.
-/
namespace MoPepGen.Props.C07
open MoPepGen MoPepGen.Pipe

/-- the same unit, yielding nothing instead of failing -/
def healRes (r : UnitRes) : UnitRes := some (r.getD [])

/-- the transcript's units with every failing unit replaced by one that yields nothing -/
def heal (u : TxUnits) : TxUnits :=
  { u with main := healRes u.main, fusions := u.fusions.map healRes, circs := u.circs.map healRes }

/-- some unit of the transcript fails -/
def hasFailure (u : TxUnits) : Bool :=
  (u.hasMain && u.main.isNone) || u.fusions.any Option.isNone || u.circs.any Option.isNone

/-- S: what the wrapper must return under `--skip-failed`: the peptides of the succeeding
units merged in order -/
def annoOf (u : TxUnits) : PepMap :=
  let a0 := if u.hasMain then addPeptideAnno [] (u.main.getD []) else []
  let a1 := u.fusions.foldl (fun a r => addPeptideAnno a (r.getD [])) a0
  u.circs.foldl (fun a r => addPeptideAnno a (r.getD [])) a1

theorem addPeptideAnno_nil (a : PepMap) : addPeptideAnno a [] = a := rfl

/-- The wrapper in closed form: without `--skip-failed` a failing unit aborts; otherwise the
peptides of the succeeding units are merged in order and the flags say which kinds failed. -/
theorem wrapper_eq (skip : Bool) (u : TxUnits) :
    wrapper skip u = if hasFailure u && !skip then none else
      some ⟨annoOf u,
        (!u.hasMain || u.main.isSome, u.fusions.all Option.isSome, u.circs.all Option.isSome)⟩ := by
  unfold wrapper annoOf hasFailure
  simp only [stepUnits_eq, Bool.true_and]
  -- what is left are nested `if`s on `skip`, `u.hasMain`, whether the main unit failed, and on
  -- whether some fusion (`F`) or circRNA (`C`) unit failed: the two sides agree case by case
  generalize u.fusions.any Option.isNone = F
  generalize u.circs.any Option.isNone = C
  cases u.hasMain <;> cases u.main <;> cases skip <;> cases F <;> cases C <;> rfl

/-- With `--skip-failed` the wrapper always completes, returns exactly the merged peptides of
the units that succeed, and its success flags say which kinds of unit failed. -/
theorem wrapper_skip (u : TxUnits) :
    wrapper true u = some ⟨annoOf u,
      (!u.hasMain || u.main.isSome, u.fusions.all Option.isSome, u.circs.all Option.isSome)⟩ := by
  rw [wrapper_eq, Bool.not_true, Bool.and_false, if_neg Bool.false_ne_true]

/-- ISOLATION: with `--skip-failed`, the peptides and labels returned for a transcript in
which any subset of units fails are exactly those of the run in which those units yield
nothing — the other units' peptides are neither removed nor altered. -/
theorem skip_failed_isolation (u : TxUnits) :
    (wrapper true u).map (·.anno) = (wrapper true (heal u)).map (·.anno) := by
  rw [wrapper_skip, wrapper_skip]
  -- `heal` replaces every `r` by `some (r.getD [])`, and `annoOf` only reads `r.getD []`
  have hheal : ∀ (a : PepMap) (rs : List UnitRes),
      (rs.map healRes).foldl (fun a r => addPeptideAnno a (r.getD [])) a =
        rs.foldl (fun a r => addPeptideAnno a (r.getD [])) a := fun a rs => by
    rw [List.foldl_map]; rfl
  show some (annoOf u) = some (annoOf (heal u))
  unfold annoOf heal
  dsimp only
  rw [hheal, hheal]
  rfl

/-- with `--skip-failed` a transcript never aborts the run -/
theorem skip_never_aborts (u : TxUnits) : wrapper true u ≠ none := by
  rw [wrapper_skip]; exact fun h => nomatch h

/-- Without `--skip-failed` the wrapper raises exactly when some unit fails … -/
theorem no_skip_aborts (u : TxUnits) : wrapper false u = none ↔ hasFailure u = true := by
  rw [wrapper_eq, Bool.not_false, Bool.and_true]
  cases hasFailure u with
  | true => exact iff_of_true rfl rfl
  | false => exact iff_of_false (fun h => nomatch h) Bool.false_ne_true

/-- … and otherwise returns what the `--skip-failed` run returns. -/
theorem no_skip_ok (u : TxUnits) (h : hasFailure u = false) : wrapper false u = wrapper true u := by
  rw [wrapper_eq, wrapper_eq, h]
  rfl

/-- ABORT: without `--skip-failed`, a failing unit in any dispatched transcript makes the
whole command fail: no table, hence no FASTA, is produced. -/
theorem processAll_aborts (c : Limits) (acc : Table × Tally) (us : List TxUnits)
    (h : us.any hasFailure = true) : processAll c false acc us = none := by
  induction us generalizing acc with
  | nil => cases h
  | cons u us ih =>
    rw [processAll_cons]
    cases hu : hasFailure u with
    | true => rw [(no_skip_aborts u).mpr hu]; rfl
    | false =>
      rw [List.any_cons, hu, Bool.false_or] at h
      cases wrapper false u with
      | none => rfl
      | some w =>
        cases hp : processResult c acc w with
        | none => simp only [Option.bind_some, hp, Option.bind_none]
        | some acc' => simp only [Option.bind_some, hp]; exact ih acc' h

theorem run_no_skip_aborts (c : Limits) (threads : Nat) (g : List (Option TxUnits))
    (h : (g.filterMap id).any hasFailure = true) : runAll c false threads g = none := by
  rw [runAll_eq, processAll_aborts c _ _ h]
  rfl

/-- TALLY: with `--skip-failed`, each processed transcript adds to the three failure counters
exactly one per kind of unit that failed in it. -/
theorem tally_counts (c : Limits) (acc acc' : Table × Tally) (u : TxUnits)
    (h : processAll c true acc [u] = some acc') :
    acc'.2.failedVariant = acc.2.failedVariant + (if u.hasMain && u.main.isNone then 1 else 0) ∧
    acc'.2.failedFusion = acc.2.failedFusion + (if u.fusions.any Option.isNone then 1 else 0) ∧
    acc'.2.failedCirc = acc.2.failedCirc + (if u.circs.any Option.isNone then 1 else 0) := by
  rw [processAll_cons, wrapper_skip, Option.bind_some, processResult] at h
  cases hr : acc.1.addResult c (annoOf u) with
  | none => rw [hr] at h; cases h
  | some t =>
    simp only [hr, Option.bind_some, processAll, Option.some.injEq] at h
    subst h
    -- a success flag is the negation of "some unit of the kind failed"
    have flip : ∀ b : Bool, (if (!b) = true then 0 else 1) = if b = true then 1 else 0 := by
      intro b; cases b <;> rfl
    refine ⟨?_, ?_, ?_⟩
    · cases u.hasMain <;> cases u.main <;> rfl
    · show _ + (if u.fusions.all Option.isSome = true then 0 else 1) = _
      rw [all_isSome_eq, flip]
    · show _ + (if u.circs.all Option.isSome = true then 0 else 1) = _
      rw [all_isSome_eq, flip]

/-- `additional_variants_per_misc` schedule after one more time-out -/
def nextAv (av : List Int) : List Int := if (av.drop 1).isEmpty then [0] else av.drop 1

/-- A retry uses the next value of the user's schedule while there is one … -/
theorem reducer_step_schedule (t : Nat → Bool) (fuel k : Nat) (mv av : List Int) (cur : Int × Int)
    (m : Int) (ms : List Int) (h : t k = true) (hmv : mv.drop 1 = m :: ms) :
    reducer t (fuel + 1) k mv av cur =
      reducer t fuel (k + 1) (m :: ms) (nextAv av) (m, (nextAv av).headD 0) := by
  rw [reducer, h, hmv]
  rfl

/-- … and once the schedule is exhausted, `max_variants_per_node - 1` with
`additional_variants_per_misc` from its schedule or 0; when that would reach 0 the
transcript fails ("Failed to finish transcript") instead of being retried. -/
theorem reducer_step_decrement (t : Nat → Bool) (fuel k : Nat) (mv av : List Int)
    (cur : Int × Int) (h : t k = true) (hmv : mv.drop 1 = []) :
    reducer t (fuel + 1) k mv av cur =
      (if cur.1 - 1 ≤ 0 then none
       else reducer t fuel (k + 1) [cur.1 - 1] (nextAv av) (cur.1 - 1, (nextAv av).headD 0)) := by
  simp only [reducer, h, hmv, nextAv]
  by_cases h2 : cur.1 - 1 ≤ 0 <;> simp [h2]

/-- an attempt that does not time out is final and keeps the current limits -/
theorem reducer_done (t : Nat → Bool) (fuel k : Nat) (mv av : List Int) (cur : Int × Int)
    (h : t k = false) : reducer t (fuel + 1) k mv av cur = some cur := by
  rw [reducer, h]
  rfl

/-- once the schedule is exhausted, `max_variants_per_node` strictly decreases with every
retry, so a transcript that always times out cannot loop: with limit `m` the result is `none`
for every fuel ≥ `m + 1`.  (The proof reaches the `raise ValueError` branch after at most `m`
retries; `reducer` also gives `none` when its fuel runs out, so the statement by itself does not
separate the two.) -/
theorem reducer_always_timeout_fails (m : Nat) (k extra : Nat) (a : Int) (av : List Int) :
    reducer (fun _ => true) (m + 1 + extra) k [(m : Int)] av ((m : Int), a) = none := by
  induction m generalizing k a av extra with
  | zero =>
    rw [Nat.add_right_comm 0 1 extra, reducer_step_decrement _ _ _ _ _ _ rfl rfl]
    exact if_pos (by decide : ((0 : Nat) : Int) - 1 ≤ 0)
  | succ n ih =>
    rw [Nat.add_right_comm (n + 1) 1 extra, reducer_step_decrement _ _ _ _ _ _ rfl rfl]
    -- the next limit is `n`: fail at once when it is 0, else one retry with the hypothesis
    show (if ((n + 1 : Nat) : Int) - 1 ≤ 0 then none else _) = none
    rw [Int.natCast_succ, Int.add_sub_cancel]
    split
    · rfl
    · exact ih (k + 1) extra _ _

/-! ### non-vacuity -/

example : hasFailure ⟨true, some [], [none], [some []]⟩ = true := by decide +kernel

example : (wrapper true ⟨true, some [(['A'], [1])], [none], [some [(['C'], [2])]]⟩).map (·.flags)
    = some (true, false, true) := by decide +kernel

end MoPepGen.Props.C07
