import MoPepGen.Lemmas.SpecMono
import MoPepGen.Lemmas.Graph
import MoPepGen.Lemmas.GraphCuts
import MoPepGen.Lemmas.Haplotype
import MoPepGen.Lemmas.Tvg
import MoPepGen.Lemmas.TvgLoop
import MoPepGen.Lemmas.TvgLang
import MoPepGen.Lemmas.TvgLive
import MoPepGen.Lemmas.TvgPool
import MoPepGen.Lemmas.Translate
import MoPepGen.Lemmas.TranslateSplit
import MoPepGen.Lemmas.TranslateFuel
import MoPepGen.Lemmas.TranslateSec
import MoPepGen.Props.C10
/-!
# C01 — completeness of callVariant  (PARTIAL: of the graph algorithm two stages are modelled
function by function, `create_variant_graph` on small records and `ThreeFrameTVG.translate` on
linear transcripts; `fit_into_codons`, `create_cleavage_graph` and `call_variant_peptides` are not)

Proved for ALL inputs: the executable definition `Spec.callVariant`, which the check evaluates on
the inputs of the real command, is the declarative statement of the property
(`spec_declarative`); its haplotypes are exactly the non-empty strictly separated lists of pool
records (`mem_haplotypes_iff`: no enumeration, no sort left in the statement); its digest is the
candidate list of C10's `enzymaticCleave` (`digest_is_C10`).
That the REAL command reports every member of this set is decided per generated input by
the differential `harness/c01.py`: no theorem quantifies over the real graph algorithm.
Layer G: theorems about the checkpoint predicates the driver evaluates on dumps of the real
graph, and about the two modelled stages (`tvg_create_variant_graph_language_eq`,
`translate_language_eq`, `translate_language_fake_stop`).
-/
namespace MoPepGen.Props.C01
open MoPepGen MoPepGen.Spec

/-- `p` is a digestion-product form of the transcript carrying haplotype `h` -/
def ProductOf (g : Cfg) (t : TxIn) (h : List Var) (p : Pep) : Prop :=
  p ∈ peptidesOf g t (applyHap t.seq h) (secAfter t.sec h) t.endNF

/-- The definition unfolded: `p` is in the set iff some compatible combination yields it as a
product form and it is neither a product form of the unmodified transcript nor canonical. -/
theorem spec_declarative (g : Cfg) (t : TxIn) (vs : List Var) (p : Pep) :
    p ∈ callVariant g t vs ↔
      (∃ h ∈ haplotypes t vs, ProductOf g t h p) ∧
        p ∉ referencePeptides g t ∧ p ∉ g.canonical := by
  simp only [callVariant, ProductOf, List.mem_filter, List.mem_flatMap, Bool.and_eq_true,
    Bool.not_eq_true', List.contains_eq_mem, decide_eq_false_iff_not]

/-- A haplotype is exactly: a sub-collection of the record pool (usable records and merged
adjacent pairs) that is non-empty and, in ascending order, strictly separated. -/
theorem haplotype_spec (t : TxIn) (vs h : List Var) :
    h ∈ haplotypes t vs ↔
      ∃ s, s.Sublist (recordPool t vs) ∧ h = sortByStart s ∧ h ≠ [] ∧ separated h = true :=
  mem_haplotypes

/-- every record of a haplotype is a usable input record or the merged form of two of them -/
theorem haplotype_records_usable (t : TxIn) (vs h : List Var) (hh : h ∈ haplotypes t vs) :
    ∀ v ∈ h, v ∈ recordPool t vs := by
  obtain ⟨s, hs, rfl, _, _⟩ := (haplotype_spec t vs h).mp hh
  exact fun v hv => hs.subset ((mem_sortByStart_iff v s).mp hv)

/-- every reported form meets the length and mass limits -/
theorem reported_within_limits (g : Cfg) (t : TxIn) (vs : List Var) (p : Pep)
    (h : p ∈ callVariant g t vs) : pepOk g.cleave p = true := by
  obtain ⟨⟨_, _, hprod⟩, _⟩ := (spec_declarative g t vs p).mp h
  obtain ⟨_, _, hs⟩ := mem_peptidesOf.mp hprod
  exact pepOk_of_mem_productForms hs

/-- the raw digest inside the definition (nothing dropped at an open end) is the candidate list of
C10's `enzymaticCleave`, with the sites given positionally (`Props.C10.sites_eq_isSite`) -/
theorem digest_is_C10 (c : CleaveCfg) (prot : Pep) (nf : Bool) (p : Pep) :
    p ∈ rawProducts c prot nf false ↔
      p ∈ cleaveCandidates prot
        (bounds ((List.range (prot.length + 1)).filter (isSite c.rule c.exc prot)) prot.length)
        c.misc nf := by
  rw [rawProducts_eq_candidates, Props.C10.sites_eq_isSite]


/-! ## Layer G — refinement checkpoints inside the graph algorithm (completeness side)

The harness dumps the real graph after each stage of the graph algorithm and the native driver
evaluates the checkpoint predicates CP1–CP4 of `Model/Graph.lean` on it (`Driver/G.lean`).  The
theorems of this section say why those predicates are the right ones for completeness; none of
them speaks about the real graph. -/

open MoPepGen.Graph in
/-- CP1, completeness: every compatible combination of the record pool is a walk of the
position automaton of the transcript variant graph (`Graph.Walk`), emitting the transcript that
carries it.  Of the hypothesis, `0 < v.start` always holds (`recordPool_behind_start_codon`);
a non-empty reference span inside the transcript is an assumption on the supplied records. -/
theorem tvg_automaton_complete (t : TxIn) (vs h : List Var) (hh : h ∈ haplotypes t vs)
    (hwf : ∀ v ∈ recordPool t vs, 0 < v.start ∧ v.start < v.stop ∧ v.stop ≤ t.seq.length) :
    Walk t.seq (recordPool t vs) 0 false (applyHap t.seq h) h := by
  have hmem := haplotype_records_usable t vs h hh
  obtain ⟨s, _, _, _, hsep⟩ := (haplotype_spec t vs h).mp hh
  have hsf : SepFrom 0 true h :=
    sepFrom_of_separated h 0 hsep (fun v hv => (hwf v (hmem v hv)).2.1)
      fun v hv => (hwf v (hmem v (List.mem_of_mem_head? hv))).1
  exact walk_complete t.seq (recordPool t vs) t.seq.length 0 false h (Nat.le_refl _) hmem hsf
    (fun v hv => (hwf v (hmem v hv)).2.2)

open MoPepGen.Graph in
/-- the driver's path enumeration misses no maximal path that visits no node twice (in an
acyclic dump: no maximal path) -/
theorem paths_complete (g : Graph) (i : Nat) (p : List Nat) (hp : MaxPath g i p)
    (hnd : p.Nodup) : p ∈ paths g i :=
  (mem_paths_iff g i p hnd).mpr hp

open MoPepGen.Graph in
/-- CP2 ⇒ CP3: on a codon-aligned path, translating node by node (what
`ThreeFrameTVG.translate` does) is translating the path's sequence -/
theorem nodewise_translation (g : Graph) (p : List Nat) (h : codonAligned g p = true) :
    translatePath g p = translate (pathSeq g p) :=
  translatePath_eq g p h

open MoPepGen.Graph in
/-- CP4 ⇒ products are node joins, for a protein without stop symbols: if every cleavage site of
`pieces.flatten` is a boundary between two pieces (graph nodes), then every candidate of the
digest — a slice between two of `0, sites…, |prot|` — is a concatenation of consecutive whole
pieces (which is what `call_variant_peptides` joins) -/
theorem digest_product_is_node_join (pieces : List (List Char)) (rule : Re) (exc : Option Re)
    (hsites : ∀ s ∈ cleaveSites rule exc pieces.flatten, s ∈ cuts pieces)
    (a b : Nat)
    (ha : a ∈ bounds (cleaveSites rule exc pieces.flatten) pieces.flatten.length)
    (hb : b ∈ bounds (cleaveSites rule exc pieces.flatten) pieces.flatten.length)
    (hab : a ≤ b) :
    ∃ i k, slice pieces.flatten a b = ((pieces.drop i).take k).flatten := by
  have hcut : ∀ x ∈ bounds (cleaveSites rule exc pieces.flatten) pieces.flatten.length,
      x ∈ cuts pieces := by
    intro x hx
    rcases (mem_bounds _ _ _).mp hx with rfl | hx | rfl
    · exact zero_mem_cuts pieces
    · exact hsites x hx
    · exact length_mem_cuts pieces
  exact slice_is_join pieces a b (hcut a ha) (hcut b hb) hab

/-! non-vacuity of `tvg_automaton_complete`: a transcript with one SNV behind the start codon -/
example : (∀ v ∈ recordPool
    { seq := "ATGGCC".toList, coding := true, orfStart := 0, orfEnd := 6, startNF := false,
      endNF := false, sec := [] }
    [{ start := 3, stop := 4, ref := ['G'], alt := ['T'], cls := .snv, ids := [0] }],
    0 < v.start ∧ v.start < v.stop ∧ v.stop ≤ 6) := by decide +kernel

open MoPepGen.Graph in
example : cuts ["AK".toList, "CR".toList, "D".toList] = [0, 2, 4, 5] := by decide +kernel

/-! ## the haplotypes of the definition, characterised without the enumeration

Hypothesis throughout: the records of the pool are well-formed intervals (`start ≤ stop`;
VCF-style records have `start < stop`).  The pool need NOT be duplicate-free
(`Hap.exists_sublist_perm` picks the first occurrence of each record). -/

/-- `h` is a haplotype of the definition iff it is non-empty, strictly separated (which for
well-formed records includes: ascending and duplicate-free) and made of pool records. -/
theorem mem_haplotypes_iff (t : TxIn) (vs h : List Var)
    (hpos : ∀ v ∈ recordPool t vs, v.start ≤ v.stop) :
    h ∈ haplotypes t vs ↔ h ≠ [] ∧ separated h = true ∧ ∀ v ∈ h, v ∈ recordPool t vs := by
  constructor
  · intro hh
    obtain ⟨s, _, _, hne, hsep⟩ := (haplotype_spec t vs h).mp hh
    exact ⟨hne, hsep, haplotype_records_usable t vs h hh⟩
  · rintro ⟨hne, hsep, hsub⟩
    obtain ⟨s, hs, he⟩ :=
      Hap.exists_sublist_sort_eq (pool := recordPool t vs) hsep (fun v hv => hpos v (hsub v hv)) hsub
    exact (haplotype_spec t vs h).mpr ⟨s, hs, he, hne, hsep⟩

/-- for a duplicate-free pool the sub-collection behind a haplotype is explicit: the pool
records that occur in it, in pool order -/
theorem haplotype_is_sorted_filter (t : TxIn) (vs h : List Var)
    (hnd : (recordPool t vs).Nodup) (hpos : ∀ v ∈ recordPool t vs, v.start ≤ v.stop)
    (hh : h ∈ haplotypes t vs) :
    sortByStart ((recordPool t vs).filter fun v => decide (v ∈ h)) = h := by
  obtain ⟨_, hsep, hsub⟩ := (mem_haplotypes_iff t vs h hpos).mp hh
  exact Hap.filter_sort_eq hnd hsep (fun v hv => hpos v (hsub v hv)) hsub

/-- a haplotype is strictly ascending in `start`, hence duplicate-free, and sorting it again
changes nothing -/
theorem haplotype_strictly_ascending (t : TxIn) (vs h : List Var)
    (hpos : ∀ v ∈ recordPool t vs, v.start ≤ v.stop) (hh : h ∈ haplotypes t vs) :
    h.Pairwise (fun a b => a.start < b.start) ∧ h.Nodup ∧ sortByStart h = h := by
  obtain ⟨_, hsep, hsub⟩ := (mem_haplotypes_iff t vs h hpos).mp hh
  have hs := Hap.strictStarts_of_separated h hsep (fun v hv => hpos v (hsub v hv))
  exact ⟨hs, Hap.nodup_of_strictStarts hs, Hap.sortByStart_id hs⟩

/-- every record the combinations are made of starts behind the start codon
(`startIndex t` ≥ 3), so the hypothesis `0 < v.start` of the CP1 theorems always holds -/
theorem recordPool_behind_start_codon (t : TxIn) (vs : List Var) :
    ∀ v ∈ recordPool t vs, startIndex t ≤ v.start ∧ 3 ≤ v.start := by
  intro v hv
  have := Hap.pool_start_ge t vs v hv
  exact ⟨this, Nat.le_trans (Hap.three_le_startIndex t) this⟩

/-! non-vacuity of `mem_haplotypes_iff` / `haplotype_is_sorted_filter`: a coding transcript with
two SNVs behind the start codon (given in DESCENDING order, so the sort matters); the pool is
duplicate-free with non-empty spans, and the combination of both records is a haplotype -/
section NonVacuity
/-- example data for the non-vacuity checks of C01/C02 (not part of any statement) -/
def nvTx : TxIn :=
  { seq := "ATGGCCAAATAG".toList, coding := true, orfStart := 0, orfEnd := 9, startNF := false,
    endNF := false, sec := [] }
/-- example SNV G→T at 3 -/
def nvA : Var := { start := 3, stop := 4, ref := ['G'], alt := ['T'], cls := .snv, ids := [0] }
/-- example SNV A→C at 7 -/
def nvB : Var := { start := 7, stop := 8, ref := ['A'], alt := ['C'], cls := .snv, ids := [1] }

example : (recordPool nvTx [nvB, nvA]).Nodup ∧ (∀ v ∈ recordPool nvTx [nvB, nvA], v.start ≤ v.stop) := by
  decide +kernel
example : recordPool nvTx [nvB, nvA] = [nvB, nvA] := by decide +kernel
example : [nvA, nvB] ≠ [] ∧ separated [nvA, nvB] = true ∧ ∀ v ∈ [nvA, nvB], v ∈ recordPool nvTx [nvB, nvA] := by
  decide +kernel
example : [nvA, nvB] ∈ haplotypes nvTx [nvB, nvA] :=
  (mem_haplotypes_iff nvTx [nvB, nvA] [nvA, nvB] (by decide +kernel)).mpr (by decide +kernel)
example : [nvB, nvA] ∉ haplotypes nvTx [nvB, nvA] := by
  rw [mem_haplotypes_iff nvTx [nvB, nvA] [nvB, nvA] (by decide +kernel)]; decide +kernel
end NonVacuity

/-! ## the pruned enumerator the compiled definition runs

The native driver evaluates `haplotypesFast` wherever `haplotypes` occurs (`@[csimp]
Spec.haplotypes_eq_fast`; why and what is trusted: see `Spec/CallVariant.lean`).  The three
theorems that justify it are restated here; they hold for ALL record lists — ties in `start`,
records with `stop < start` and duplicates included. -/

/-- the adjacent-pair test on the SORTED collection is pairwise compatibility of the UNSORTED one:
`s` put in ascending order (stable insertion sort) is strictly separated iff every record of `s`
is `compatOrd` with every later record of `s` -/
theorem separated_sorted_iff_pairwise (s : List Var) :
    separated (sortByStart s) = pairwiseOk s :=
  separated_sort_eq_pairwiseOk s

/-- the pruned enumerator returns exactly the pairwise-compatible sub-collections, in the order
`sublists` lists them -/
theorem pruned_is_filter (p : List Var) :
    (sublists p).filter pairwiseOk = prunedSublists p :=
  filter_sublists_eq_pruned p

/-- the definition and the pruned enumerator are the same list (same members, same order, same
multiplicities) -/
theorem haplotypes_eq_pruned (t : TxIn) (vs : List Var) :
    haplotypes t vs = haplotypesFast t vs :=
  haplotypes_eq_haplotypesFast t vs

/-- `mem_haplotypes_iff` for the pruned enumerator -/
theorem mem_haplotypesFast_iff (t : TxIn) (vs h : List Var)
    (hpos : ∀ v ∈ recordPool t vs, v.start ≤ v.stop) :
    h ∈ haplotypesFast t vs ↔ h ≠ [] ∧ separated h = true ∧ ∀ v ∈ h, v ∈ recordPool t vs := by
  rw [← haplotypes_eq_pruned]
  exact mem_haplotypes_iff t vs h hpos

/-! non-vacuity: a pool with a tie in `start` (`pvA`, `pvB`), overlapping records (`pvB`/`pvC`),
adjacent records (`pvC`/`pvD`: `stop = start` is NOT separated), a record with `stop < start`
(`pvE`) and a duplicate (`pvA` twice) -/
section PrunedNonVacuity
/-- example record `[5, 6)` -/
def pvA : Var := { start := 5, stop := 6, ref := ['A'], alt := ['C'], cls := .snv, ids := [0] }
/-- example record `[5, 8)`: same start as `pvA` -/
def pvB : Var := { start := 5, stop := 8, ref := "ACG".toList, alt := ['A'], cls := .indel, ids := [1] }
/-- example record `[7, 9)`: overlaps `pvB`, separated from `pvA` -/
def pvC : Var := { start := 7, stop := 9, ref := "GT".toList, alt := ['G'], cls := .indel, ids := [2] }
/-- example record `[9, 10)`: adjacent to `pvC` -/
def pvD : Var := { start := 9, stop := 10, ref := ['T'], alt := ['G'], cls := .snv, ids := [3] }
/-- ill-formed example record: `stop < start` -/
def pvE : Var := { start := 12, stop := 4, ref := ['T'], alt := ['G'], cls := .snv, ids := [4] }
/-- ill-formed example record with the start of `pvA`: `stop < start` -/
def pvF : Var := { start := 5, stop := 3, ref := ['T'], alt := ['G'], cls := .snv, ids := [5] }

/-- 128 sub-collections, 28 of them pairwise compatible; `pruned_is_filter` on this pool -/
example : (sublists [pvD, pvA, pvE, pvC, pvB, pvA, pvF]).length = 128 ∧
    (prunedSublists [pvD, pvA, pvE, pvC, pvB, pvA, pvF]).length = 28 ∧
    (sublists [pvD, pvA, pvE, pvC, pvB, pvA, pvF]).filter pairwiseOk =
      prunedSublists [pvD, pvA, pvE, pvC, pvB, pvA, pvF] := by decide +kernel

/-- `separated_sorted_iff_pairwise` on both sides of the equation: a compatible and an
incompatible collection; with a tie in `start` the ORDER in the collection decides (the sort is stable): `[pvF, pvA]` sorts to
`[pvF, pvA]` (3 < 5: separated), `[pvA, pvF]` to `[pvA, pvF]` (6 < 5 fails); the ill-formed `pvE`
(`stop` 4 < `start` 12) sorts last and is compatible with everything that ends before 12 -/
example : separated (sortByStart [pvD, pvA]) = true ∧ pairwiseOk [pvD, pvA] = true ∧
    separated (sortByStart [pvC, pvB]) = false ∧ pairwiseOk [pvC, pvB] = false ∧
    separated (sortByStart [pvD, pvC]) = false ∧ pairwiseOk [pvD, pvC] = false ∧
    separated (sortByStart [pvF, pvA]) = true ∧ pairwiseOk [pvF, pvA] = true ∧
    separated (sortByStart [pvA, pvF]) = false ∧ pairwiseOk [pvA, pvF] = false ∧
    separated (sortByStart [pvA, pvA]) = false ∧ pairwiseOk [pvA, pvA] = false ∧
    separated (sortByStart [pvE, pvA, pvD]) = true ∧ pairwiseOk [pvE, pvA, pvD] = true := by decide +kernel

/-- example SNV `[10, 11)`: adjacent to the SNV `pvD`, the two merge into one pool record -/
def pvG : Var := { start := 10, stop := 11, ref := ['A'], alt := ['C'], cls := .snv, ids := [6] }
/-- example transcript for the pruned enumerator -/
def pvTx : TxIn :=
  { seq := "ATGGCACGTTAAACCCTAG".toList, coding := true, orfStart := 0, orfEnd := 16,
    startNF := false, endNF := false, sec := [] }
/-- `haplotypes_eq_pruned` on a transcript whose pool has a tie, overlaps and a merged pair
(`pvC`, `pvD` are adjacent but of different classes; the SNVs `pvD`, `pvG` are adjacent and merge): 7 pool
records, 128 sub-collections, 31 combinations -/
example : (recordPool pvTx [pvD, pvA, pvC, pvB, pvG, pvE]).length = 7 ∧
    (haplotypes pvTx [pvD, pvA, pvC, pvB, pvG, pvE]).length = 31 ∧
    [pvA, pvC] ∈ haplotypesFast pvTx [pvD, pvA, pvC, pvB, pvG, pvE] ∧
    [pvB, pvC] ∉ haplotypesFast pvTx [pvD, pvA, pvC, pvB, pvG, pvE] ∧
    haplotypes pvTx [pvD, pvA, pvC, pvB, pvG, pvE] =
      haplotypesFast pvTx [pvD, pvA, pvC, pvB, pvG, pvE] := by decide +kernel
end PrunedNonVacuity

/-! ## Layer G — the right-hand sides of the checkpoints are images of one another

CP1/CP2 compare the dumped graph with `tvgLang`, CP3/CP4 with `protLang` (`Model/Graph.lean`).
All of this section holds by unfolding. -/

open MoPepGen.Graph in
/-- CP1's right-hand side: the DNA language of frame `f` is the language of the definition
(`applyHap` of every compatible combination, the empty one included) cut at offset `f` -/
theorem tvgLang_frame (t : TxIn) (vs : List Var) (f : Nat) :
    (tvgLang t vs f).map (·.1) = ((allHaps t vs).map (applyHap t.seq)).map (List.drop f) := by
  simp only [tvgLang, List.map_map]
  rfl

open MoPepGen.Graph in
/-- the labels of CP1's right-hand side are the ids of the combination's records -/
theorem tvgLang_labels (t : TxIn) (vs : List Var) (f : Nat) :
    (tvgLang t vs f).map (·.2) = (allHaps t vs).map hapIds := by
  simp only [tvgLang, List.map_map]
  rfl

open MoPepGen.Graph in
/-- CP3's right-hand side is the translation of CP1's: combination by combination, the protein
of frame `f` is the frame translation of the DNA sequence `tvgLang` lists for it, read with `U`
at the Sec codons surviving that combination -/
theorem protLang_eq_translate_tvgLang (t : TxIn) (vs : List Var) (f : Nat) :
    protLang t vs f =
      List.zipWith (fun h e => Hap.frameTranslation e.1 (secAfter t.sec h) f)
        (allHaps t vs) (tvgLang t vs f) := by
  simp only [protLang, tvgLang, List.zipWith_map_right, List.zipWith_self,
    Hap.fullTranslation_eq_frame]

open MoPepGen.Graph in
/-- the same without the helper `frameTranslation`: the frame-`f` translation only reads the
cut sequence, i.e. it is the frame-0 translation of `tvgLang`'s sequence with the Sec
positions taken relative to `f` -/
theorem protLang_eq_translate_tvgLang_zero (t : TxIn) (vs : List Var) (f : Nat) :
    protLang t vs f =
      List.zipWith (fun h e => fullTranslation e.1 (Hap.secFrom (secAfter t.sec h) f) 0)
        (allHaps t vs) (tvgLang t vs f) := by
  simp only [protLang, tvgLang, List.zipWith_map_right, List.zipWith_self]
  apply List.map_congr_left
  intro h _
  exact Hap.fullTranslation_drop _ _ _

open MoPepGen.Graph in
/-- the protein the definition digests is the frame translation cut at the first stop -/
theorem proteinFrom_eq_fullTranslation (seq : List Char) (sec : List Nat) (s : Nat) :
    (proteinFrom seq sec s).1 = (fullTranslation seq sec s).takeWhile (· != '*') := rfl

open MoPepGen.Graph in
/-- … and it is reported as closed exactly when a stop symbol remains in that translation -/
theorem proteinFrom_closed_iff (seq : List Char) (sec : List Nat) (s : Nat) :
    (proteinFrom seq sec s).2 = true ↔
      ((fullTranslation seq sec s).takeWhile (· != '*')).length < (fullTranslation seq sec s).length := by
  simp only [proteinFrom, fullTranslation, decide_eq_true_eq]

open MoPepGen.Graph in
example : tvgLang nvTx [nvB, nvA] 1 =
    [("TGGCCAAATAG".toList, []), ("TGTCCAAATAG".toList, [0]), ("TGGCCACATAG".toList, [1]),
     ("TGTCCACATAG".toList, [0, 1])] := by
  unfold nvTx
  char_lists
  decide +kernel

open MoPepGen.Graph in
example : protLang nvTx [nvB, nvA] 0 = ["MAK*".toList, "MSK*".toList, "MAT*".toList, "MST*".toList] := by
  unfold nvTx
  char_lists
  decide +kernel


/-! ## Layer G — checkpoint CP4 covers every digestion product

The native driver evaluates CP4 on the cleavage graph the real code built as: for every
maximal path `p`, every element of `requiredCuts rule exc (pathSeq g p)` is a member of
`boundaries g false p` (`Driver/G.lean`, `cpPvg`).  `digest_product_is_node_join` above speaks
about a protein WITHOUT stop symbols whose sites are given as cuts.  Here the path's protein may
contain stop symbols, the digest is taken per stop-delimited segment (the strings
`Spec.rawProducts` is applied to are stop-free), and the hypothesis is literally the driver's
predicate.  NOT covered: a translation that starts INSIDE a segment (the ORF start is not a node
boundary; `call_variant_peptides` truncates the first node there) — the digest of a proper suffix
of a segment can have other sites next to its start than the segment has. -/

open MoPepGen.Graph in
/-- CP4 ⇒ every digestion product of every stop-free stretch is a join of whole nodes.
For every graph `g` and every list of node indices `p` (an index outside the graph denotes the
empty label, as in `pathSeq`): if every required cut of the path's protein `pathSeq g p` is a node
boundary of the path (the driver's CP4 predicate), then for every stop-delimited segment
`(off, seg)` of that protein and any two bounds `a`, `b` of the digest of `seg` (`0`, a cleavage
site of `seg`, `|seg|`), the candidate `seg[a:b]` is the concatenation of consecutive whole node
labels of the path.  (No order hypothesis: for `b < a` the slice is empty, the join of zero
nodes.) -/
theorem cp4_covers_products (g : Graph) (p : List Nat) (rule : Re) (exc : Option Re)
    (hcp : ∀ c ∈ requiredCuts rule exc (pathSeq g p), c ∈ boundaries g false p)
    (off : Nat) (seg : List Char) (hseg : (off, seg) ∈ stopSegments (pathSeq g p))
    (a b : Nat)
    (ha : a ∈ bounds (cleaveSites rule exc seg) seg.length)
    (hb : b ∈ bounds (cleaveSites rule exc seg) seg.length) :
    ∃ i k, slice seg a b = (((p.map (nodeSeq g)).drop i).take k).flatten := by
  rcases Nat.lt_or_ge b a with hlt | hab
  · exact ⟨0, 0, slice_eq_nil seg a b (Nat.le_of_lt hlt)⟩
  · obtain ⟨hseq, _, _⟩ := stopSegments_spec _ off seg hseg
    obtain ⟨_, hca⟩ := bound_mem_cuts g p rule exc hcp off seg hseg a ha
    obtain ⟨hble, hcb⟩ := bound_mem_cuts g p rule exc hcp off seg hseg b hb
    obtain ⟨i, k, hik⟩ :=
      slice_is_join (p.map (nodeSeq g)) (off + a) (off + b) hca hcb (Nat.add_le_add_left hab off)
    refine ⟨i, k, ?_⟩
    rw [← hik, flatten_map_nodeSeq, hseq]
    exact slice_slice _ off seg.length a b hble

open MoPepGen.Graph in
/-- the segments CP4 speaks about are what the definition digests: a stop-delimited segment
`(off, seg)` of `w` is `w[off : off+|seg|]`, lies inside `w` and contains no stop symbol -/
theorem stopSegment_spec (w : List Char) (off : Nat) (seg : List Char)
    (h : (off, seg) ∈ stopSegments w) :
    seg = slice w off (off + seg.length) ∧ off + seg.length ≤ w.length ∧ ∀ c ∈ seg, c ≠ '*' :=
  stopSegments_spec w off seg h

open MoPepGen.Graph in
/-- every node boundary of a path is a cut position of the path's list of node labels
(the driver's `boundaries` and the `cuts` of `digest_product_is_node_join` agree) -/
theorem boundaries_are_cuts (g : Graph) (p : List Nat) (c : Nat)
    (h : c ∈ boundaries g false p) : c ∈ cuts (p.map (nodeSeq g)) :=
  boundaries_subset_cuts g p c h

open MoPepGen.Graph in
/-- `cp4_covers_products` phrased with `Spec.rawProducts` itself (any miscleavage limit, any `nf`,
with or without dropping the products that reach an open end): under the driver's CP4 predicate,
every `q ∈ rawProducts c seg nf d` of a stop-delimited segment `seg` of the path's protein is
either the concatenation `J` of consecutive whole node labels of the path, or — the Met-removed
twin, only for `nf = false` and `J` starting with `M` — `J` with its first residue dropped. -/
theorem cp4_covers_rawProducts (g : Graph) (p : List Nat) (c : CleaveCfg)
    (hcp : ∀ x ∈ requiredCuts c.rule c.exc (pathSeq g p), x ∈ boundaries g false p)
    (off : Nat) (seg : List Char) (hseg : (off, seg) ∈ stopSegments (pathSeq g p))
    (nf d : Bool) (q : Pep) (hq : q ∈ rawProducts c seg nf d) :
    ∃ i k, q = (((p.map (nodeSeq g)).drop i).take k).flatten ∨
      (nf = false ∧ ((((p.map (nodeSeq g)).drop i).take k).flatten).head? = some 'M' ∧
        q = ((((p.map (nodeSeq g)).drop i).take k).flatten).drop 1) := by
  obtain ⟨st, k', hst, hk, _, hq⟩ := (mem_rawProducts c seg nf d q).mp hq
  obtain ⟨i, k, hik⟩ := cp4_covers_products g p c.rule c.exc hcp off seg hseg _ _
    (getD_mem (Nat.lt_of_lt_of_le hst (Nat.sub_le _ _)))
    (getD_mem (Nat.add_lt_of_lt_sub' (Nat.lt_of_lt_of_le hk (Nat.min_le_right _ _))))
  refine ⟨i, k, ?_⟩
  rw [← hik]
  exact hq.imp_right And.right

/-! non-vacuity of the CP4 hypothesis: the path `AK · CR · * · DE` under trypsin — the protein
`AKCR*DE` has the segments `AKCR` at 0 and `DE` at 5, the required cuts are 2 (after K), 4
(after R = before the stop) and 5 (behind the stop), and all are node boundaries.  With `CR*`
in ONE node the predicate is false (position 4 is inside the node): the hypothesis
discriminates. -/
open MoPepGen.Graph in
example :
    let g : Graph := #[{ seq := "AK".toList, vars := [], out := [1] },
      { seq := "CR".toList, vars := [], out := [2] }, { seq := "*".toList, vars := [], out := [3] },
      { seq := "DE".toList, vars := [], out := [] }]
    (Generated.expasyRules.lookup "trypsin").map (fun rule =>
      (String.ofList (pathSeq g [0, 1, 2, 3]),
       (stopSegments (pathSeq g [0, 1, 2, 3])).map (fun x => (x.1, String.ofList x.2)),
       requiredCuts rule none (pathSeq g [0, 1, 2, 3]), boundaries g false [0, 1, 2, 3],
       (requiredCuts rule none (pathSeq g [0, 1, 2, 3])).all
         (boundaries g false [0, 1, 2, 3]).contains)) =
      some ("AKCR*DE", [(0, "AKCR"), (5, "DE")], [2, 4, 5], [2, 4, 5], true) := by
  rw [Generated.lookup_trypsin]
  decide +kernel

open MoPepGen.Graph in
example :
    let g : Graph := #[{ seq := "AK".toList, vars := [], out := [1] },
      { seq := "CR*".toList, vars := [], out := [2] }, { seq := "DE".toList, vars := [], out := [] }]
    (Generated.expasyRules.lookup "trypsin").map (fun rule =>
      (requiredCuts rule none (pathSeq g [0, 1, 2]), boundaries g false [0, 1, 2],
       (requiredCuts rule none (pathSeq g [0, 1, 2])).all (boundaries g false [0, 1, 2]).contains)) =
      some ([2, 4, 5], [2, 5], false) := by
  rw [Generated.lookup_trypsin]
  decide +kernel

/-! ## Layer G — function-level model of create_variant_graph -/

/-! `Model/Tvg.lean` models the first stage of the graph algorithm function by function
(`ThreeFrameTVG.__init__` / `init_three_frames` / `splice` / `apply_variant` /
`create_variant_graph` with its filter, `find_mnvs_from_adjacent_variants`, `sorted`, the three
cursors and `active_frames`; `TVGNode.truncate_right` / `get_reference_next` /
`get_reference_prev`) for linear transcripts with SNV / RNAEditingSite / INDEL records.  Every
theorem of this section is about that MODEL.  The model is tied to the real code per generated
input (the cases of the `trypsin-noexc` stream whose records are all of these types) by two internal
streams of `harness/c01.py`: `G-tvgbuild` (the graph the real `create_variant_graph` built = the graph of
`Tvg.createVariantGraph` on the same transcript and records, node for node and edge for edge up to
node renaming) and `G-tvglang` (the record lists of all maximal paths of the real graph =
`Tvg.attachedSubs` of the model's graph, see `tvg_attached_subs_spec`).  `fit_into_codons`, the
cleavage graph and the traversal are not modelled (`translate` is, in the next section), which is
why C01 stays PARTIAL.

The section ends in `tvg_create_variant_graph_language_eq`: the (sequence, record ids) pairs of the
maximal paths of the graph are exactly `tvgLang`.  It rests on three things: every state reached by
operations whose preconditions hold satisfies the partition invariant, under which the graph is the
position automaton `Walk` of `Lemmas/Graph.lean`; the cursor loop of `create_variant_graph` only
reaches such states; and `active_frames` decides from which frames a combination of records has a
path. -/

open MoPepGen.Tvg in
/-- **Partition invariant.**  For every transcript `t` with at least three bases and every graph
state `s` reachable by `initThreeFrames t` followed by any sequence of `splice` (reference node,
cut strictly inside, edge type `reference`) and `applyVariant` calls (record a non-empty stretch
inside `t`; source a reference node `[a, b)` of frame `f` with `a ≤ start < b`, `f < start`;
target a reference node starting at or before `start`) that do not raise: `Inv t s` (the
reference nodes of each frame tile `[f, |t|)` and carry the transcript slice of their range, every
edge agrees with the positions, consecutive reference nodes are joined by a `reference` edge, a
reference node has at most one `reference` out-edge and in-edge) and `VarLinked t s` (every variant
node has its `variant_start` in-edge and, unless its record ends at `|t|`, its `variant_end`
out-edge).  The theorems down to `tvg_reference_prev_deterministic` spell the parts out. -/
theorem tvg_partition_invariant (t : List Char) (h3 : 3 ≤ t.length) (s : TState)
    (h : Reach t s) : Inv t s ∧ VarLinked t s :=
  reach_inv h3 h

open MoPepGen.Tvg in
/-- the reference nodes of frame `f` tile `[f, |t|)`: every position of the frame lies in
exactly one reference node of that frame -/
theorem tvg_frames_tile (t : List Char) (h3 : 3 ≤ t.length) (s : TState) (h : Reach t s)
    (f p : Nat) (hf : f < 3) (hfp : f ≤ p) (hp : p < t.length) :
    ∃ i a b, IsRef s i f a b ∧ a ≤ p ∧ p < b ∧
      ∀ j a' b', IsRef s j f a' b' → a' ≤ p → p < b' → j = i := by
  obtain ⟨hI, _⟩ := reach_inv h3 h
  obtain ⟨i, a, b, hi, h1, h2⟩ := hI.cover f p hf hfp hp
  exact ⟨i, a, b, hi, h1, h2, fun j a' b' hj h1' h2' =>
    hI.disjoint j i f a' b' a b hj hi (Nat.lt_of_le_of_lt h1' h2) (Nat.lt_of_le_of_lt h1 h2')⟩

open MoPepGen.Tvg in
/-- the same as a list: the reference nodes of frame `f`, ORDERED BY START, tile `[f, |t|)`
exactly — there is a list of (node, start, end) triples, contiguous from `f` to `|t|`
(`RefChain`: each stretch starts where the previous one ends, none is empty), made of reference
nodes of frame `f` and containing every one of them -/
theorem tvg_frames_tile_ordered (t : List Char) (h3 : 3 ≤ t.length) (s : TState) (h : Reach t s)
    (f : Nat) (hf : f < 3) :
    ∃ l, RefChain f t.length l ∧ (∀ x ∈ l, IsRef s x.1 f x.2.1 x.2.2) ∧
      ∀ i x y, IsRef s i f x y → (i, x, y) ∈ l :=
  tvg_frame_chain (reach_inv h3 h).1 hf h3

open MoPepGen.Tvg in
/-- a reference node is a non-empty stretch `[a, b)` of its frame (`f ≤ a < b ≤ |t|`) and its
sequence is the transcript slice `t[a:b]` -/
theorem tvg_ref_node_is_slice (t : List Char) (h3 : 3 ≤ t.length) (s : TState) (h : Reach t s)
    (i f a b : Nat) (sq : List Char) (hn : s.nodes[i]? = some ⟨f, .ref a b, sq⟩) :
    f < 3 ∧ f ≤ a ∧ a < b ∧ b ≤ t.length ∧ sq = slice t a b :=
  (reach_inv h3 h).1.ref_node hn

open MoPepGen.Tvg in
/-- contiguity, with the explicit edge: the reference node `[a, b)` of frame `f` with `b < |t|`
has a `reference` edge to a reference node of frame `f` that starts at `b` -/
theorem tvg_ref_successor (t : List Char) (h3 : 3 ≤ t.length) (s : TState) (h : Reach t s)
    (i f a b : Nat) (hi : IsRef s i f a b) (hb : b < t.length) :
    ∃ j c, IsRef s j f b c ∧ (⟨i, j, .reference⟩ : TEdge) ∈ s.edges := by
  obtain ⟨hI, _⟩ := reach_inv h3 h
  obtain ⟨j, c, hj⟩ := hI.next_ref hi hb
  exact ⟨j, c, hj, hI.refLinked _ _ _ _ _ _ hi hj⟩

open MoPepGen.Tvg in
/-- the explicit edges agree with the positions: the variant node `k` of record `v` (created in
frame `f`) has a `variant_start` in-edge, EVERY edge into it is a `variant_start` edge from a
reference node of frame `f` ENDING at `v.start`; if `v.stop < |t|` it has a `variant_end`
out-edge, and EVERY edge out of it is a `variant_end` edge to a reference node STARTING at
`v.stop` -/
theorem tvg_variant_node_hangs (t : List Char) (h3 : 3 ≤ t.length) (s : TState) (h : Reach t s)
    (k f : Nat) (v : Rec) (hk : IsVar s k f v) :
    (∃ e ∈ s.edges, e.dst = k) ∧
    (∀ e ∈ s.edges, e.dst = k → e.ty = .variantStart ∧ ∃ a, IsRef s e.src f a v.start) ∧
    (v.stop < t.length → ∃ e ∈ s.edges, e.src = k) ∧
    (∀ e ∈ s.edges, e.src = k → e.ty = .variantEnd ∧ ∃ g d, IsRef s e.dst g v.stop d) := by
  obtain ⟨hI, hL⟩ := reach_inv h3 h
  obtain ⟨⟨e, he, h1, _⟩, hend⟩ := hL k f v hk (Option.some_ne_none k)
  refine ⟨⟨e, he, h1⟩, fun e he hd => (hI.edgeOk e he).of_dst_var (hd ▸ hk), fun hs => ?_,
    fun e he hsrc => (hI.edgeOk e he).of_src_var (hsrc ▸ hk)⟩
  obtain ⟨e, he, h1, _⟩ := hend hs
  exact ⟨e, he, h1⟩

open MoPepGen.Tvg in
/-- `TVGNode.get_reference_next` iterates over a `set` of edges; the model raises where the
result would depend on the iteration order.  In a reachable state that never happens on a
reference node: the result is `None` at the end of the transcript and otherwise THE reference node
of the same frame that starts where this one ends (the invariant gives exactly one `reference`
out-edge there — no duplicate `TVGEdge` objects either) -/
theorem tvg_reference_next_deterministic (t : List Char) (h3 : 3 ≤ t.length) (s : TState)
    (hR : Reach t s) (i f a b : Nat) (hi : IsRef s i f a b) :
    (b = t.length ∧ getReferenceNext s i = .ok none) ∨
      (∃ j c, IsRef s j f b c ∧ getReferenceNext s i = .ok (some j)) :=
  getReferenceNext_total (reach_inv h3 hR).1 hi

open MoPepGen.Tvg in
/-- … and `get_reference_prev` of a reference node never raises in the model: there is at most
one `reference` in-edge -/
theorem tvg_reference_prev_deterministic (t : List Char) (h3 : 3 ≤ t.length) (s : TState)
    (hR : Reach t s) (i f a b : Nat) (hi : IsRef s i f a b) :
    ∃ r, getReferencePrev s i = .ok r :=
  (getReferencePrev_spec (reach_inv h3 hR).1 hi).imp fun _ h => h.1

open MoPepGen.Tvg in
/-- **The graph is the position automaton — soundness half of the language theorem** (`_partial`
in the name: this half only).  For every reachable state `s`, every frame `f`, the reference node
`i` of that frame starting at `f` and every maximal path `p` from it: the records `h` the path takes
have a variant node in the graph, they are ascending and strictly separated, and the path spells
`(applyHap t h).drop f` — the graph denotes no sequence outside the definition's form. -/
theorem tvg_path_language_sound_partial (t : List Char) (h3 : 3 ≤ t.length) (s : TState)
    (hR : Reach t s) (i f b : Nat) (hi : IsRef s i f f b) (p : List Nat) (hp : TPath s i p) :
    (∀ v ∈ pathVarsT s p, v ∈ varPool s) ∧ separated (pathVarsT s p) = true ∧
      pathSeqT s p = (applyHap t (pathVarsT s p)).drop f := by
  obtain ⟨hI, hL⟩ := reach_inv h3 hR
  exact tpath_language_sound hI hL hi hp

open MoPepGen.Tvg in
/-- **The cursor loop stays inside the preconditions.**  For every input of
`create_variant_graph` in scope — transcript of at least three bases, records that are
non-empty stretches inside the transcript and no fusion — if the model does not raise, the graph
it returns is reachable by `init_three_frames` followed by `apply_variant` calls whose
preconditions hold.  (The bounds of the source cursor come from the loop's own checks; within
the frame-bridging branch a cursor that was a source may still be a target, a cursor that was
only a target may still be a source.) -/
theorem tvg_create_variant_graph_reach (inp : TvgIn) (vs : List Rec) (g : TState)
    (h3 : 3 ≤ inp.seq.length) (hvs : ∀ v ∈ vs, InOk inp.seq v)
    (h : createVariantGraph inp vs = .ok g) : Reach inp.seq g :=
  createVariantGraph_reach_of_inOk h3 hvs h

open MoPepGen.Tvg in
/-- the partition invariant holds on every graph `createVariantGraph` returns -/
theorem tvg_create_variant_graph_invariant (inp : TvgIn) (vs : List Rec) (g : TState)
    (h3 : 3 ≤ inp.seq.length) (hvs : ∀ v ∈ vs, InOk inp.seq v)
    (h : createVariantGraph inp vs = .ok g) : Inv inp.seq g ∧ VarLinked inp.seq g :=
  reach_inv h3 (createVariantGraph_reach_of_inOk h3 hvs h)

open MoPepGen.Tvg in
/-- soundness half of the language theorem for `createVariantGraph` itself: in the graph it
returns, every maximal path from the reference node of frame `f` starting at `f` (the child of
frame root `f`) spells `(applyHap seq h).drop f` for the records `h` it takes, which have a
variant node in the graph and are ascending and strictly separated -/
theorem tvg_create_variant_graph_sound_partial (inp : TvgIn) (vs : List Rec) (g : TState)
    (h3 : 3 ≤ inp.seq.length) (hvs : ∀ v ∈ vs, InOk inp.seq v)
    (h : createVariantGraph inp vs = .ok g)
    (i f b : Nat) (hi : IsRef g i f f b) (p : List Nat) (hp : TPath g i p) :
    (∀ v ∈ pathVarsT g p, v ∈ varPool g) ∧ separated (pathVarsT g p) = true ∧
      pathSeqT g p = (applyHap inp.seq (pathVarsT g p)).drop f :=
  tvg_path_language_sound_partial inp.seq h3 g (createVariantGraph_reach_of_inOk h3 hvs h) i f b hi p hp

/-! ### completeness half of the language theorem

That a record has a variant node somewhere is not enough for a path to take it:
`create_variant_graph` attaches a record only to the frames that are active when it is reached, and
a frameshifting record moves the path into another frame's reference chain.  `Model/TvgLang.lean`
defines the decidable condition `attached s f h`: the first record of `h` has a variant node in
frame `f` and, if more records follow, one of the frames its `variant_end` edges lead to carries the
rest in the same sense. -/

open MoPepGen.Tvg in
/-- the start node the language theorems speak about exists and is unique: in every reachable
state each frame `f` has exactly one reference node that starts at `f` -/
theorem tvg_frame_start_node (t : List Char) (h3 : 3 ≤ t.length) (s : TState) (hR : Reach t s)
    (f : Nat) (hf : f < 3) :
    ∃ i b, IsRef s i f f b ∧ ∀ j b', IsRef s j f f b' → j = i := by
  obtain ⟨hI, _⟩ := reach_inv h3 hR
  obtain ⟨i, a, b, hi, h1, h2⟩ := hI.cover f f hf (Nat.le_refl _) (Nat.lt_of_lt_of_le hf h3)
  obtain rfl : a = f := Nat.le_antisymm h1 (hI.ref_ok hi).2.1
  exact ⟨i, b, hi, fun j b' hj => hI.disjoint j i _ _ b' _ b hj hi h2 (hI.ref_ok hj).2.2.1⟩

open MoPepGen.Tvg in
/-- **Completeness half of the language theorem**, for every reachable state `s`, every frame `f`,
the reference node `i` of that frame starting at `f` and every list of records `h` that is
strictly separated (ascending, neither overlapping nor adjacent) and `attached` along the frames
from `f` on: there is a maximal path from `i` that takes exactly the records `h` and spells
`(applyHap t h).drop f`.  Frameshifting records, which bridge two frames, included. -/
theorem tvg_path_language_complete (t : List Char) (h3 : 3 ≤ t.length) (s : TState)
    (hR : Reach t s) (i f b : Nat) (hi : IsRef s i f f b) (h : List Var)
    (hatt : attached s f h = true) (hsep : separated h = true) :
    ∃ p, TPath s i p ∧ pathVarsT s p = h ∧ pathSeqT s p = (applyHap t h).drop f := by
  obtain ⟨hI, hL⟩ := reach_inv h3 hR
  exact tpath_language_complete hI hL hi hatt hsep

open MoPepGen.Tvg in
/-- the condition is necessary: the records of every maximal path from a reference node of frame
`f` are attached along the frames from `f` on -/
theorem tvg_path_attached (t : List Char) (h3 : 3 ≤ t.length) (s : TState) (hR : Reach t s)
    (i f a b : Nat) (hi : IsRef s i f a b) (p : List Nat) (hp : TPath s i p) :
    attached s f (pathVarsT s p) = true :=
  (tpath_attached (reach_inv h3 hR).1 hp).1 f a b hi

open MoPepGen.Tvg in
/-- **The path language of a frame, as a set** — for every reachable state: `(w, h)` is the
(sequence, records) pair of a maximal path from the reference node of frame `f` starting at `f`
if and only if `h` is strictly separated, attached along the frames from `f` on, and
`w = (applyHap t h).drop f`. -/
theorem tvg_path_language_eq (t : List Char) (h3 : 3 ≤ t.length) (s : TState) (hR : Reach t s)
    (i f b : Nat) (hi : IsRef s i f f b) (w : List Char) (h : List Var) :
    (∃ p, TPath s i p ∧ pathSeqT s p = w ∧ pathVarsT s p = h) ↔
      (attached s f h = true ∧ separated h = true ∧ w = (applyHap t h).drop f) := by
  obtain ⟨hI, hL⟩ := reach_inv h3 hR
  exact tpath_language_eq hI hL hi w h

open MoPepGen.Tvg in
/-- when every record of the graph has a variant node in each of the three frames (`allFrames`),
every strictly separated list of records of the graph is attached from every frame -/
theorem tvg_attached_of_all_frames (t : List Char) (h3 : 3 ≤ t.length) (s : TState) (hR : Reach t s)
    (hall : allFrames s = true) (h : List Var) (f : Nat) (hf : f < 3)
    (hpool : ∀ v ∈ h, v ∈ varPool s) (hsep : separated h = true) : attached s f h = true := by
  obtain ⟨hI, hL⟩ := reach_inv h3 hR
  exact attached_of_allFrames hI hL hall h f hf hpool hsep

open MoPepGen.Tvg in
/-- `sorted(variants)` of `create_variant_graph` (CPython's `list.sort` on `VariantRecord.__lt__`,
fewer than 64 records) hands the loop the records in ascending order of their start -/
theorem tvg_records_ascending (inp : TvgIn) (vs l : List Rec) (h : variantsWithMnv inp vs = .ok l) :
    l.Pairwise fun a b => a.start ≤ b.start :=
  variantsWithMnv_asc h

open MoPepGen.Tvg in
/-- **the `active_frames` argument.**  In the graph `createVariantGraph inp vs` returns (input
records: non-empty stretches inside the transcript, no fusion), for every frame `f` that is active
from the start (`initialActive`: the known-ORF frame of a coding transcript, all three frames
otherwise) every strictly separated list of records that have a variant node is attached along
the frames from `f` on.  The reason (`LiveInv` of `Lemmas/TvgLive.lean`): the records are applied in
ascending order of start (`tvg_records_ascending`), so a frame that a path can be in was activated
at or before the record that leads into it and carries every later record. -/
theorem tvg_create_variant_graph_attached (inp : TvgIn) (vs : List Rec) (g : TState)
    (h3 : 3 ≤ inp.seq.length) (hvs : ∀ v ∈ vs, InOk inp.seq v)
    (h : createVariantGraph inp vs = .ok g) (A0 : List Bool) (hA0 : initialActive inp = .ok A0)
    (f : Nat) (hf : A0.getD f false = true) (hs : List Var) (hpool : ∀ v ∈ hs, v ∈ varPool g)
    (hsep : separated hs = true) : attached g f hs = true :=
  createVariantGraph_attached h3 hvs h hA0 hf hpool hsep

open MoPepGen.Tvg in
/-- **Completeness for `createVariantGraph` itself**: from the reference node of every frame `f`
that is active from the start, every strictly separated sub-collection `hs` of the records that
have a variant node has a maximal path that takes exactly `hs` and spells
`(applyHap seq hs).drop f`. -/
theorem tvg_create_variant_graph_complete (inp : TvgIn) (vs : List Rec) (g : TState)
    (h3 : 3 ≤ inp.seq.length) (hvs : ∀ v ∈ vs, InOk inp.seq v)
    (h : createVariantGraph inp vs = .ok g) (A0 : List Bool) (hA0 : initialActive inp = .ok A0)
    (i f b : Nat) (hf : A0.getD f false = true) (hi : IsRef g i f f b)
    (hs : List Var) (hpool : ∀ v ∈ hs, v ∈ varPool g) (hsep : separated hs = true) :
    ∃ p, TPath g i p ∧ pathVarsT g p = hs ∧ pathSeqT g p = (applyHap inp.seq hs).drop f :=
  tvg_path_language_complete inp.seq h3 g (createVariantGraph_reach_of_inOk h3 hvs h) i f b hi hs
    (createVariantGraph_attached h3 hvs h hA0 hf hpool hsep) hsep

open MoPepGen.Tvg in
/-- **The language theorem for `createVariantGraph`, relative to the records in the graph**
(`_partial`: it does not say that these records are `Spec.recordPool` of the input — that is
`tvg_var_pool_eq_record_pool`, which needs `poolInputOk`; here `InOk` is enough).  For every frame
`f` active from the start, `(w, hs)` is the (sequence, records) pair of a maximal path from the
reference node of frame `f` starting at `f` if and only if `hs` is a strictly separated list of
records that have a variant node in the graph and `w = (applyHap seq hs).drop f`. -/
theorem tvg_create_variant_graph_language_eq_partial (inp : TvgIn) (vs : List Rec) (g : TState)
    (h3 : 3 ≤ inp.seq.length) (hvs : ∀ v ∈ vs, InOk inp.seq v)
    (h : createVariantGraph inp vs = .ok g) (A0 : List Bool) (hA0 : initialActive inp = .ok A0)
    (i f b : Nat) (hf : A0.getD f false = true) (hi : IsRef g i f f b)
    (w : List Char) (hs : List Var) :
    (∃ p, TPath g i p ∧ pathSeqT g p = w ∧ pathVarsT g p = hs) ↔
      ((∀ v ∈ hs, v ∈ varPool g) ∧ separated hs = true ∧ w = (applyHap inp.seq hs).drop f) := by
  have hR := createVariantGraph_reach_of_inOk h3 hvs h
  rw [tvg_path_language_eq inp.seq h3 g hR i f b hi w hs]
  constructor
  · rintro ⟨_, h2, rfl⟩
    obtain ⟨p, hp, hv, _⟩ := tvg_path_language_complete inp.seq h3 g hR i f b hi hs ‹_› h2
    have := (tvg_path_language_sound_partial inp.seq h3 g hR i f b hi p hp).1
    rw [hv] at this
    exact ⟨this, h2, rfl⟩
  · rintro ⟨h1, h2, rfl⟩
    exact ⟨createVariantGraph_attached h3 hvs h hA0 hf h1 h2, h2, rfl⟩

open MoPepGen.Tvg in
/-- a transcript without a known ORF: all three frames are active from the start, so
`tvg_create_variant_graph_complete` holds from every frame -/
theorem tvg_create_variant_graph_complete_noncoding (inp : TvgIn) (vs : List Rec) (g : TState)
    (h3 : 3 ≤ inp.seq.length) (hvs : ∀ v ∈ vs, InOk inp.seq v) (hnc : inp.hasKnownOrf = false)
    (h : createVariantGraph inp vs = .ok g)
    (i f b : Nat) (hf : f < 3) (hi : IsRef g i f f b)
    (hs : List Var) (hpool : ∀ v ∈ hs, v ∈ varPool g) (hsep : separated hs = true) :
    ∃ p, TPath g i p ∧ pathVarsT g p = hs ∧ pathSeqT g p = (applyHap inp.seq hs).drop f := by
  have hA0 : initialActive inp = .ok [true, true, true] := by
    rw [initialActive, hnc]
    rfl
  have hall : ∀ f < 3, ([true, true, true] : List Bool).getD f false = true := by decide
  exact tvg_create_variant_graph_complete inp vs g h3 hvs h _ hA0 i f b (hall f hf) hi hs hpool hsep

open MoPepGen.Tvg in
/-- **the record lists of the maximal paths, computed without walking the graph.**  For every
reachable state: `attachedSubs s f` (the sub-collections of the records of the graph that, in
ascending order, are strictly separated and attached from frame `f` on) lists exactly the record
lists of the maximal paths from the reference node of frame `f` starting at `f`.  The driver op
`G tvglang` prints this list for the model's graph and the harness compares it with the paths it
enumerates in the graph the REAL `create_variant_graph` built. -/
theorem tvg_attached_subs_spec (t : List Char) (h3 : 3 ≤ t.length) (s : TState) (hR : Reach t s)
    (i f b : Nat) (hi : IsRef s i f f b) (h : List Var) :
    h ∈ attachedSubs s f ↔ ∃ p, TPath s i p ∧ pathVarsT s p = h := by
  obtain ⟨hI, hL⟩ := reach_inv h3 hR
  exact mem_attachedSubs hI hL hi h

open MoPepGen.Tvg in
/-- … and for the graph of `createVariantGraph` and a frame active from the start that list is
ALL strictly separated lists of records that have a variant node -/
theorem tvg_create_variant_graph_attached_subs (inp : TvgIn) (vs : List Rec) (g : TState)
    (h3 : 3 ≤ inp.seq.length) (hvs : ∀ v ∈ vs, InOk inp.seq v)
    (h : createVariantGraph inp vs = .ok g) (A0 : List Bool) (hA0 : initialActive inp = .ok A0)
    (i f b : Nat) (hf : A0.getD f false = true) (hi : IsRef g i f f b) (hs : List Var) :
    hs ∈ attachedSubs g f ↔ (∀ v ∈ hs, v ∈ varPool g) ∧ separated hs = true := by
  have hR := createVariantGraph_reach_of_inOk h3 hvs h
  rw [tvg_attached_subs_spec inp.seq h3 g hR i f b hi hs]
  constructor
  · rintro ⟨p, hp, rfl⟩
    obtain ⟨h1, h2, _⟩ := tvg_path_language_sound_partial inp.seq h3 g hR i f b hi p hp
    exact ⟨h1, h2⟩
  · rintro ⟨h1, h2⟩
    obtain ⟨p, hp, hv, _⟩ := tvg_create_variant_graph_complete inp vs g h3 hvs h A0 hA0 i f b hf hi hs h1 h2
    exact ⟨p, hp, hv⟩

open MoPepGen.Tvg in
/-- **The variant nodes carry exactly the record pool of the definition.**  For every input
that satisfies the decidable `poolInputOk` (known ORF ⇔ the sequence carries one,
`max_adjacent_as_mnv = 2`, at least three bases, records of the modelled types, non-empty
stretches inside the transcript, typed `INDEL` exactly when the alleles make an insertion or a
deletion, ascending starts; that the real caller meets it is not proved, the `G-tvglang` stream
evaluates it on the arguments of every real call): a record has a variant node in the graph
`createVariantGraph inp vs` returns if and only if it is — up to the merge class, which a graph
record does not carry — a record of `Spec.recordPool` (a `usable` input record or a merged adjacent
pair).  Three parts:
the "Filter variants" loop is `filterMap usable` (`filterAll_usable`),
`find_mnvs_from_adjacent_variants` on ascending records is `mergedPairs`
(`findMnvs_mergedPairs`: its `break` loses nothing), and the cursor loop skips no record
(`cvgLoop_spec`: no cursor ever starts behind a record, none runs off the end). -/
theorem tvg_var_pool_eq_record_pool (inp : TvgIn) (vs : List Rec) (g : TState)
    (hok : poolInputOk inp vs = true) (h : createVariantGraph inp vs = .ok g) (x : Var) :
    x ∈ varPool g ↔ ∃ u ∈ recordPool inp.toTx (vs.map Rec.toSpec), x = eraseCls u := by
  have h3 := (poolInputOk_iff hok).2.2.1
  obtain ⟨_, _, _, _, l, _, hl, _, _, hpool⟩ := createVariantGraph_live h3 (poolInputOk_inOk hok) h
  rw [hpool]
  constructor
  · rintro ⟨r, hr, rfl⟩
    exact ⟨r.toSpec, (variantsWithMnv_recordPool hok hl _).mp ⟨r, hr, rfl⟩, rfl⟩
  · rintro ⟨u, hu, rfl⟩
    obtain ⟨r, hr, rfl⟩ := (variantsWithMnv_recordPool hok hl u).mpr hu
    exact ⟨r, hr, rfl⟩

open MoPepGen.Tvg MoPepGen.Graph in
/-- **THE LANGUAGE THEOREM for `create_variant_graph`** (the model; SNV / RNAEditingSite / INDEL
records).  For every input satisfying `poolInputOk`, if
`createVariantGraph inp vs = .ok g`, then for every frame `f` that is active from the start (the
known-ORF frame of a coding transcript, all three frames otherwise) and the reference node `i` of
that frame starting at `f` (the child of frame root `f`):

    { (sequence, record ids) of the maximal paths of g from i } = tvgLang inp.toTx (vs.map Rec.toSpec) f

— the `applyHap` sequences (from position `f`) and id lists of ALL compatible combinations of the
definition's record pool, the empty one included: what checkpoint CP1 demands of this stage. -/
theorem tvg_create_variant_graph_language_eq (inp : TvgIn) (vs : List Rec) (g : TState)
    (hok : poolInputOk inp vs = true) (h : createVariantGraph inp vs = .ok g)
    (A0 : List Bool) (hA0 : initialActive inp = .ok A0)
    (i f b : Nat) (hf : A0.getD f false = true) (hi : IsRef g i f f b)
    (w : List Char) (ids : List Nat) :
    (∃ p, TPath g i p ∧ pathSeqT g p = w ∧ hapIds (pathVarsT g p) = ids) ↔
      (w, ids) ∈ tvgLang inp.toTx (vs.map Rec.toSpec) f := by
  have h3 := (poolInputOk_iff hok).2.2.1
  have hvs := poolInputOk_inOk hok
  have hR := createVariantGraph_reach_of_inOk h3 hvs h
  obtain ⟨hI, _⟩ := reach_inv h3 hR
  have hpool := tvg_var_pool_eq_record_pool inp vs g hok h
  -- pool records are non-empty stretches (their erased forms sit on variant nodes)
  have hpos : ∀ u ∈ recordPool inp.toTx (vs.map Rec.toSpec), u.start ≤ u.stop := by
    intro u hu
    obtain ⟨k, m, r, hk, hr⟩ := mem_varPool_iff.mp ((hpool (eraseCls u)).mpr ⟨u, hu, rfl⟩)
    have hlt : r.toVar.start < r.toVar.stop := (hI.var_ok hk).2.2.1
    rw [hr] at hlt
    exact Nat.le_of_lt hlt
  simp only [tvgLang, allHaps, List.mem_map, List.mem_cons, Prod.mk.injEq]
  constructor
  · rintro ⟨p, hp, rfl, rfl⟩
    obtain ⟨h1, h2, h3'⟩ := tvg_path_language_sound_partial inp.seq h3 g hR i f b hi p hp
    obtain ⟨h', e, hsub⟩ := lift_erase (pool := recordPool inp.toTx (vs.map Rec.toSpec))
      (pathVarsT g p) (fun v hv => (hpool v).mp (h1 v hv))
    refine ⟨h', ?_, ?_, ?_⟩
    · by_cases hne : h' = []
      · exact Or.inl hne
      · rw [← e, separated_map_erase] at h2
        exact Or.inr ((mem_haplotypes_iff _ _ _ hpos).mpr ⟨hne, h2, hsub⟩)
    · rw [h3', ← e, applyHap_map_erase]; rfl
    · rw [← e, hapIds_map_erase]
  · rintro ⟨h', hmem, rfl, rfl⟩
    have hh : separated h' = true ∧ ∀ u ∈ h', u ∈ recordPool inp.toTx (vs.map Rec.toSpec) := by
      rcases hmem with rfl | hmem
      · exact ⟨rfl, by simp⟩
      · exact ((mem_haplotypes_iff _ _ _ hpos).mp hmem).2
    obtain ⟨p, hp, hv, hs⟩ := tvg_create_variant_graph_complete inp vs g h3 hvs h A0 hA0 i f b hf hi
      (h'.map eraseCls)
      (fun v hv => by
        obtain ⟨u, hu, rfl⟩ := List.mem_map.mp hv
        exact (hpool _).mpr ⟨u, hh.2 u hu, rfl⟩)
      (by rw [separated_map_erase]; exact hh.1)
    refine ⟨p, hp, ?_, ?_⟩
    · rw [hs, applyHap_map_erase]; rfl
    · rw [hv, hapIds_map_erase]

/-! non-vacuity: the transcript `ATGGCCAAATAGGC` (known ORF at 0) with the SNV `G→T` at 3 and the
frameshifting insertion `A→AC` at 7.  `create_variant_graph` applies the SNV in frame 0, the
insertion activates the other two frames and is applied as bridges 0→2, 1→0, 2→1: four
`apply_variant` calls whose preconditions hold, so the resulting graph is `Reach`able and the
theorems above speak about it. -/
section TvgNonVacuity
open MoPepGen.Tvg
/-- example transcript (not part of any statement) -/
def tvgT : List Char := "ATGGCCAAATAGGC".toList
/-- example SNV -/
def tvgSnv : Rec := { start := 3, stop := 4, ref := ['G'], alt := ['T'], type := "SNV", ids := [0] }
/-- example frameshifting insertion -/
def tvgIns : Rec := { start := 7, stop := 8, ref := ['A'], alt := ['A', 'C'], type := "INDEL", ids := [1] }
/-- the graph `create_variant_graph` builds for the example -/
def tvgG : Except String TState :=
  createVariantGraph { seq := tvgT, hasKnownOrf := true, orf := some (0, 9), mrnaEndNF := false }
    [tvgSnv, tvgIns]

/-- the states after each of the four `apply_variant` calls of the example, as the cursor loop
issues them (source, target): (4, 4) for the SNV, then (9, 6), (5, 9), (6, 5) for the insertion -/
def tvgS0 : TState := initThreeFrames tvgT
def tvgS1 : TState :=
  match applyVariant tvgS0 4 4 tvgSnv with | .ok (s, _, _) => s | .error _ => default
def tvgS2 : TState :=
  match applyVariant tvgS1 9 6 tvgIns with | .ok (s, _, _) => s | .error _ => default
def tvgS3 : TState :=
  match applyVariant tvgS2 5 9 tvgIns with | .ok (s, _, _) => s | .error _ => default
def tvgS4 : TState :=
  match applyVariant tvgS3 6 5 tvgIns with | .ok (s, _, _) => s | .error _ => default

/-- the example graph: 19 nodes, 22 edges, and it is what the four calls build -/
example : (tvgG.toOption.map fun g => (g.nodes.length, g.edges.length)) = some (19, 22) := by decide +kernel
example : tvgG.toOption = some tvgS4 := by decide +kernel

/-- the four calls do not raise and their preconditions hold (each `IsRef` witness is the node
itself), so the graph of the example is `Reach`able -/
theorem tvg_example_reach : Reach tvgT tvgS4 := by
  have e1 : applyVariant tvgS0 4 4 tvgSnv = .ok (tvgS1, 4, 4) := rfl
  have e2 : applyVariant tvgS1 9 6 tvgIns = .ok (tvgS2, 9, 6) := rfl
  have e3 : applyVariant tvgS2 5 9 tvgIns = .ok (tvgS3, 5, 9) := rfl
  have e4 : applyVariant tvgS3 6 5 tvgIns = .ok (tvgS4, 6, 5) := rfl
  have p1 : ApplyPre tvgT tvgS0 4 4 tvgSnv :=
    ⟨by decide, ⟨0, 0, 14, ⟨_, rfl⟩, by decide, by decide, by decide⟩, ⟨0, 0, 14, ⟨_, rfl⟩, by decide⟩⟩
  have p2 : ApplyPre tvgT tvgS1 9 6 tvgIns :=
    ⟨by decide, ⟨0, 4, 14, ⟨_, rfl⟩, by decide, by decide, by decide⟩, ⟨2, 2, 14, ⟨_, rfl⟩, by decide⟩⟩
  have p3 : ApplyPre tvgT tvgS2 5 9 tvgIns :=
    ⟨by decide, ⟨1, 1, 14, ⟨_, rfl⟩, by decide, by decide, by decide⟩, ⟨0, 4, 7, ⟨_, rfl⟩, by decide⟩⟩
  have p4 : ApplyPre tvgT tvgS3 6 5 tvgIns :=
    ⟨by decide, ⟨2, 2, 8, ⟨_, rfl⟩, by decide, by decide, by decide⟩, ⟨1, 1, 7, ⟨_, rfl⟩, by decide⟩⟩
  exact Reach.apply (Reach.apply (Reach.apply (Reach.apply Reach.init p1 e1) p2 e2) p3 e3) p4 e4

/-- … hence the invariant holds on it (through the theorem, not by evaluation) -/
example : Inv tvgT tvgS4 ∧ VarLinked tvgT tvgS4 :=
  tvg_partition_invariant tvgT (by decide) _ tvg_example_reach

/-- the tiling of frame 0 of the example graph as a chain: `[0,3) [3,4) [4,7) [7,8) [8,14)` -/
example : RefChain 0 tvgT.length [(4, 0, 3), (8, 3, 4), (9, 4, 7), (11, 7, 8), (15, 8, 14)] ∧
    ∀ x ∈ [(4, 0, 3), (8, 3, 4), (9, 4, 7), (11, 7, 8), (15, 8, 14)],
      ∃ sq, tvgS4.nodes[x.1]? = some ⟨0, .ref x.2.1 x.2.2, sq⟩ := by
  refine ⟨⟨rfl, by decide, rfl, by decide, rfl, by decide, rfl, by decide, rfl, by decide, rfl⟩, ?_⟩
  have h : ∀ x ∈ [(4, 0, 3), (8, 3, 4), (9, 4, 7), (11, 7, 8), (15, 8, 14)],
      (tvgS4.nodes[x.1]?.map fun n => (n.rf, n.kind)) = some (0, .ref x.2.1 x.2.2) := by decide +kernel
  exact fun x hx => isRef_of_map (h x hx)

/-- a maximal path of the example graph that takes the SNV in frame 0 and then the bridge of the
insertion into frame 2: nodes `[0,3) · T · [4,7) · AC · [8,14)` (indices 4, 7, 9, 10, 12) -/
example : pathSeqT tvgS4 [4, 7, 9, 10, 12] = "ATGTCCAACATAGGC".toList ∧
    (pathVarsT tvgS4 [4, 7, 9, 10, 12]).map (·.ids) = [[0], [1]] ∧
    pathSeqT tvgS4 [4, 7, 9, 10, 12] = (applyHap tvgT (pathVarsT tvgS4 [4, 7, 9, 10, 12])).drop 0 := by
  decide +kernel

/-- … and it IS a maximal path of the example graph, so `tvg_path_language_sound_partial` applies -/
example : TPath tvgS4 4 [4, 7, 9, 10, 12] := by
  have h : (⟨4, 7, .variantStart⟩ : TEdge) ∈ tvgS4.edges ∧ (⟨7, 9, .variantEnd⟩ : TEdge) ∈ tvgS4.edges ∧
      (⟨9, 10, .variantStart⟩ : TEdge) ∈ tvgS4.edges ∧ (⟨10, 12, .variantEnd⟩ : TEdge) ∈ tvgS4.edges ∧
      outEdges tvgS4 12 = [] := by decide +kernel
  exact .step _ h.1 rfl (.step _ h.2.1 rfl (.step _ h.2.2.1 rfl (.step _ h.2.2.2.1 rfl (.leaf h.2.2.2.2))))

/-- the hypotheses of `tvg_create_variant_graph_reach` hold for the example -/
example : 3 ≤ tvgT.length ∧ (∀ v ∈ [tvgSnv, tvgIns], InOk tvgT v) ∧ tvgG = .ok tvgS4 := by
  refine ⟨by decide, ?_, eq_ok_of_toOption (by decide +kernel)⟩
  intro v hv
  simp only [List.mem_cons, List.not_mem_nil, or_false] at hv
  rcases hv with rfl | rfl <;> exact ⟨by decide, by decide, by decide⟩

/-! non-vacuity of the completeness half.  In the example graph the SNV was reached when only
frame 0 was active, the insertion activated the other two: `[SNV, insertion]` is attached from
frame 0 on (the path above), `[SNV]` is NOT attached from frame 1 (the condition discriminates),
`[insertion]` is attached from every frame. -/
example : separated [tvgSnv.toVar, tvgIns.toVar] = true ∧
    attached tvgS4 0 [tvgSnv.toVar, tvgIns.toVar] = true ∧ attached tvgS4 1 [tvgSnv.toVar] = false ∧
    attached tvgS4 1 [tvgIns.toVar] = true ∧ attached tvgS4 2 [tvgIns.toVar] = true ∧
    bridgeFrames tvgS4 0 tvgIns.toVar = [2] ∧ allFrames tvgS4 = false := by decide +kernel

/-- `tvg_path_language_complete` applies to the example: the path exists (through the theorem) -/
example : ∃ p, TPath tvgS4 4 p ∧ pathVarsT tvgS4 p = [tvgSnv.toVar, tvgIns.toVar] ∧
    pathSeqT tvgS4 p = (applyHap tvgT [tvgSnv.toVar, tvgIns.toVar]).drop 0 :=
  tvg_path_language_complete tvgT (by decide) _ tvg_example_reach 4 0 3 ⟨_, rfl⟩ _ (by decide) (by decide)

/-- … and `tvg_path_language_eq` read from right to left gives the same path, from left to right
it says that no maximal path from the frame-1 chain takes the SNV -/
example : ¬ ∃ p, TPath tvgS4 5 p ∧ pathSeqT tvgS4 p = (applyHap tvgT [tvgSnv.toVar]).drop 1 ∧
    pathVarsT tvgS4 p = [tvgSnv.toVar] := by
  rw [tvg_path_language_eq tvgT (by decide) _ tvg_example_reach 5 1 7 ⟨_, rfl⟩]
  decide

/-- the hypotheses of `tvg_create_variant_graph_attached` / `_complete` hold for the example:
frame 0 is the frame active from the start, both records have a variant node -/
example : initialActive { seq := tvgT, hasKnownOrf := true, orf := some (0, 9), mrnaEndNF := false } =
      .ok [true, false, false] ∧
    (∀ v ∈ [tvgSnv.toVar, tvgIns.toVar], v ∈ varPool tvgS4) ∧ IsRef tvgS4 4 0 0 3 := by
  have h : (∀ v ∈ [tvgSnv.toVar, tvgIns.toVar], v ∈ varPool tvgS4) ∧
      (tvgS4.nodes[4]?.map fun n => (n.rf, n.kind)) = some (0, .ref 0 3) := by decide +kernel
  exact ⟨rfl, h.1, isRef_of_map h.2⟩

/-- the records the loop of the example walks over, in ascending order (`tvg_records_ascending`) -/
example : (variantsWithMnv { seq := tvgT, hasKnownOrf := true, orf := some (0, 9), mrnaEndNF := false }
    [tvgIns, tvgSnv]).toOption = some [tvgSnv, tvgIns] := by decide +kernel

/-- the same records on the transcript WITHOUT a known ORF: all three frames are active from the
start, every record gets a variant node in every frame (`allFrames`), so
`tvg_attached_of_all_frames` / `tvg_create_variant_graph_complete_noncoding` apply from each frame -/
def tvgNc : Except String TState :=
  createVariantGraph { seq := tvgT, hasKnownOrf := false, orf := none, mrnaEndNF := false }
    [tvgSnv, tvgIns]
example : (tvgNc.toOption.map fun g => (g.nodes.length, allFrames g,
    [0, 1, 2].map fun f => attached g f [tvgSnv.toVar, tvgIns.toVar])) =
    some (25, true, [true, true, true]) := by decide +kernel

/-- the record lists of the maximal paths of the example graph: from frame 0 every combination,
from frames 1 and 2 only those without the SNV -/
example : ((attachedSubs tvgS4 0).map fun h => h.map (·.ids)) = [[], [[1]], [[0]], [[0], [1]]] ∧
    ((attachedSubs tvgS4 1).map fun h => h.map (·.ids)) = [[], [[1]]] ∧
    ((attachedSubs tvgS4 2).map fun h => h.map (·.ids)) = [[], [[1]]] := by decide +kernel

/-! non-vacuity of `tvg_var_pool_eq_record_pool` and of the language theorem: the same transcript with an insertion anchored
ON the last base of the start codon (re-anchored by the filter: `2:3 G→GT` becomes `3:4 G→TG`) and
two adjacent SNVs (merged into the MNV `5:7 CA→GT` with ids `[1, 2]`; taken separately they are
adjacent, hence not compatible).  The input satisfies `poolInputOk` (an unsorted one does not),
the record pool of the definition has four records, they are the records of the graph, and the
maximal paths of frame 0 are the eight combinations of `tvgLang`. -/
/-- example input (not part of any statement) -/
def tvgInp2 : TvgIn := { seq := tvgT, hasKnownOrf := true, orf := some (0, 9), mrnaEndNF := false }
def tvgIns2 : Rec := { start := 2, stop := 3, ref := ['G'], alt := ['G', 'T'], type := "INDEL", ids := [0] }
def tvgSnv5 : Rec := { start := 5, stop := 6, ref := ['C'], alt := ['G'], type := "SNV", ids := [1] }
def tvgSnv6 : Rec := { start := 6, stop := 7, ref := ['A'], alt := ['T'], type := "SNV", ids := [2] }

example : poolInputOk tvgInp2 [tvgIns2, tvgSnv5, tvgSnv6] = true ∧
    poolInputOk tvgInp2 [tvgSnv6, tvgSnv5] = false := by decide +kernel

example : ((recordPool tvgInp2.toTx ([tvgIns2, tvgSnv5, tvgSnv6].map Rec.toSpec)).map fun u =>
      (u.start, u.stop, String.ofList u.ref, String.ofList u.alt, u.ids)) =
    [(3, 4, "G", "TG", [0]), (5, 6, "C", "G", [1]), (6, 7, "A", "T", [2]), (5, 7, "CA", "GT", [1, 2])] := by
  decide +kernel

open MoPepGen.Graph in
example : ((createVariantGraph tvgInp2 [tvgIns2, tvgSnv5, tvgSnv6]).toOption.map fun g =>
      (((varPool g).eraseDups.map fun u => (u.start, u.stop, u.ids)),
       ((attachedSubs g 0).map fun h => (String.ofList ((applyHap tvgT h).drop 0), hapIds h)))) =
    some ([(3, 4, [0]), (5, 6, [1]), (5, 7, [1, 2]), (6, 7, [2])],
      [("ATGGCCAAATAGGC", []), ("ATGGCCTAATAGGC", [2]), ("ATGGCGTAATAGGC", [1, 2]),
       ("ATGGCGAAATAGGC", [1]), ("ATGTGCCAAATAGGC", [0]), ("ATGTGCCTAATAGGC", [0, 2]),
       ("ATGTGCGTAATAGGC", [0, 1, 2]), ("ATGTGCGAAATAGGC", [0, 1])]) := by decide +kernel

open MoPepGen.Graph in
example : ((tvgLang tvgInp2.toTx ([tvgIns2, tvgSnv5, tvgSnv6].map Rec.toSpec) 0).map fun x =>
      (String.ofList x.1, x.2)) =
    [("ATGGCCAAATAGGC", []), ("ATGGCGTAATAGGC", [1, 2]), ("ATGGCCTAATAGGC", [2]),
     ("ATGGCGAAATAGGC", [1]), ("ATGTGCCAAATAGGC", [0]), ("ATGTGCGTAATAGGC", [0, 1, 2]),
     ("ATGTGCCTAATAGGC", [0, 2]), ("ATGTGCGAAATAGGC", [0, 1])] := by decide +kernel

/-- a `splice` whose precondition holds (the frame-1 node `[1, 14)` cut at offset 4) -/
example : SplicePre tvgS0 5 4 ∧
    ∃ s', Tvg.splice tvgS0 5 4 .reference = .ok (s', 5, 7) :=
  ⟨⟨1, 1, 14, ⟨_, rfl⟩, by decide, by decide⟩, _, rfl⟩
end TvgNonVacuity

/-! ## Layer G — function-level model of `ThreeFrameTVG.translate` (third stage)

The model is `Model/Translate.lean` (its header says what it covers and what it names `pix o`).
Tie to the real code: internal streams `G-translate` (every stage-dumping case of C01: the graph
the real `translate` found vs the graph it returned) and `G-translate-direct`.

All theorems below are for a LINEAR transcript (`isCirc = false`).  Those that carry
`noTerminal g ∨ ¬ hasKnownOrf` speak about graphs in which the final loop of `translate` splits
off no fake stop (the case of an annotation whose CDS end is a stop codon);
`translate_language_fake_stop` gives the language without that condition, for every linear
transcript with a known ORF.  `innerCodons` is what CP2 asserts of the input graph;
`secAscending` says that the Sec positions collected in every node are ascending; the sequence
theorems that do not assume it (`translate_path_sequence`, `translate_language_fake_stop`) speak
of `nodeProt`, the rebuilding loop as written.  Which positions are collected: `sec_hit_sound` (only if) and `sec_hits_exact_of_sorted` (iff, for sorted
single-frame locations / records). -/

open MoPepGen.Translate MoPepGen.Graph in
/-- the successors of the root of the returned graph are exactly the images of the start nodes of
the three frames (the successors of the frame roots `self.reading_frames`) -/
theorem translate_root_successors (g : TGraphIn) (pg : PGraph) (h : translateGraph g = .ok pg)
    (hnt : noTerminal g = true ∨ g.hasKnownOrf = false) (q : Nat) :
    q ∈ succs pg.toGraph rootIx ↔ ∃ d ∈ g.frames, ∃ o ∈ succs g.toGraph d, q = pix o := by
  obtain ⟨st, hF, hG⟩ := translateGraph_final h hnt
  rw [hG]; exact hF.root_succs q

open MoPepGen.Translate MoPepGen.Graph in
/-- from the image of a frame's start node `o`, the maximal paths of the returned graph (the
shared stop node is the end sentinel, not part of a path) are exactly the node-wise images of the
maximal paths of the input graph from `o` -/
theorem translate_paths (g : TGraphIn) (pg : PGraph) (h : translateGraph g = .ok pg)
    (hnt : noTerminal g = true ∨ g.hasKnownOrf = false) (d o : Nat) (hd : d ∈ g.frames)
    (ho : o ∈ succs g.toGraph d) (q : List Nat) :
    MaxPath pg.toGraph (pix o) q ↔ ∃ p, MaxPath g.toGraph o p ∧ q = p.map pix := by
  obtain ⟨st, hF, hG⟩ := translateGraph_final h hnt
  rw [hG]; exact hF.embeds.maxPath_iff (hF.start_present hd ho) q

open MoPepGen.Translate MoPepGen.Graph in
/-- `add_stop`: the image of the LAST node of a maximal path has the shared stop node as its one
and only successor in the returned graph (`*` is added at the end of every branch); the stop
node is the end sentinel of Layer G and not part of any path -/
theorem translate_stop_after_every_branch (g : TGraphIn) (pg : PGraph) (h : translateGraph g = .ok pg)
    (hnt : noTerminal g = true ∨ g.hasKnownOrf = false) (d o : Nat) (hd : d ∈ g.frames)
    (ho : o ∈ succs g.toGraph d) (p : List Nat) (hm : MaxPath g.toGraph o p) (l : Nat)
    (hl : p.getLast? = some l) (q : Nat) :
    q ∈ ((pg.nodes[pix l]?.map (·.out)).getD []) ↔ q = stopIx := by
  obtain ⟨st, hst, hn⟩ := translateGraph_nodes h hnt
  have hF := translateCore_final hst
  obtain ⟨hleaf, hmem⟩ := maxPath_last_leaf hm l hl
  rw [hn]
  exact hF.leaf_out ((hF.embeds.maxPath_map hm (hF.start_present hd ho)).2 l hmem) hleaf q

open MoPepGen.Translate MoPepGen.Graph in
/-- node by node: along the image of a maximal path the returned graph spells `nodeProt` of the
input nodes — the translation of the node's DNA, rebuilt around the positions
`fix_selenocysteines` collected (`rebuildSec`, the loop as written), `*` for an empty node
without successor unless trailing nodes are clipped.  No assumption on codons or on the order
of the Sec positions. -/
theorem translate_path_sequence (g : TGraphIn) (pg : PGraph) (h : translateGraph g = .ok pg)
    (hc : g.isCirc = false) (hnt : noTerminal g = true ∨ g.hasKnownOrf = false) (d o : Nat)
    (hd : d ∈ g.frames) (ho : o ∈ succs g.toGraph d) (p : List Nat) (hm : MaxPath g.toGraph o p) :
    pathSeq pg.toGraph (p.map pix) = p.flatMap (protOf g) := by
  obtain ⟨st, hF, hG⟩ := translateGraph_final h hnt
  rw [hG]; exact hF.pathSeq_eq hc hm (hF.start_present hd ho)

open MoPepGen.Translate MoPepGen.Graph in
/-- with the Sec rule: if the path is codon aligned and the collected positions are strictly
ascending in every node, the image path spells the translation of the path's DNA with `U` at
exactly the collected positions (`pathHits`: the positions of each node shifted by the length of
the protein in front of it), followed by `*` when the last node translates to nothing and
trailing nodes are not clipped -/
theorem translate_path_sequence_sec (g : TGraphIn) (pg : PGraph) (h : translateGraph g = .ok pg)
    (hc : g.isCirc = false) (hnt : noTerminal g = true ∨ g.hasKnownOrf = false)
    (hasc : secAscending g = true) (d o : Nat) (hd : d ∈ g.frames) (ho : o ∈ succs g.toGraph d)
    (p : List Nat) (hm : MaxPath g.toGraph o p) (hal : codonAligned g.toGraph p = true) :
    pathSeq pg.toGraph (p.map pix) =
      secRead (pathHits g p) 0 (translate (pathSeq g.toGraph p)) ++ endStar g p := by
  obtain ⟨st, hF, hG⟩ := translateGraph_final h hnt
  rw [hG]; exact hF.pathSeq_sec hc hasc hm (hF.start_present hd ho) hal

open MoPepGen.Translate MoPepGen.Graph in
/-- the language theorem: for an input graph in which every node with a successor is a whole
number of codons, the protein language of the returned graph from the image of a frame's start
node is exactly the set of translations of the DNA language of the input graph from that node,
read with `U` at the collected Sec positions (and `*` for an empty last node) -/
theorem translate_language_eq (g : TGraphIn) (pg : PGraph) (h : translateGraph g = .ok pg)
    (hc : g.isCirc = false) (hnt : noTerminal g = true ∨ g.hasKnownOrf = false)
    (hic : innerCodons g = true) (hasc : secAscending g = true) (d o : Nat) (hd : d ∈ g.frames)
    (ho : o ∈ succs g.toGraph d) (w : List Char) :
    (∃ q, MaxPath pg.toGraph (pix o) q ∧ pathSeq pg.toGraph q = w) ↔
      ∃ p, MaxPath g.toGraph o p ∧
        w = secRead (pathHits g p) 0 (translate (pathSeq g.toGraph p)) ++ endStar g p := by
  obtain ⟨st, hF, hG⟩ := translateGraph_final h hnt
  have hp := hF.start_present hd ho
  rw [hG]
  exact hF.embeds.exists_maxPath_iff hp
    (fun _ hm => hF.pathSeq_sec hc hasc hm hp (codonAligned_of_innerCodons hic hm)) w

open MoPepGen.Translate MoPepGen.Graph in
/-- CP2 ⇒ CP3 for the model of this stage, transcripts without annotated Sec codons: if the DNA
language of the input graph from the frame's start node is the language CP2 demands
(`tvgLang t vs f`) and every node with a successor is a whole number of codons, then the protein
language of the returned graph, trailing stop symbols removed, is the language CP3 demands
(`protLang t vs f`, likewise stripped — the comparison `Driver/G.lean` makes for stage `pvg1`). -/
theorem translate_cp3_of_cp2 (g : TGraphIn) (pg : PGraph) (h : translateGraph g = .ok pg)
    (hc : g.isCirc = false) (hnt : noTerminal g = true ∨ g.hasKnownOrf = false)
    (hic : innerCodons g = true) (hs : g.sect = []) (d o : Nat) (hd : d ∈ g.frames)
    (ho : o ∈ succs g.toGraph d) (t : TxIn) (vs : List Var) (f : Nat) (hts : t.sec = [])
    (hcp2 : ∀ s, (∃ p, MaxPath g.toGraph o p ∧ pathSeq g.toGraph p = s) ↔
      s ∈ (tvgLang t vs f).map (·.1)) (w : List Char) :
    (∃ q, MaxPath pg.toGraph (pix o) q ∧ stripEnd (pathSeq pg.toGraph q) = w) ↔
      w ∈ (protLang t vs f).map stripEnd := by
  rw [protLang_strip_of_sec_nil hts, translateGraph_language_of_sect_nil h hc hnt hic hs hd ho]
  constructor
  · rintro ⟨p, hm, rfl⟩
    exact List.mem_map_of_mem ((hcp2 _).mp ⟨p, hm, rfl⟩)
  · intro hw
    obtain ⟨s, hs', rfl⟩ := List.mem_map.mp hw
    obtain ⟨p, hm, rfl⟩ := (hcp2 s).mpr hs'
    exact ⟨p, hm, rfl⟩

open MoPepGen.Translate MoPepGen.Graph in
/-- the same for a whole reading frame, as `Driver/G.lean` evaluates the checkpoints (all paths
from ALL successors of the frame root `d`): CP2's language predicate for the input graph gives
CP3's for the returned graph -/
theorem translate_cp3_of_cp2_frame (g : TGraphIn) (pg : PGraph) (h : translateGraph g = .ok pg)
    (hc : g.isCirc = false) (hnt : noTerminal g = true ∨ g.hasKnownOrf = false)
    (hic : innerCodons g = true) (hs : g.sect = []) (d : Nat) (hd : d ∈ g.frames)
    (t : TxIn) (vs : List Var) (f : Nat) (hts : t.sec = [])
    (hcp2 : ∀ s, (∃ o ∈ succs g.toGraph d, ∃ p, MaxPath g.toGraph o p ∧ pathSeq g.toGraph p = s) ↔
      s ∈ (tvgLang t vs f).map (·.1)) (w : List Char) :
    (∃ o ∈ succs g.toGraph d, ∃ q, MaxPath pg.toGraph (pix o) q ∧ stripEnd (pathSeq pg.toGraph q) = w) ↔
      w ∈ (protLang t vs f).map stripEnd := by
  rw [protLang_strip_of_sec_nil hts]
  have hL := fun o ho => translateGraph_language_of_sect_nil h hc hnt hic hs hd (o := o) ho w
  constructor
  · rintro ⟨o, ho, hq⟩
    obtain ⟨p, hm, rfl⟩ := (hL o ho).mp hq
    exact List.mem_map_of_mem ((hcp2 _).mp ⟨o, ho, p, hm, rfl⟩)
  · intro hw
    obtain ⟨s, hs', rfl⟩ := List.mem_map.mp hw
    obtain ⟨o, ho, p, hm, rfl⟩ := (hcp2 s).mpr hs'
    exact ⟨o, ho, (hL o ho).mpr ⟨p, hm, rfl⟩⟩

open MoPepGen.Translate MoPepGen.Graph in
/-- the Sec rule, exactly as `fix_selenocysteines` implements it (soundness): position `k` of the
protein of the node made from `n` is rewritten to `U` only if some matched location `l` of the node
points into the level-0 graph, is not empty in amino-acid coordinates, carries the frame
`s.start % 3` of an annotated Sec record `s`, and holds `s` inside its window of WHOLE codons
(`codonWindow`: the start / end offset guards); `k` is the node's codon at that reference
position.  The variants of the node do not enter: `secHits` reads `n.locs` and `g.sect` only. -/
theorem sec_hit_sound (g : TGraphIn) (n : DNode) (k : Nat) (h : k ∈ secHits g n) :
    ∃ l ∈ n.locs, ∃ s ∈ g.sect, l.lvl0 = true ∧ l.qRf = s.1 % 3 ∧ l.qStart / 3 ≠ ceilDiv3 l.qEnd ∧
      l.codonWindow.1 < l.codonWindow.2 ∧ l.codonWindow.1 ≤ (s.1 : Int) ∧ (s.2 : Int) ≤ l.codonWindow.2 ∧
      k = l.qStart / 3 + (Int.tdiv ((s.1 : Int) - l.codonStart) 3).toNat := by
  obtain ⟨loc, hloc, s, hs, ⟨h1, h2, h3, h4, h5, h6⟩, h7⟩ := mem_secLoopAux _ _ _ h
  obtain ⟨l, hl, rfl⟩ := List.mem_map.mp hloc
  rw [aaLoc_window] at h4 h5 h6
  rw [hitOf, aaLoc_refCodonStart] at h7
  exact ⟨l, hl, s, hs, h2, h3, fun hc => h1 (Nat.sub_eq_zero_of_le (Nat.le_of_eq hc.symm)), h4, h5, h6,
    h7⟩

open MoPepGen.Translate MoPepGen.Graph in
/-- a successful `mkNode` carries exactly these positions as `selenocysteines`, all of them inside
the node's protein -/
theorem sec_hits_recorded (g : TGraphIn) (n : DNode) (pn : PNode) (hc : g.isCirc = false)
    (h : mkNode g n = .ok pn) :
    pn.secs = secHits g n ∧ ∀ k ∈ secHits g n, k < (translate n.seq).length :=
  (mkNode_seq hc h).2

open MoPepGen.Translate MoPepGen.Graph in
/-- which nodes the final loop of `translate` cuts: `IsTerminal g ot k` says the annotated CDS
end `e ≠ 0` is found by `get_query_index` at the codon boundary `3 k > 0` of the level-0 node `ot`,
at least one codon before the node's end, the node's protein does not read `*` at `k`, and no
variant of the node covers the DNA index `3 k` in PROTEIN coordinates (`orf_end_query in
v.location`, as the code tests it) -/
theorem translate_terminal_site_spec (g : TGraphIn) (ot k : Nat) (h : IsTerminal g ot k) :
    ∃ dn pn e c, g.nodes[ot]? = some dn ∧ mkNode g dn = .ok pn ∧ orfEndOf g dn = some e ∧ e ≠ 0 ∧
      dn.level = 0 ∧ queryIndex dn.locs e = some (3 * k) ∧ 0 < k ∧ 3 * k + 3 ≤ dn.seq.length ∧
      pn.seq[k]? = some c ∧ c ≠ '*' ∧
      (pn.vars.any fun v => v.start ≤ 3 * k && 3 * k < v.stop) = false := by
  obtain ⟨dn, pn, h1, h2, h3⟩ := h
  obtain ⟨e, q, c, a1, a2, a3, a4, a5, a6, a7, a8, a9, a10⟩ := terminalSite_some h3
  subst a7
  exact ⟨dn, pn, e, c, h1, h2, a1, a2, a3, a4, Nat.pos_of_mul_pos_left a5, a6, a8, a9, a10⟩

open MoPepGen.Translate MoPepGen.Graph in
/-- the language of the returned graph WITH the fake stops (linear transcript, known ORF; no
condition on `terminal_nodes`): from the image of a frame's start node `o` the maximal paths of
the returned graph spell exactly
 (i) the node-wise translations (`protOf`) of the maximal paths of the input graph from `o`, and
 (ii) for every node `ot` the final loop cuts at `k` and every walk `p` of the input graph from
      `o` that reaches `ot`: the translations along `p`, the first `k` residues of `ot`, and `*`. -/
theorem translate_language_fake_stop (g : TGraphIn) (pg : PGraph) (h : translateGraph g = .ok pg)
    (hc : g.isCirc = false) (hko : g.hasKnownOrf = true) (d o : Nat) (hd : d ∈ g.frames)
    (ho : o ∈ succs g.toGraph d) (w : List Char) :
    (∃ q, MaxPath pg.toGraph (pix o) q ∧ pathSeq pg.toGraph q = w) ↔
      (∃ p, MaxPath g.toGraph o p ∧ w = p.flatMap (protOf g)) ∨
      (∃ ot k p, IsTerminal g ot k ∧ NWalk g.toGraph ot o p ∧
        w = p.flatMap (protOf g) ++ (protOf g ot).take k ++ ['*']) := by
  obtain ⟨st, hst, hn⟩ := translateGraph_ok h
  have hF := translateCore_final hst
  have hT := translateCore_termInv hst
  have hE := hF.embeds
  have hp := hF.start_present hd ho
  rw [PGraph.toGraph, hn, splitTerminals, if_pos hko, ← acc_iff,
    foldl_language st.terminal st.nodes hF.size2 hF.closedG (termsOk_of_final hF hT) (pix o)
      (presentAt_lt hp) w, acc_iff, hE.exists_maxPath_iff hp fun _ hm => hF.pathSeq_eq hc hm hp]
  refine or_congr_right ⟨?_, ?_⟩
  · rintro ⟨tk, htk, u, hu, rfl⟩
    obtain ⟨ot, dn, pn, h1, h2, h3, h4, h5⟩ := hT.sound tk htk
    obtain ⟨q, hq, rfl⟩ := (reach_iff_walk _ _ _ _).mp hu
    obtain ⟨p, hpw, rfl⟩ := hE.nwalk_of_map hq o ot rfl h1 hp
    refine ⟨ot, tk.2, p, ⟨dn, pn, h3, h4, h5⟩, hpw, ?_⟩
    rw [hF.mapSeq_eq hc p (hE.nwalk_map hpw hp).2.2, h1, hF.nodeSeq_eq hc h2]
  · rintro ⟨ot, k, p, ⟨dn, pn, h3, h4, h5⟩, hpw, rfl⟩
    obtain ⟨hwalk, hpot, hall⟩ := hE.nwalk_map hpw hp
    refine ⟨(pix ot, k), hT.complete ot dn pn k hpot h3 h4 h5, _,
      (reach_iff_walk _ _ _ _).mpr ⟨_, hwalk, rfl⟩, ?_⟩
    rw [hF.mapSeq_eq hc p hall, hF.nodeSeq_eq hc hpot]

open MoPepGen.Graph in
/-- what splitting a node does to a Layer G graph in general (`Expand`, `Lemmas/GraphExpand.lean`:
node `t` keeps the part `a` of its sequence, a new node gets the rest and the successors, a new
leaf `x` hangs on `t`): from every old node the language is the old one plus, for every walk
reaching `t`, the sequence up to `t` followed by `a ++ x`.  Used for
`translate_language_fake_stop`. -/
theorem expand_language (G G' : Graph) (t : Nat) (a b x : List Char) (h : Expand G G' t a b x)
    (j : Nat) (hj : j < G.size) (w : List Char) :
    Acc G' j w ↔ Acc G j w ∨ ∃ u, Reach G t j u ∧ w = u ++ a ++ x :=
  h.language hj w

open MoPepGen.Translate MoPepGen.Graph in
/-- the Sec rule, both directions, for the inputs the two-cursor loop is written for
(`SecSorted f`: the node's matched locations all usable and in one frame `f`, their whole-codon
windows ascending without overlap; the Sec records in frame `f`, non-empty, ascending without
overlap): the positions rewritten to `U` are EXACTLY the codons of the node that a matched
location maps onto an annotated Sec codon lying inside the location's whole-codon window.
(Without `SecSorted` only `sec_hit_sound` holds: the cursors may run past a pair.) -/
theorem sec_hits_exact_of_sorted (g : TGraphIn) (n : DNode) (f : Nat)
    (hS : SecSorted f (n.locs.map aaLoc) g.sect) (k : Nat) :
    k ∈ secHits g n ↔ ∃ l ∈ n.locs, ∃ s ∈ g.sect, l.codonWindow.1 ≤ (s.1 : Int) ∧
      (s.2 : Int) ≤ l.codonWindow.2 ∧
      k = l.qStart / 3 + (Int.tdiv ((s.1 : Int) - l.codonStart) 3).toNat := by
  constructor
  · intro h
    obtain ⟨l, hl, s, hs, _, _, _, _, h5, h6, h7⟩ := sec_hit_sound g n k h
    exact ⟨l, hl, s, hs, h5, h6, h7⟩
  · rintro ⟨l, hl, s, hs, h5, h6, rfl⟩
    rw [← aaLoc_window] at h5 h6
    have := secLoopAux_complete f _ _ g.sect (Nat.le_refl _) hS (aaLoc l) (List.mem_map_of_mem hl)
      s hs h5 h6
    rwa [hitOf, aaLoc_refCodonStart] at this

open MoPepGen.Translate in
/-- the fuel of the modelled `while queue` loop is no restriction: any larger amount than the one
`translateCore` hands to the search gives the same result -/
theorem translate_fuel_stable (g : TGraphIn) (k : Nat) :
    bfs g (g.nodes.size + g.frames.length + 1 + k) (initSt g) =
      bfs g (g.nodes.size + g.frames.length + 1) (initSt g) :=
  translateCore_fuel_stable g k

namespace TranslateNonVacuity
open MoPepGen.Translate MoPepGen.Graph

/-! non-vacuity: the graph the real `fit_into_codons` leaves for the transcript `ATGTGAGCCTAAGG`
(known ORF `[0, 9)`, the codon `TGA` at 3 annotated as Sec) with the SNV `C→T` at 7 — a dump of the
`G-translate-direct` stream.  Node 0 is the root, 1–3 the frame roots, 4 = `ATGTGA`, 7 / 8 the
reference / variant codon, 9 = `TAAGG`; 5 and 6 are the other two frames. -/
/-- example input (not part of any statement) -/
def tIn : TGraphIn :=
  { nodes := #[
      { seq := [], isNull := true, out := [(2, .reference), (3, .reference), (1, .reference)], rf := 3 },
      { seq := [], isNull := true, out := [(4, .reference)], rf := 0 },
      { seq := [], isNull := true, out := [(5, .reference)], rf := 1 },
      { seq := [], isNull := true, out := [(6, .reference)], rf := 2 },
      { seq := "ATGTGA".toList, out := [(7, .reference), (8, .variantStart)], rf := 0,
        locs := [{ qStart := 0, qEnd := 6, qRf := 0, rStart := 0, rEnd := 6 }] },
      { seq := "TGTGAGCCTAAGG".toList, out := [], rf := 1,
        locs := [{ qStart := 0, qEnd := 13, qRf := 1, rStart := 1, rEnd := 14 }] },
      { seq := "GTGAGCCTAAGG".toList, out := [], rf := 2,
        locs := [{ qStart := 0, qEnd := 12, qRf := 2, rStart := 2, rEnd := 14 }] },
      { seq := "GCC".toList, out := [(9, .reference)], rf := 0,
        locs := [{ qStart := 0, qEnd := 3, qRf := 0, rStart := 6, rEnd := 9 }] },
      { seq := "GTC".toList, out := [(9, .variantEnd)], rf := 0,
        vars := [{ ids := [0], start := 1, stop := 2 }],
        locs := [{ qStart := 0, qEnd := 1, qRf := 0, rStart := 6, rEnd := 7 },
                 { qStart := 2, qEnd := 3, qRf := 0, rStart := 8, rEnd := 9 }] },
      { seq := "TAAGG".toList, out := [], rf := 0,
        locs := [{ qStart := 0, qEnd := 5, qRf := 0, rStart := 9, rEnd := 14 }] }],
    frames := [1, 2, 3], hasKnownOrf := true, orf := some (0, 9), sect := [(3, 6)] }

/-- the hypotheses of the theorems above hold for it -/
example : linearInput tIn = true ∧ noTerminal tIn = true ∧ innerCodons tIn = true ∧
    secAscending tIn = true := by decide +kernel

/-- what `translateGraph` returns (as the real `translate` does): `MU` for node 4 — the annotated
`TGA` reads `U` —, `A` / `V` for the two codons, `*` for the last node, and the other two frames -/
example : ((translateGraph tIn).toOption.map fun pg =>
      (pg.nodes.toList.map fun n => (String.ofList n.seq, n.out, n.secs), pg.frames)) =
    some ([("", [8, 7, 6], []), ("*", [], []), ("", [], []), ("", [], []), ("", [], []), ("", [], []),
           ("MU", [9, 10], [1]), ("CEPK", [1], []), ("VSLR", [1], []), ("A", [11], []),
           ("V", [11], []), ("*", [1], [])], [some 6, some 7, some 8]) := by
  -- the kernel decodes a string literal byte by byte, again at every use: character lists first
  unfold tIn
  char_lists
  decide +kernel

/-- the two maximal paths of frame 0 of the input and the language theorem's right-hand side -/
example : paths tIn.toGraph 4 = [[4, 7, 9], [4, 8, 9]] ∧
    (([[4, 7, 9], [4, 8, 9]] : List (List Nat)).map fun p =>
      String.ofList (secRead (pathHits tIn p) 0 (translate (pathSeq tIn.toGraph p)) ++ endStar tIn p)) =
      ["MUA*", "MUV*"] := by decide +kernel

/-- … and the left-hand side: the paths of the returned graph from `pix 4` and their sequences -/
example : ((translateGraph tIn).toOption.map fun pg =>
      ((paths pg.toGraph (pix 4)), (paths pg.toGraph (pix 4)).map fun q => String.ofList (pathSeq pg.toGraph q))) =
    some ([[6, 9, 11], [6, 10, 11]], ["MUA*", "MUV*"]) := by
  unfold tIn
  char_lists
  decide +kernel

/-! non-vacuity of the fake stop: the transcript `ATGGCCAAACCCTAAGG` whose annotated CDS `[0, 6)` ends
on `AAA` (not a stop codon), with the SNV `C→T` at 10 — a dump of the `G-translate-direct` stream.
Node 4 = `ATGGCCAAA` holds the CDS end at codon 2: the real `translate` cuts it into `MA` and `K` and
hangs a fake `*` on `MA`. -/
/-- example input (not part of any statement) -/
def tIn2 : TGraphIn :=
  { nodes := #[
      { seq := [], isNull := true, out := [(2, .reference), (1, .reference), (3, .reference)], rf := 3 },
      { seq := [], isNull := true, out := [(4, .reference)], rf := 0 },
      { seq := [], isNull := true, out := [(5, .reference)], rf := 1 },
      { seq := [], isNull := true, out := [(6, .reference)], rf := 2 },
      { seq := "ATGGCCAAA".toList, out := [(7, .reference), (8, .variantStart)], rf := 0,
        locs := [{ qStart := 0, qEnd := 9, qRf := 0, rStart := 0, rEnd := 9 }] },
      { seq := "TGGCCAAACCCTAAGG".toList, out := [], rf := 1,
        locs := [{ qStart := 0, qEnd := 16, qRf := 1, rStart := 1, rEnd := 17 }] },
      { seq := "GGCCAAACCCTAAGG".toList, out := [], rf := 2,
        locs := [{ qStart := 0, qEnd := 15, qRf := 2, rStart := 2, rEnd := 17 }] },
      { seq := "CCC".toList, out := [(9, .reference)], rf := 0,
        locs := [{ qStart := 0, qEnd := 3, qRf := 0, rStart := 9, rEnd := 12 }] },
      { seq := "CTC".toList, out := [(9, .variantEnd)], rf := 0,
        vars := [{ ids := [0], start := 1, stop := 2 }],
        locs := [{ qStart := 0, qEnd := 1, qRf := 0, rStart := 9, rEnd := 10 },
                 { qStart := 2, qEnd := 3, qRf := 0, rStart := 11, rEnd := 12 }] },
      { seq := "TAAGG".toList, out := [], rf := 0,
        locs := [{ qStart := 0, qEnd := 5, qRf := 0, rStart := 12, rEnd := 17 }] }],
    frames := [1, 2, 3], hasKnownOrf := true, orf := some (0, 6) }

example : linearInput tIn2 = true ∧ noTerminal tIn2 = false := by decide +kernel

/-- node 4 is cut at codon 2 (`IsTerminal tIn2 4 2`), the walk `[]` reaches it from itself -/
example : IsTerminal tIn2 4 2 ∧ NWalk tIn2.toGraph 4 4 [] :=
  ⟨⟨_, _, rfl, rfl, by rfl⟩, NWalk.here (by decide +kernel)⟩

/-- the returned graph: node 6 = `MA` with successors 12 (`K`, which took over the successors
9, 10) and 13 (the fake `*`); its language from `pix 4` = the two translations and the truncated
protein `MA*` of clause (ii) -/
example : ((translateGraph tIn2).toOption.map fun pg =>
      ((pg.nodes.toList.map fun n => (String.ofList n.seq, n.out)),
       (paths pg.toGraph (pix 4)).map fun q => String.ofList (pathSeq pg.toGraph q))) =
    some ([("", [8, 7, 6]), ("*", []), ("", []), ("", []), ("", []), ("", []), ("MA", [12, 13]),
           ("WPNPK", [1]), ("GQTLR", [1]), ("P", [11]), ("L", [11]), ("*", [1]), ("K", [9, 10]),
           ("*", [])], ["MAKP*", "MAKL*", "MA*"]) := by
  unfold tIn2
  char_lists
  decide +kernel

example : (([[4, 7, 9], [4, 8, 9]] : List (List Nat)).map fun p => String.ofList (p.flatMap (protOf tIn2))) =
      ["MAKP*", "MAKL*"] ∧
    String.ofList (([] : List Nat).flatMap (protOf tIn2) ++ (protOf tIn2 4).take 2 ++ ['*']) = "MA*" := by
  decide +kernel

/-- an `Expand` instance: the Layer G graphs before and after the final loop of this example -/
example : ((translateCore tIn2).toOption.map fun st => (st.terminal, (nodesGraph st.nodes).size)) =
    some ([(6, 2)], 12) := by
  unfold tIn2
  char_lists
  decide +kernel

/-- `SecSorted` holds for node 4 of the first example (one location, one Sec record, frame 0),
and the exact rule gives its single hit: codon 1 -/
example : SecSorted 0 ((tIn.nodes[4]?.map (·.locs)).getD [] |>.map aaLoc) tIn.sect :=
  ⟨by decide +kernel, by decide +kernel, by decide +kernel, by decide +kernel⟩

example : (tIn.nodes[4]?.map (secHits tIn)) = some [1] := by decide +kernel

/-! non-vacuity of `expand_language`: a one-node graph `AB` cut behind `A` -/
/-- example graphs (not part of any statement): one node `AB`, cut behind `A` -/
def exG : Graph := #[{ seq := ['A', 'B'], vars := [], out := [] }]
def exG' : Graph := #[{ seq := ['A'], vars := [], out := [1, 2] }, { seq := ['B'], vars := [], out := [] },
  { seq := ['*'], vars := [], out := [] }]

example : Expand exG exG' 0 ['A'] ['B'] ['*'] := by
  refine ⟨by decide, by decide, ?_, ?_, ?_, by decide, by decide, by decide, by decide, by decide,
    by decide, by decide⟩
  · intro i o ho
    match i, ho with
    | 0, ho => nomatch ho
    | k + 1, ho => nomatch ho
  · exact fun i hi hne => absurd (Nat.lt_one_iff.mp hi) hne
  · exact fun i hi hne => absurd (Nat.lt_one_iff.mp hi) hne

example : Acc exG' 0 ['A', 'B'] ∧ Acc exG' 0 ['A', '*'] ∧ Reach exG 0 0 [] :=
  ⟨Acc.step (by decide) (by decide : 1 ∈ succs exG' 0) (Acc.leaf (by decide) (by decide)),
   Acc.step (by decide) (by decide : 2 ∈ succs exG' 0) (Acc.leaf (by decide) (by decide)),
   Reach.here (by decide)⟩

/-! non-vacuity of `translate_cp3_of_cp2(_frame)`: the first example without the Sec annotation
(`sect = []`) IS the graph of the transcript `ATGTGAGCCTAAGG` with the SNV `C→T` at 7 (id 0): the
DNA language of frame 0 from the frame root 1 is `tvgLang` (CP2's predicate), every node with a
successor is whole codons, and the protein language of the returned graph is `protLang` (CP3's) -/
/-- example input (not part of any statement) -/
def tIn0 : TGraphIn := { tIn with sect := [] }
def tTx : TxIn :=
  { seq := "ATGTGAGCCTAAGG".toList, coding := true, orfStart := 0, orfEnd := 9,
    startNF := false, endNF := false, sec := [] }
def tSnv : Var := { start := 7, stop := 8, ref := ['C'], alt := ['T'], cls := .snv, ids := [0] }

example : linearInput tIn0 = true ∧ noTerminal tIn0 = true ∧ innerCodons tIn0 = true ∧ tIn0.sect = [] ∧
    tTx.sec = [] := by decide +kernel

example : ((succs tIn0.toGraph 1).flatMap fun o => (paths tIn0.toGraph o).map fun p =>
      String.ofList (pathSeq tIn0.toGraph p)) = ["ATGTGAGCCTAAGG", "ATGTGAGTCTAAGG"] ∧
    ((tvgLang tTx [tSnv] 0).map fun x => String.ofList x.1) = ["ATGTGAGCCTAAGG", "ATGTGAGTCTAAGG"] := by
  unfold tIn0 tIn tTx
  char_lists
  decide +kernel

example : ((translateGraph tIn0).toOption.map fun pg =>
      (paths pg.toGraph (pix 4)).map fun q => String.ofList (stripEnd (pathSeq pg.toGraph q))) =
      some ["M*A", "M*V"] ∧
    ((protLang tTx [tSnv] 0).map fun w => String.ofList (stripEnd w)) = ["M*A", "M*V"] := by
  unfold tIn0 tIn tTx
  char_lists
  decide +kernel

end TranslateNonVacuity

end MoPepGen.Props.C01
