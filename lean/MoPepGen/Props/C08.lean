import MoPepGen.Lemmas.Spec
/-!
# C08 — callNovelORF = definitional ORF digest  (PARTIAL: equality with the real traversal is
decided per input by `harness/c08.py`)

Proved: the oracle `Spec.novelOrfPeptides` is the statement of the property (every ATG in
three frames to the next stop or the transcript end, digest, Met-removed twin, W→F forms when
requested, limits, minus the canonical pool); and the transcript-selection rule.
-/
namespace MoPepGen.Props.C08
open MoPepGen MoPepGen.Spec

/-- S: `p` is a plain (no Sec termination, no W→F) product form of the translation from some
`ATG` to the next stop or the end of the transcript, within the limits -/
def PlainOrfProduct (g : Cfg) (seq : List Char) (p : Pep) : Prop :=
  ∃ s ∈ startCodons seq,
    p ∈ productForms { g with sect := false, w2f := false } (proteinFrom seq [] s).1 false
          (proteinFrom seq [] s).2 false

/-- S, declarative: `p` is reported iff it is a non-canonical plain ORF product, or (with W→F)
a valid, non-canonical W→F image of a non-canonical plain ORF product. -/
theorem novelOrf_spec (g : Cfg) (seq : List Char) (p : Pep) :
    p ∈ novelOrfPeptides g seq ↔
      (PlainOrfProduct g seq p ∧ p ∉ g.canonical) ∨
      (g.w2f = true ∧ pepOk g.cleave p = true ∧ p ∉ g.canonical ∧
        ∃ b, PlainOrfProduct g seq b ∧ b ∉ g.canonical ∧ p ∈ w2fImages b) := by
  simp only [novelOrfPeptides]
  generalize hP : (peptidesOf _ _ seq [] false).filter _ = plain
  have hpl : ∀ q, q ∈ plain ↔ PlainOrfProduct g seq q ∧ q ∉ g.canonical := by
    intro q
    rw [← hP, List.mem_filter, Bool.not_eq_true', List.contains_eq_mem, decide_eq_false_iff_not]
    -- the transcript is read as non-coding without a limit: its reading frames are `startCodons`
    exact and_congr_left' mem_peptidesOf
  rw [mem_ite_append, hpl, List.mem_filter, List.mem_flatMap]
  simp only [hpl, Bool.and_eq_true, Bool.not_eq_true', List.contains_eq_mem,
    decide_eq_false_iff_not]
  refine or_congr_right (and_congr_right fun _ => ?_)
  constructor
  · rintro ⟨⟨b, ⟨hb1, hb2⟩, hp⟩, hok, hc⟩
    exact ⟨hok, hc, b, hb1, hb2, hp⟩
  · rintro ⟨hok, hc, b, hb1, hb2, hp⟩
    exact ⟨⟨b, ⟨hb1, hb2⟩, hp⟩, hok, hc⟩

/-- a start codon is exactly an `ATG` inside the transcript -/
theorem mem_startCodons (seq : List Char) (i : Nat) :
    i ∈ startCodons seq ↔
      i < seq.length ∧ seq[i]? = some 'A' ∧ seq[i+1]? = some 'T' ∧ seq[i+2]? = some 'G' := by
  simp only [startCodons, List.mem_filter, List.mem_range, Bool.and_eq_true, beq_iff_eq, and_assoc]

/-- nothing canonical is reported, everything reported is within the limits -/
theorem novelOrf_hygiene (g : Cfg) (seq : List Char) (p : Pep) (h : p ∈ novelOrfPeptides g seq) :
    p ∉ g.canonical ∧ pepOk g.cleave p = true := by
  rcases (novelOrf_spec g seq p).mp h with ⟨⟨s, _, hp⟩, hc⟩ | ⟨_, hok, hc, _⟩
  · exact ⟨hc, pepOk_of_mem_productForms (g := { g with sect := false, w2f := false }) hp⟩
  · exact ⟨hc, hok⟩

/-- enabling W→F only adds peptides -/
theorem novelOrf_mono_w2f (g : Cfg) (seq : List Char) (p : Pep)
    (h : p ∈ novelOrfPeptides { g with w2f := false } seq) :
    p ∈ novelOrfPeptides { g with w2f := true } seq := by
  rw [novelOrf_spec] at h ⊢
  rcases h with h | ⟨hw, _⟩
  · exact Or.inl h
  · cases hw

/-! ### transcript selection (the loop of `call_novel_orf_peptide`, `cli/call_novel_orf.py`, as
repaired by commit 703809a: a coding transcript without `--coding-novel-orf` hit `pass` where
`continue` was meant) -/

structure TxMeta where
  coding : Bool
  biotype : String
  inProteome : Bool
  len : Nat

structure SelOpts where
  codingNovelOrf : Bool
  inclusion : List String
  exclusion : List String
  minTxLength : Nat

/-- M: the selection loop -/
def selected (o : SelOpts) (m : TxMeta) : Bool :=
  if m.coding then o.codingNovelOrf
  else
    if !o.inclusion.isEmpty && !o.inclusion.contains m.biotype then false
    else if !o.exclusion.isEmpty && o.exclusion.contains m.biotype then false
    else if m.inProteome then false
    else if m.len < o.minTxLength then false
    else true

/-- coding transcripts are processed only with `--coding-novel-orf`; a non-coding transcript
iff it passes the biotype inclusion/exclusion lists, is not in the proteome and is long enough -/
theorem select_spec (o : SelOpts) (m : TxMeta) :
    selected o m = true ↔
      (m.coding = true ∧ o.codingNovelOrf = true) ∨
      (m.coding = false ∧ (o.inclusion = [] ∨ m.biotype ∈ o.inclusion) ∧
        (o.exclusion = [] ∨ m.biotype ∉ o.exclusion) ∧ m.inProteome = false ∧
        o.minTxLength ≤ m.len) := by
  unfold selected
  cases m.coding with
  | true => simp only [if_true, true_and, Bool.true_eq_false, false_and, or_false]
  | false =>
    -- every test of the loop is one conjunct: `if c then false else e` is `!c && e`
    simp only [Bool.false_eq_true, if_false, false_and, false_or, true_and, Bool.if_false_left,
      Bool.and_true, Bool.and_eq_true, Bool.not_eq_true', List.isEmpty_eq_false_iff,
      List.contains_eq_mem, decide_eq_false_iff_not, decide_eq_true_eq,
      Decidable.not_and_iff_not_or_not, Decidable.not_not, ne_eq, Bool.not_eq_true, Nat.not_lt]

example : selected ⟨false, [], ["IG_V_gene"], 21⟩ ⟨true, "protein_coding", true, 900⟩ = false := by
  decide
example : selected ⟨false, [], ["IG_V_gene"], 21⟩ ⟨false, "lncRNA", false, 900⟩ = true := by
  decide +kernel

end MoPepGen.Props.C08
