import MoPepGen.Lemmas.FusionParse
import MoPepGen.Lemmas.FusionCall
/-!
# C15 — fusion parsers yield the fusion transcript defined by the breakpoints

Property theorems and the predicates they are stated with.  Layer M (`Model/Fusion.lean`) models
the three `convert_to_variant_records`, `get_transcripts_with_position`, the three command loops,
`shift_breakpoint_to_closest_exon`, `to_transcript_variant` (fusion branch) and the documented
reading of a Fusion record; Layer S (`Model/FusionSpec.lean`) is `fusedSeq`, stated on the
chromosome only.  All theorems hold for arbitrary annotations (any number of genes, isoforms,
exons), both strands on either side (hence all four strand combinations), exonic and intronic
breakpoints.  Hypotheses are the decidable predicates `GeneOK` (built from `Transcript.WF`,
`Transcript.Within`, "transcript line = hull of its exons", gene on the chromosome).

The last clause of the property ("callVariant's fusion peptides are digestion products of that
sequence") is stated on the definitional layer at the end of the file (`callvariant_clause`,
`callvariant_clause_fused`): without small records `Spec.callBackbone` is exactly the peptide
forms of the backbone itself minus the donor's own products and the canonical pool.  That the
real `callVariant`, run on the GVF the real parser wrote, reports exactly that set for the
backbone `fusedSeq` is compared per generated input by the `callvariant` stream of
`harness/c15.py` (the graph algorithm is not modelled: validated, not proved).
-/
namespace MoPepGen.Props.C15
open MoPepGen MoPepGen.Fusion MoPepGen.FusionSpec

/-! ## well-formedness -/

/-- every transcript of the gene that has exons is well formed, lies inside the gene on the
gene's strand, its `transcript` line spans exactly its exons, and the gene lies on the
chromosome `chrom` -/
def GeneOK (chrom : List Char) (g : GeneEntry) : Prop :=
  ∀ t ∈ g.txs, t.tx.exons ≠ [] →
    TxOK chrom g.gene t.tx ∧ t.loc = ⟨t.tx.spanStart, t.tx.spanStop⟩

instance (chrom : List Char) (g : GeneEntry) : Decidable (GeneOK chrom g) := by
  unfold GeneOK; infer_instance

/-! ## non-vacuity: a two-gene annotation, donor on `+`, acceptor on `-`, two isoforms -/

def exChrom : List Char := "AACCGGTTACGTACGTTTGACCA".toList

/-- a string literal is `String.ofList` of its characters; the examples rewrite `toList` of a
literal to the character list before they evaluate, since evaluation would go through the UTF-8
encoding -/
theorem exChrom_eq : exChrom =
    ['A', 'A', 'C', 'C', 'G', 'G', 'T', 'T', 'A', 'C', 'G', 'T', 'A', 'C', 'G', 'T', 'T', 'T', 'G',
      'A', 'C', 'C', 'A'] :=
  String.toList_ofList

def exD : GeneEntry :=
  { id := "G1.1", name := "N1", chrom := "chr1", gene := ⟨.plus, ⟨0, 14⟩⟩,
    txs := [⟨"T1", ⟨2, 12⟩, ⟨.plus, [⟨2, 5⟩, ⟨8, 12⟩]⟩⟩, ⟨"T1b", ⟨8, 13⟩, ⟨.plus, [⟨8, 13⟩]⟩⟩] }
def exA : GeneEntry :=
  { id := "G2.1", name := "N2", chrom := "chr1", gene := ⟨.minus, ⟨0, 15⟩⟩,
    txs := [⟨"T2", ⟨1, 13⟩, ⟨.minus, [⟨1, 4⟩, ⟨9, 13⟩]⟩⟩] }
def exAnno : Anno := ⟨false, [exD, exA]⟩
def exGenome : Genome := [("chr1", exChrom)]
def exStar : StarRow := ⟨500, "G1.1", "chr1", 7, "G2.1", "chr1", 11⟩

example : GeneOK exChrom exD := by
  rw [exChrom_eq]
  decide +kernel
example : GeneOK exChrom exA := by
  rw [exChrom_eq]
  decide +kernel
/-- intronic left breakpoint (1-based 7), exonic right breakpoint on the minus strand -/
example : (convertStar exAnno exGenome exStar).map (·.map fun r => (r.donorTx, r.start, r.accTx, r.accPos))
    = .ok [("T1", 7, "T2", 4)] := by
  rw [exGenome, exChrom_eq]
  decide +kernel
example : gvfFusionSeq exChrom exD.gene ⟨.plus, [⟨2, 5⟩, ⟨8, 12⟩]⟩ exChrom exA.gene
    ⟨.minus, [⟨1, 4⟩, ⟨9, 13⟩]⟩ 7 4 = .ok "CCGGTCGGGT".toList := by
  rw [exChrom_eq, String.toList_ofList]
  decide +kernel
example : fusedSeq exChrom ⟨.plus, [⟨2, 5⟩, ⟨8, 12⟩]⟩ 6 exChrom ⟨.minus, [⟨1, 4⟩, ⟨9, 13⟩]⟩ 10
    = "CCGGTCGGGT".toList := by
  rw [exChrom_eq, String.toList_ofList]
  decide +kernel
/-- a breakpoint inside both isoforms gives both donor transcripts -/
example : (convertStar exAnno exGenome { exStar with left := 10 }).map (·.map (·.donorTx))
    = .ok ["T1", "T1b"] := by
  rw [exGenome, exChrom_eq]
  decide +kernel

/-! ## the records of a converter, whichever the tool -/

/-- every record names a donor and an acceptor transcript of the two genes, and its reading is
the fusion transcript of the two breakpoints -/
theorem emitted_denotes {dg ag : GeneEntry} {gd ga dc ac : String} {left right : Nat}
    {rs : List FusionRec} (he : Emitted dg ag gd ga dc ac left right rs) {r : FusionRec}
    (hr : r ∈ rs) :
    ∃ d a, d ∈ dg.txs ∧ a ∈ ag.txs ∧ r.gene = gd ∧ r.donorTx = d.id ∧ r.accGene = ga ∧
      r.accTx = a.id ∧
      ∀ chromD chromA, GeneOK chromD dg → GeneOK chromA ag →
        gvfFusionSeq chromD dg.gene d.tx chromA ag.gene a.tx r.start r.accPos =
          .ok (fusedSeq chromD d.tx (left - 1) chromA a.tx (right - 1)) := by
  obtain ⟨d0, apos, ref, hl, hr', rfl⟩ := he
  obtain ⟨d, hd, a, ha, hg, hs, hdt, hag, hat, hap⟩ := mem_mkRecords hr
  obtain ⟨hdm, hdne, hdl⟩ := mem_txsWithPosition.mp hd
  obtain ⟨ham, hane, hal⟩ := mem_txsWithPosition.mp ha
  refine ⟨d, a, hdm, ham, hg, hdt, hag, hat, fun chromD chromA hD hA => ?_⟩
  obtain ⟨okD, locD⟩ := hD d hdm hdne
  obtain ⟨okA, locA⟩ := hA a ham hane
  rw [locD] at hdl
  rw [locA] at hal
  rw [hs, hap]
  exact reading_denotes okD okA hdl hal (bpToGene_ok hl).2 (bpToGene_ok hr').2

/-- the eligibility rule of the code: transcripts of the gene with at least one exon whose
`transcript` line contains the breakpoint base (exonic or intronic) -/
def eligible (g : GeneEntry) (bp : Nat) : List TxEntry :=
  g.txs.filter fun t => !t.tx.exons.isEmpty && decide (t.loc.start ≤ bp - 1 ∧ bp - 1 < t.loc.stop)

theorem eligible_eq (g : GeneEntry) (bp : Nat) : txsWithPosition g (bp - 1) = eligible g bp := by
  unfold txsWithPosition eligible
  congr 1
  funext t
  simp [Iv.contains]

theorem emitted_pairs {dg ag : GeneEntry} {gd ga dc ac : String} {left right : Nat}
    {rs : List FusionRec} (he : Emitted dg ag gd ga dc ac left right rs) :
    rs.map (fun r => (r.donorTx, r.accTx)) =
      (eligible dg left).flatMap fun d => (eligible ag right).map fun a => (d.id, a.id) := by
  obtain ⟨d0, apos, ref, _, _, rfl⟩ := he
  rw [mkRecords_pairs, eligible_eq, eligible_eq]

/-! ### open finding `c15-ref-base-read-past-chromosome-end`

The theorems below are conditional on the converter returning records.  It does NOT always do
so for a valid fusion: the REF base is read one (STAR-Fusion, `+`) or two (`-`) positions off,
which runs past the chromosome when the donor breakpoint is its last (or, STAR-Fusion `+`,
second to last) base; on `+` the other two tools read it at the right index, which does not
exist when the breakpoint is the last base. -/

def kfGenome : Genome :=
  [("chr1", "ACGTACGTACGTACGTACGT".toList), ("chr2", "ACGTACGTACGTACGTACGT".toList)]
def kfAnno : Anno := ⟨false,
  [⟨"GB.1", "GB", "chr2", ⟨.plus, ⟨2, 20⟩⟩, [⟨"TB.1", ⟨2, 20⟩, ⟨.plus, [⟨2, 20⟩]⟩⟩]⟩,
   ⟨"GA.1", "GA", "chr1", ⟨.minus, ⟨2, 20⟩⟩, [⟨"TA.1", ⟨2, 20⟩, ⟨.minus, [⟨2, 20⟩]⟩⟩]⟩]⟩
example : convertStar kfAnno kfGenome ⟨1000, "GB.1", "chr2", 19, "GA.1", "chr1", 5⟩
    = .error .index := by
  rw [kfGenome, String.toList_ofList]
  decide +kernel
example : convertArriba kfAnno kfGenome ⟨"GB.1", "GA.1", some .plus, some .minus, 20, 5, 9, 9, .high⟩
    = .error .index := by
  rw [kfGenome, String.toList_ofList]
  decide +kernel
example : convertStar kfAnno kfGenome ⟨1000, "GA.1", "chr1", 20, "GB.1", "chr2", 5⟩
    = .error .value := by
  rw [kfGenome, String.toList_ofList]
  decide +kernel
example : (convertStar kfAnno kfGenome ⟨1000, "GB.1", "chr2", 18, "GA.1", "chr1", 5⟩).map
    (·.length) = .ok 1 := by
  rw [kfGenome, String.toList_ofList]
  decide +kernel

/-! ## `fusion_record_denotes` — one theorem per tool

`r ∈ convert_tool row → gvfFusionSeq r = fusedSeq donorTx (left-1) acceptorTx (right-1)`:
every emitted record names a donor transcript `d` of the left gene and an acceptor transcript
`a` of the right gene and, on chromosomes for which both genes are `GeneOK`, read by the
documented GVF semantics, denotes exactly the donor transcript up to and including the left
breakpoint base (plus retained intron) followed by the acceptor transcript from the right
breakpoint base (preceded by retained intron).  Strands are arbitrary on both sides. -/

theorem fusion_record_denotes_star (anno : Anno) (genome : Genome) (row : StarRow)
    (rs : List FusionRec) (h : convertStar anno genome row = .ok rs) (r : FusionRec) (hr : r ∈ rs) :
    ∃ dg ag d a, anno.find row.leftGene = some dg ∧ anno.find row.rightGene = some ag ∧
      d ∈ dg.txs ∧ a ∈ ag.txs ∧ r.gene = row.leftGene ∧ r.donorTx = d.id ∧
      r.accGene = row.rightGene ∧ r.accTx = a.id ∧
      ∀ chromD chromA, GeneOK chromD dg → GeneOK chromA ag →
        gvfFusionSeq chromD dg.gene d.tx chromA ag.gene a.tx r.start r.accPos =
          .ok (fusedSeq chromD d.tx (row.left - 1) chromA a.tx (row.right - 1)) := by
  obtain ⟨dg, ag, hdg, hag, he⟩ := convertStar_ok h
  obtain ⟨d, a, hda⟩ := emitted_denotes he hr
  exact ⟨dg, ag, d, a, hdg, hag, hda⟩

theorem fusion_record_denotes_arriba (anno : Anno) (genome : Genome) (row : ArribaRow)
    (rs : List FusionRec) (h : convertArriba anno genome row = .ok rs) (r : FusionRec)
    (hr : r ∈ rs) :
    ∃ dg ag d a, anno.find row.geneId1 = some dg ∧ anno.find row.geneId2 = some ag ∧
      d ∈ dg.txs ∧ a ∈ ag.txs ∧ r.gene = row.geneId1 ∧ r.donorTx = d.id ∧
      r.accGene = row.geneId2 ∧ r.accTx = a.id ∧
      ∀ chromD chromA, GeneOK chromD dg → GeneOK chromA ag →
        gvfFusionSeq chromD dg.gene d.tx chromA ag.gene a.tx r.start r.accPos =
          .ok (fusedSeq chromD d.tx (row.bp1 - 1) chromA a.tx (row.bp2 - 1)) := by
  obtain ⟨dg, ag, hdg, hag, he⟩ := convertArriba_ok h
  obtain ⟨d, a, hda⟩ := emitted_denotes he hr
  exact ⟨dg, ag, d, a, hdg, hag, hda⟩

theorem fusion_record_denotes_fc (anno : Anno) (genome : Genome) (row : FcRow)
    (rs : List FusionRec) (h : convertFc anno genome row = .ok rs) (r : FusionRec) (hr : r ∈ rs) :
    ∃ dg ag d a, fcGenes anno row = .ok (dg, ag) ∧
      d ∈ dg.txs ∧ a ∈ ag.txs ∧ r.gene = dg.id ∧ r.donorTx = d.id ∧
      r.accGene = ag.id ∧ r.accTx = a.id ∧
      ∀ chromD chromA, GeneOK chromD dg → GeneOK chromA ag →
        gvfFusionSeq chromD dg.gene d.tx chromA ag.gene a.tx r.start r.accPos =
          .ok (fusedSeq chromD d.tx (row.left - 1) chromA a.tx (row.right - 1)) := by
  obtain ⟨dg, ag, hg, he⟩ := convertFc_ok h
  obtain ⟨d, a, hda⟩ := emitted_denotes he hr
  exact ⟨dg, ag, d, a, hg, hda⟩

/-! ## `fusion_pairs_exact`

The (donor transcript, acceptor transcript) pairs of the emitted records are exactly
`eligible leftGene left × eligible rightGene right`, in product order, each pair once per
occurrence in the gene's transcript list. -/

theorem fusion_pairs_exact_star (anno : Anno) (genome : Genome) (row : StarRow)
    (rs : List FusionRec) (h : convertStar anno genome row = .ok rs) :
    ∃ dg ag, anno.find row.leftGene = some dg ∧ anno.find row.rightGene = some ag ∧
      rs.map (fun r => (r.donorTx, r.accTx)) =
        (eligible dg row.left).flatMap fun d => (eligible ag row.right).map fun a => (d.id, a.id) := by
  obtain ⟨dg, ag, hdg, hag, he⟩ := convertStar_ok h
  exact ⟨dg, ag, hdg, hag, emitted_pairs he⟩

theorem fusion_pairs_exact_arriba (anno : Anno) (genome : Genome) (row : ArribaRow)
    (rs : List FusionRec) (h : convertArriba anno genome row = .ok rs) :
    ∃ dg ag, anno.find row.geneId1 = some dg ∧ anno.find row.geneId2 = some ag ∧
      rs.map (fun r => (r.donorTx, r.accTx)) =
        (eligible dg row.bp1).flatMap fun d => (eligible ag row.bp2).map fun a => (d.id, a.id) := by
  obtain ⟨dg, ag, hdg, hag, he⟩ := convertArriba_ok h
  exact ⟨dg, ag, hdg, hag, emitted_pairs he⟩

theorem fusion_pairs_exact_fc (anno : Anno) (genome : Genome) (row : FcRow)
    (rs : List FusionRec) (h : convertFc anno genome row = .ok rs) :
    ∃ dg ag, fcGenes anno row = .ok (dg, ag) ∧
      rs.map (fun r => (r.donorTx, r.accTx)) =
        (eligible dg row.left).flatMap fun d => (eligible ag row.right).map fun a => (d.id, a.id) := by
  obtain ⟨dg, ag, hg, he⟩ := convertFc_ok h
  exact ⟨dg, ag, hg, emitted_pairs he⟩

/-- `ArribaConfidence`: the comparison used by `is_valid` (`self.confidence >= ArribaConfidence(c)`)
goes through two inversions — `__ge__` is missing, so Python evaluates the reflected
`other.__le__(self)`, which is written as `== or >`, and `>` (missing too) is the reflected
`__lt__`, which is written with `>` on the integer levels — and therefore IS the intended order
`low < medium < high`. -/
theorem arriba_confidence_ge_is_intended (a b : Conf) :
    Conf.pyGe a b = decide (a.toInt ≥ b.toInt) := by
  cases a <;> cases b <;> rfl

/-- the operators that go through ONE inversion only are inverted: `a < b` and `a > b` on
`ArribaConfidence` objects answer the opposite question.  `a <= b` (`__le__`, written as
`== or >`, with `>` the reflected `__lt__`) goes through two and is the intended `≤`.  None of
them is used by the parser. -/
theorem arriba_confidence_other_operators (a b : Conf) :
    Conf.pyLt a b = decide (a.toInt > b.toInt) ∧ Conf.pyGt a b = decide (a.toInt < b.toInt) ∧
      Conf.pyLe a b = decide (a.toInt ≤ b.toInt) := by
  cases a <;> cases b <;> exact ⟨rfl, rfl, rfl⟩

example : Conf.pyLt .high .low = true := by decide

/-- STAR-Fusion: a row is dropped for insufficient evidence iff `est_J < --min-est-j` -/
theorem fusion_thresholds_star (minEstJ : Nat) (r : StarRow) :
    (starPre minEstJ r = .insufficient ↔ r.estJ < minEstJ) ∧
    (starPre minEstJ r = .go ↔ minEstJ ≤ r.estJ) := by
  unfold starPre
  by_cases h : r.estJ < minEstJ
  · rw [if_pos h]
    simp
    omega
  · rw [if_neg h]
    simp
    omega

/-- Arriba (both genes known): a row is dropped for insufficient evidence iff
`split_reads1 < min1` or `split_reads2 < min2` or its confidence is below `--min-confidence` in
the order `low < medium < high` -/
theorem fusion_thresholds_arriba (anno : Anno) (min1 min2 : Nat) (minConf : Conf) (r : ArribaRow)
    (g1 g2 : GeneEntry) (h1 : anno.find r.geneId1 = some g1) (h2 : anno.find r.geneId2 = some g2) :
    (arribaPre anno min1 min2 minConf r = .insufficient ↔
      ¬ (min1 ≤ r.split1 ∧ min2 ≤ r.split2 ∧ minConf.toInt ≤ r.conf.toInt)) := by
  have hv : r.isValid min1 min2 minConf = true ↔
      min1 ≤ r.split1 ∧ min2 ≤ r.split2 ∧ minConf.toInt ≤ r.conf.toInt := by
    simp only [ArribaRow.isValid, arriba_confidence_ge_is_intended, Bool.and_eq_true,
      decide_eq_true_eq, ge_iff_le, and_assoc]
  rw [← hv, arribaPre, h1, h2]
  cases r.isValid min1 min2 minConf
  · simp
  · simp only [Bool.not_true, Bool.false_eq_true, if_false, not_true_eq_false, iff_false]
    split <;> simp

/-- FusionCatcher: a row is dropped iff `common_mapping_reads > --max-common-mapping` or
`spanning_unique_reads < --min-spanning-unique` -/
theorem fusion_thresholds_fc (maxCommon minSpanUnique : Nat) (r : FcRow) :
    (fcPre maxCommon minSpanUnique r = .insufficient ↔
      (r.common > maxCommon ∨ r.spanUnique < minSpanUnique)) := by
  unfold fcPre
  by_cases h : r.common > maxCommon ∨ r.spanUnique < minSpanUnique
  · rw [if_pos h]
    simp [h]
  · rw [if_neg h]
    simp [h]

/-- a row below the thresholds contributes no record and is counted as insufficient evidence,
whatever `--skip-failed` says -/
theorem fusion_thresholds_row_skipped {Row : Type} (pre : Row → Pre)
    (conv : Row → Except FusErr (List FusionRec)) (skip : Bool) (r : Row)
    (h : pre r = .insufficient) :
    rowRecs pre conv r = [] ∧ rowClass pre conv skip r = .insufficient := by
  simp [rowRecs, rowClass, h]

theorem star_unknown_left (anno : Anno) (genome : Genome) (r : StarRow)
    (h : anno.find r.leftGene = none) : convertStar anno genome r = .error .geneNotFound := by
  simp [convertStar, h]

/-- the right gene is looked up AFTER the left breakpoint has been converted -/
theorem star_unknown_right (anno : Anno) (genome : Genome) (r : StarRow) (dg : GeneEntry) (d0 : Nat)
    (hl : anno.find r.leftGene = some dg) (hb : bpToGene dg r.left = .ok d0)
    (h : anno.find r.rightGene = none) : convertStar anno genome r = .error .geneNotFound := by
  simp [convertStar, hl, hb, h]

/-- … so a STAR-Fusion row naming an unknown right gene whose left breakpoint lies outside the
left gene raises `ValueError` instead (run aborts without `--skip-failed`, row counted as
"invalid position" with it) -/
example : convertStar exAnno exGenome { exStar with left := 20, rightGene := "NOPE" }
    = .error .value := by
  decide +kernel

theorem arriba_unknown (anno : Anno) (min1 min2 : Nat) (minConf : Conf) (r : ArribaRow)
    (h : anno.find r.geneId1 = none ∨ anno.find r.geneId2 = none) :
    arribaPre anno min1 min2 minConf r = .invalidGene := by
  unfold arribaPre
  rcases h with h | h
  · rw [h]
  · rw [h]
    cases anno.find r.geneId1 <;> rfl

theorem fc_unknown (anno : Anno) (genome : Genome) (r : FcRow)
    (h : fcGenes anno r = .error .geneNotFound) : convertFc anno genome r = .error .geneNotFound := by
  simp [convertFc, h]

/-- an unknown FusionCatcher gene is `GeneNotFoundError` in every mode of the look-up: versioned
ids (`…\.[0-9]+`) and ENSEMBL annotations use the id as is; otherwise the id is matched against
the unversioned part of the annotation's ids -/
theorem fc_lookup (anno : Anno) (r : FcRow) :
    (isVersioned r.gene5 = true → anno.find r.gene5 = none → fcGenes anno r = .error .geneNotFound) ∧
    (isVersioned r.gene5 = true → ∀ dg, anno.find r.gene5 = some dg → anno.find r.gene3 = none →
      fcGenes anno r = .error .geneNotFound) ∧
    (isVersioned r.gene5 = false → anno.ensembl = true → anno.find r.gene5 = none →
      fcGenes anno r = .error .geneNotFound) ∧
    (isVersioned r.gene5 = false → anno.ensembl = false →
      hasCollision (anno.genes.map (·.id)) = false →
      (∀ g ∈ anno.genes, unversioned g.id ≠ r.gene5) → fcGenes anno r = .error .geneNotFound) := by
  refine ⟨fun hv h => ?_, fun hv dg h5 h3 => ?_, fun hv he h => ?_, fun hv he hc hn => ?_⟩
  · simp [fcGenes, hv, h]
  · simp [fcGenes, hv, h5, h3]
  · simp [fcGenes, hv, Anno.findUnversioned, he, h]
  · have h1 : anno.genes.find? (fun g => unversioned g.id == r.gene5) = none :=
      List.find?_eq_none.mpr fun g hg => by simpa using hn g hg
    have h2 : anno.genes.find? (fun g => !isParY g.id && unversioned g.id == r.gene5) = none :=
      List.find?_eq_none.mpr fun g hg => by simp [hn g hg]
    simp [fcGenes, hv, Anno.findUnversioned, he, hc, h1, h2]

/-- a row whose conversion raises `GeneNotFoundError` is skipped and counted as "invalid gene
ID" — with and without `--skip-failed` — and contributes no record -/
theorem fusion_unknown_gene_counted {Row : Type} (pre : Row → Pre)
    (conv : Row → Except FusErr (List FusionRec)) (skip : Bool) (r : Row)
    (h : pre r = .invalidGene ∨ (pre r = .go ∧ conv r = .error .geneNotFound)) :
    rowRecs pre conv r = [] ∧ rowClass pre conv skip r = .invalidGene := by
  rcases h with h | ⟨h1, h2⟩
  · simp [rowRecs, rowClass, h]
  · simp [rowRecs, rowClass, h1, h2]

/-! ## the commands end to end -/

/-- For any command loop: if no row aborts, the command succeeds, `total` = number of rows, every
row is counted in the bucket of its class, and the written records are, as a set, the records of
the rows that passed the pre-checks and converted (their order, by gene rank in `sortByRank`, is
not part of the statement); if a row aborts, the command raises.  `hgene`: `sortByRank` drops a
record that names no gene of the annotation. -/
theorem cli_spec {Row : Type} (anno : Anno) (pre : Row → Pre)
    (conv : Row → Except FusErr (List FusionRec)) (skip : Bool) (rows : List Row)
    (hgene : ∀ row rs r, conv row = .ok rs → r ∈ rs → ∃ g ∈ anno.genes, r.gene = g.id) :
    ((∀ r ∈ rows, rowClass pre conv skip r ≠ .abort) →
      ∃ out, finishCli anno (cliLoop pre conv skip rows {} []) = .ok out ∧
        out.tally.total = rows.length ∧
        out.tally.succeed = rows.countP (fun r => rowClass pre conv skip r = .ok) ∧
        out.tally.invalidGene = rows.countP (fun r => rowClass pre conv skip r = .invalidGene) ∧
        out.tally.invalidPos = rows.countP (fun r => rowClass pre conv skip r = .invalidPos) ∧
        out.tally.insufficient = rows.countP (fun r => rowClass pre conv skip r = .insufficient) ∧
        out.tally.antisense = rows.countP (fun r => rowClass pre conv skip r = .antisense) ∧
        out.tally.skipped = rows.countP (fun r => rowClass pre conv skip r ≠ .ok) ∧
        ∀ r, r ∈ out.written.getD [] ↔
          ∃ row ∈ rows, pre row = .go ∧ ∃ rs, conv row = .ok rs ∧ r ∈ rs) ∧
    ((∃ r ∈ rows, rowClass pre conv skip r = .abort) →
      ∃ e, finishCli anno (cliLoop pre conv skip rows {} []) = .error e) := by
  constructor
  · intro hno
    obtain ⟨t', h1, h2, h3, h4, h5, h6, h7, h8⟩ := cliLoop_ok pre conv skip rows {} [] hno
    obtain ⟨w, hw, hmem⟩ := finishCli_ok anno t' (rows.flatMap (rowRecs pre conv)) fun r hr => by
      obtain ⟨row, _, hr'⟩ := List.mem_flatMap.mp hr
      obtain ⟨_, rs, hc, hrs⟩ := mem_rowRecs.mp hr'
      exact hgene row rs r hc hrs
    rw [h1]
    refine ⟨⟨t', w⟩, hw, h2.trans (Nat.zero_add _), h3.trans (Nat.zero_add _),
      h4.trans (Nat.zero_add _), h5.trans (Nat.zero_add _), h6.trans (Nat.zero_add _),
      h7.trans (Nat.zero_add _), h8.trans (Nat.zero_add _), fun r => ?_⟩
    rw [hmem]
    simp only [List.mem_flatMap, mem_rowRecs]
  · intro hab
    obtain ⟨e, he⟩ := cliLoop_abort pre conv skip rows {} [] hab
    exact ⟨e, congrArg (finishCli anno) he⟩

/-- **Pseudo-autosomal genes.**  When the annotation lists a gene twice (`<id>` on chrX and
`<id>_PAR_Y` on chrY), an unversioned FusionCatcher id resolves to the copy that is NOT the
`_PAR_Y` one, whatever the order of the two in the GTF: the look-up never returns a `_PAR_Y` gene
while a non-`_PAR_Y` gene with that unversioned id exists. -/
theorem fc_par_y_never_preferred (anno : Anno) (id : String) (g : GeneEntry)
    (he : anno.ensembl = false) (h : anno.findUnversioned id = .ok g)
    (hx : ∃ x ∈ anno.genes, isParY x.id = false ∧ unversioned x.id = id) :
    isParY g.id = false := by
  obtain ⟨x, hxm, hxp, hxu⟩ := hx
  unfold Anno.findUnversioned at h
  rw [he, if_neg Bool.false_ne_true] at h
  split at h
  · cases h
  split at h
  · rename_i hf
    cases h
    have := List.find?_some hf
    rw [Bool.and_eq_true, Bool.not_eq_true'] at this
    exact this.1
  · rename_i hf
    have := List.find?_eq_none.mp hf x hxm
    simp [hxp, hxu] at this

/-- non-vacuity: chrX copy listed first or second, the look-up returns it -/
example :
    let gx : GeneEntry := { (default : GeneEntry) with id := "ENSG0001.5" }
    let gy : GeneEntry := { (default : GeneEntry) with id := "ENSG0001.5_PAR_Y" }
    (match ({ (default : Anno) with genes := [gx, gy], ensembl := false }).findUnversioned "ENSG0001" with
      | .ok g => g.id | .error _ => "") = "ENSG0001.5" ∧
    (match ({ (default : Anno) with genes := [gy, gx], ensembl := false }).findUnversioned "ENSG0001" with
      | .ok g => g.id | .error _ => "") = "ENSG0001.5" := by
  decide +kernel

/-- `parseSTARFusion` end to end (see `cli_spec`) -/
theorem fusion_cli_star (anno : Anno) (genome : Genome) (minEstJ : Nat) (skip : Bool)
    (rows : List StarRow)
    (hno : ∀ r ∈ rows, rowClass (starPre minEstJ) (convertStar anno genome) skip r ≠ .abort) :
    ∃ out, cliStar anno genome minEstJ skip rows = .ok out ∧ out.tally.total = rows.length ∧
      ∀ r, r ∈ out.written.getD [] ↔
        ∃ row ∈ rows, minEstJ ≤ row.estJ ∧ ∃ rs, convertStar anno genome row = .ok rs ∧ r ∈ rs := by
  obtain ⟨out, h, ht, _, _, _, _, _, _, hm⟩ :=
    (cli_spec anno (starPre minEstJ) (convertStar anno genome) skip rows
      (star_gene_in_anno anno genome)).1 hno
  refine ⟨out, h, ht, fun r => ?_⟩
  rw [hm r]
  simp only [(fusion_thresholds_star minEstJ _).2]

/-- `parseArriba` end to end -/
theorem fusion_cli_arriba (anno : Anno) (genome : Genome) (min1 min2 : Nat) (minConf : Conf)
    (skip : Bool) (rows : List ArribaRow)
    (hno : ∀ r ∈ rows, rowClass (arribaPre anno min1 min2 minConf) (convertArriba anno genome)
      skip r ≠ .abort) :
    ∃ out, cliArriba anno genome min1 min2 minConf skip rows = .ok out ∧
      out.tally.total = rows.length ∧
      ∀ r, r ∈ out.written.getD [] ↔
        ∃ row ∈ rows, arribaPre anno min1 min2 minConf row = .go ∧
          ∃ rs, convertArriba anno genome row = .ok rs ∧ r ∈ rs := by
  obtain ⟨out, h, ht, _, _, _, _, _, _, hm⟩ :=
    (cli_spec anno (arribaPre anno min1 min2 minConf) (convertArriba anno genome) skip rows
      (arriba_gene_in_anno anno genome)).1 hno
  exact ⟨out, h, ht, hm⟩

/-- `parseFusionCatcher` end to end -/
theorem fusion_cli_fc (anno : Anno) (genome : Genome) (maxCommon minSpanUnique : Nat)
    (skip : Bool) (rows : List FcRow)
    (hno : ∀ r ∈ rows, rowClass (fcPre maxCommon minSpanUnique) (convertFc anno genome)
      skip r ≠ .abort) :
    ∃ out, cliFc anno genome maxCommon minSpanUnique skip rows = .ok out ∧
      out.tally.total = rows.length ∧
      ∀ r, r ∈ out.written.getD [] ↔
        ∃ row ∈ rows, ¬ (row.common > maxCommon ∨ row.spanUnique < minSpanUnique) ∧
          ∃ rs, convertFc anno genome row = .ok rs ∧ r ∈ rs := by
  obtain ⟨out, h, ht, _, _, _, _, _, _, hm⟩ :=
    (cli_spec anno (fcPre maxCommon minSpanUnique) (convertFc anno genome) skip rows
      (fc_gene_in_anno anno genome)).1 hno
  refine ⟨out, h, ht, fun r => ?_⟩
  rw [hm r]
  simp only [fcPre_go]

/-! ## the callVariant clause

"… and callVariant's fusion peptides are digestion products of that sequence."

The fusion transcript `fusedSeq` is handed to the definitional layer of callVariant
(`Spec.callBackbone`, the definition C01/C02 compare the real command with) as a backbone `t`
(`t.seq = fusedSeq …`), with no small records.  Building `t` needs two places inside the
backbone — the donor breakpoint in transcript coordinates (= length of the donor's exonic prefix;
`harness/c15.py` keeps the donor's Sec codons that end at or before it) and the first base of the
acceptor's exonic suffix (`orfLimit`) — so `fusedSeq` is cut into four stretches (`fusedParts`);
the theorems below say the cut is the intended one. -/

theorem fusedParts_join (chromD : List Char) (tD : Transcript) (lb : Nat) (chromA : List Char)
    (tA : Transcript) (rb : Nat) :
    (fusedParts chromD tD lb chromA tA rb).join = fusedSeq chromD tD lb chromA tA rb := by
  simp only [FusedParts.join, fusedParts, fusedSeq, donorSplit, acceptorSplit, readBases,
    List.append_assoc]
  rw [← List.append_assoc, ← List.map_append, List.takeWhile_append_dropWhile, ← List.map_append,
    List.takeWhile_append_dropWhile]

/-- donor side, any strand, exonic or intronic breakpoint on the chromosome: first exonic
positions only, then the retained intronic positions -/
theorem donorSplit_spec (n : Nat) (t : Transcript) (p : Nat) (hp : p < n) :
    (∀ q ∈ (donorSplit n t p).1, isExonic t q = true) ∧
    (∀ q ∈ (donorSplit n t p).2, isExonic t q = false) ∧
    (donorSplit n t p).1 ++ (donorSplit n t p).2 = donorPositions n t p :=
  ⟨takeWhile_all_true,
   dropWhile_all_false (donorPositions_pairwise n t p) (donor_intron_inherits hp),
   List.takeWhile_append_dropWhile⟩

/-- acceptor side: first the retained intronic positions, then exonic positions only -/
theorem acceptorSplit_spec (n : Nat) (t : Transcript) (p : Nat) (hp : p < n) :
    (∀ q ∈ (acceptorSplit n t p).1, isExonic t q = false) ∧
    (∀ q ∈ (acceptorSplit n t p).2, isExonic t q = true) ∧
    (acceptorSplit n t p).1 ++ (acceptorSplit n t p).2 = acceptorPositions n t p := by
  refine ⟨fun q hq => ?_, fun q hq => ?_, List.takeWhile_append_dropWhile⟩
  · simpa using takeWhile_all_true q hq
  · simpa using dropWhile_all_false (acceptorPositions_pairwise n t p)
      (acceptor_exon_inherits hp) q hq

/-- non-vacuity (the annotation of the first examples: intronic left breakpoint on `+`, exonic
right breakpoint on `-`): `CCG` donor exons, `GT` retained donor intron, no acceptor intron -/
example : (let x := fusedParts exChrom ⟨.plus, [⟨2, 5⟩, ⟨8, 12⟩]⟩ 6 exChrom ⟨.minus, [⟨1, 4⟩, ⟨9, 13⟩]⟩ 10
    (x.donorExonic, x.donorIntron, x.accIntron, x.accExonic)) =
    ("CCG".toList, "GT".toList, [], "CGGGT".toList) := by
  rw [exChrom_eq]
  decide +kernel
/-- intronic right breakpoint on `-` (position 6): the retained acceptor intron `ACC` comes first -/
example : (let x := fusedParts exChrom ⟨.plus, [⟨2, 5⟩, ⟨8, 12⟩]⟩ 3 exChrom ⟨.minus, [⟨1, 4⟩, ⟨9, 13⟩]⟩ 6
    (x.donorExonic, x.donorIntron, x.accIntron, x.accExonic)) =
    ("CC".toList, [], "ACC".toList, "GGT".toList) := by
  rw [exChrom_eq]
  decide +kernel

/-- **callVariant clause, definitional layer.**  For every configuration, every backbone `t`
(coding or not, any ORF, any `orfLimit`) and every deny list: with no small records, `p` is in
the fusion set iff `p` is a peptide form (digestion product within the limits, with the
requested Met-removed / W→F forms) of a permitted reading frame of the backbone sequence
`t.seq` itself, is not a product of the unmodified donor (`deny`) and is not canonical. -/
theorem callvariant_clause (g : Spec.Cfg) (t : Spec.TxIn) (deny : List Pep) (p : Pep) :
    p ∈ Spec.callBackbone g t [] deny ↔
      p ∈ Spec.peptidesOf g t t.seq t.sec t.endNF ∧ p ∉ deny ∧ p ∉ g.canonical := by
  rw [Spec.callBackbone_nil]
  simp only [List.mem_filter, Bool.and_eq_true, Bool.not_eq_true', List.contains_eq_mem,
    decide_eq_false_iff_not]

/-- … instantiated with the fusion transcript of two breakpoints: every fusion peptide of the
definition is a peptide form of `fusedSeq donor lb acceptor rb` -/
theorem callvariant_clause_fused (g : Spec.Cfg) (t : Spec.TxIn) (deny : List Pep)
    (chromD : List Char) (tD : Transcript) (lb : Nat) (chromA : List Char) (tA : Transcript)
    (rb : Nat) (hseq : t.seq = (fusedParts chromD tD lb chromA tA rb).join) (p : Pep)
    (h : p ∈ Spec.callBackbone g t [] deny) :
    p ∈ Spec.peptidesOf g t (fusedSeq chromD tD lb chromA tA rb) t.sec t.endNF ∧
      p ∉ deny ∧ p ∉ g.canonical := by
  rw [← fusedParts_join, ← hseq]
  exact (callvariant_clause g t deny p).mp h

end MoPepGen.Props.C15
