import MoPepGen.Lemmas.Spec
/-!
# C09 — callAltTranslation = definitional alt-translation digest  (PARTIAL: equality with the
real traversal is decided per input by `harness/c09.py`)

Proved: the definition `Spec.altTranslationPeptides` is the statement of the property
(`altTranslation_spec`), and what the two flags can contribute to the forms of one protein
(`form_origin`).
-/
namespace MoPepGen.Props.C09
open MoPepGen MoPepGen.Spec

/-- S, declarative: `p` is reported iff it is a product form of the annotated ORF's translation
under the requested flags, is NOT a product form without them, and is not canonical. -/
theorem altTranslation_spec (g : Cfg) (t : TxIn) (p : Pep) :
    p ∈ altTranslationPeptides g t ↔
      p ∈ peptidesOf g t t.seq t.sec t.endNF ∧
      p ∉ peptidesOf { g with sect := false, w2f := false } t t.seq t.sec t.endNF ∧
      p ∉ g.canonical := by
  simp only [altTranslationPeptides, List.mem_filter, Bool.and_eq_true, Bool.not_eq_true',
    List.contains_eq_mem, decide_eq_false_iff_not]

/-- ALT ONLY: nothing reported is a plain digestion product of the transcript -/
theorem alt_only (g : Cfg) (t : TxIn) (p : Pep) (h : p ∈ altTranslationPeptides g t) :
    p ∉ peptidesOf { g with sect := false, w2f := false } t t.seq t.sec t.endNF :=
  ((altTranslation_spec g t p).mp h).2.1

/-- with neither flag nothing is reported -/
theorem no_flags_nothing (g : Cfg) (t : TxIn) (hs : g.sect = false) (hw : g.w2f = false) :
    altTranslationPeptides g t = [] := by
  have e : ({ g with sect := false, w2f := false } : Cfg) = g := by
    cases g; cases hs; cases hw; rfl
  apply List.eq_nil_iff_forall_not_mem.mpr
  intro p hp
  have := alt_only g t p hp
  rw [e] at this
  exact this ((altTranslation_spec g t p).mp hp).1

/-- what the flags can contribute to the forms of one protein: every reported form is a raw
product, a Sec-terminated prefix of one (only with the SECT flag), or a W→F image of those
(only with the W2F flag) -/
theorem form_origin (g : Cfg) (prot : Pep) (nf closed endNF : Bool) (p : Pep)
    (h : p ∈ productForms g prot nf closed endNF) :
    (p ∈ rawProducts g.cleave prot nf (endNF && !closed)) ∨
    (g.sect = true ∧ ∃ r ∈ rawProducts g.cleave prot nf (endNF && !closed), p ∈ sectForms r) ∨
    (g.w2f = true ∧ ∃ b, p ∈ w2fImages b ∧
      (b ∈ rawProducts g.cleave prot nf (endNF && !closed) ∨
        (g.sect = true ∧ ∃ r ∈ rawProducts g.cleave prot nf (endNF && !closed), b ∈ sectForms r))) := by
  obtain ⟨⟨b, hb, rfl | ⟨hw, hp⟩⟩, _⟩ := mem_productForms.mp h
  · exact hb.imp_right Or.inl
  · exact Or.inr (Or.inr ⟨hw, b, hp, hb⟩)

/-- every W→F image differs from its source and has its length -/
theorem w2f_image_differs (b p : Pep) (h : p ∈ w2fImages b) : p ≠ b ∧ p.length = b.length :=
  have hgo := w2fImages_go_spec b p true ((mem_w2fImages b p).mp h)
  ⟨hgo.2 rfl, hgo.1⟩

example : w2fImages "AWKW".toList = ["AWKF".toList, "AFKW".toList, "AFKF".toList] := by
  char_lists
  decide +kernel
example : sectForms "ACUDEUK".toList = ["AC".toList, "ACUDE".toList] := by
  char_lists
  decide +kernel

end MoPepGen.Props.C09
