import MoPepGen.Lemmas.Split
import MoPepGen.Lemmas.SummarySplit
import MoPepGen.Lemmas.Encode
/-!
# C18 — database bookkeeping conserves peptides (split, merge, encode, summarize)

The property theorems, and examples on which their hypotheses hold or visibly fail.  `split`,
`splitPep`, `chooseKey`, `mergePools`/`addPeptide`, `encode`, `summarize`, `toInt`/`srcGt`,
`cliSplit`/`cliSummarize` are the models of the Python (tied to /repo by the correspondence streams
`split`, `summarize`, `merge`, `encode`, `gt`, `gtl`, `toint`).  `decode` mirrors nothing: moPepGen
has no decoder; it is the reading of the `.dict` file the round trip is stated for (the stream
`decode` runs it on the files the real `encodeFasta` wrote).
-/
namespace MoPepGen.Props.C18
open MoPepGen

/-- The comparison `VariantSourceSet.__gt__` performs on the two `to_int()` images (longer list
greater, then lexicographic) is a strict total order on those images, and the derived `≤` the
model sorts by (`intsLe`, `not >`) is total and transitive.  The order on the source sets
themselves is `source_order_total`; `split_key_spec` states minimality in this `≤`. -/
theorem source_order_total_partial :
    (∀ a : List Nat, intsGt a a = false) ∧
    (∀ a b : List Nat, intsGt a b = true → intsGt b a = false) ∧
    (∀ a b c : List Nat, intsGt a b = true → intsGt b c = true → intsGt a c = true) ∧
    (∀ a b : List Nat, a ≠ b → intsGt a b = true ∨ intsGt b a = true) ∧
    (∀ a b : List Nat, intsLe a b = false → intsLe b a = true) ∧
    (∀ a b c : List Nat, intsLe a b = true → intsLe b c = true → intsLe a c = true) :=
  ⟨intsGt_irrefl, intsGt_asymm, intsGt_trans, intsGt_total, intsLe_total, intsLe_trans⟩

/--
**source_order_total.**  `VariantSourceSet` is modelled as a list of source names read up to
`sameSet` (same members).  For every level map `o` (`levels_map`, with plain and `frozenset`
keys):

1. `to_int` and `__gt__` are functions of the set: `sameSet a a'` gives the same `to_int` and
   the same comparison on either side;
2. `to_int` is injective on source sets whenever the level map is injective on the keys the
   two sets look up (`o.injOn (keysOf [a, b])`: `frozenset(a)`, `frozenset(b)` and their elements);
3. `__gt__` (`srcGt`) is a strict total order on source sets: irreflexive (equal sets are never
   greater), asymmetric, transitive — these three for every `o` — and total: two different sets
   with defined levels are comparable one way or the other (under 2's hypothesis).
-/
theorem source_order_total (o : Order) :
    (∀ a a' : SrcSet, sameSet a a' = true → toInt o a = toInt o a') ∧
    (∀ a a' b : SrcSet, sameSet a a' = true →
        srcGt o a b = srcGt o a' b ∧ srcGt o b a = srcGt o b a') ∧
    (∀ (a b : SrcSet) (l : List Nat), o.injOn (keysOf [a, b]) = true →
        toInt o a = some l → toInt o b = some l → sameSet a b = true) ∧
    (∀ a b : SrcSet, sameSet a b = true → srcGt o a b = some false) ∧
    (∀ a b : SrcSet, srcGt o a b = some true → srcGt o b a = some false) ∧
    (∀ a b c : SrcSet, srcGt o a b = some true → srcGt o b c = some true →
        srcGt o a c = some true) ∧
    (∀ (a b : SrcSet) (x y : List Nat), o.injOn (keysOf [a, b]) = true →
        toInt o a = some x → toInt o b = some y → sameSet a b = false →
        srcGt o a b = some true ∨ srcGt o b a = some true) :=
  ⟨fun _ _ h => toInt_congr o h,
   fun _ _ b h => ⟨srcGt_congr o h (sameSet_refl b), srcGt_congr o (sameSet_refl b) h⟩,
   toInt_inj o, srcGt_same o, srcGt_asymm o, srcGt_trans o, srcGt_total o⟩

/-- The hypothesis of `source_order_total` holds for every order the CLIs build.  If the level
values of the parsed `--order-source` are pairwise distinct (they are `enumerate` positions),
the orders `splitFasta` and `summarizeFasta` end up with (`append_order` per GVF, then the internal
sources, each at `max + 1`) have pairwise distinct levels and are the same order; and a level map
with distinct values is injective on every list of keys. -/
theorem source_order_cli (g : GroupMap) (o0 : Order) (gvfs : List Gvf)
    (h : o0.levelsDistinct = true) :
    (splitterOrder g o0 gvfs).1.levelsDistinct = true ∧
    (summarizerOrder g o0 gvfs).levelsDistinct = true ∧
    (splitterOrder g o0 gvfs).1 = summarizerOrder g o0 gvfs ∧
    ∀ (o : Order), o.levelsDistinct = true → ∀ ks : List OKey, o.injOn ks = true :=
  ⟨splitterOrder_levelsDistinct g o0 gvfs h, summarizerOrder_levelsDistinct g o0 gvfs h,
   splitterOrder_eq g o0 gvfs, injOn_of_levelsDistinct⟩

/-- **sort_order_independent.**  `sortInfos` (the model of `peptide_infos.sort()`) applied to any
permutation of the infos yields the same sequence of `to_int` images and a permutation of the same
infos; when the level map is injective on the source sets involved, the source sets at equal
positions of the two results are equal as sets — in particular the first one, which decides the
database. -/
theorem sort_order_independent (o : Order) (infos infos' : List (Entry × SrcSet))
    (hp : infos'.Perm infos) (l : List (List Nat × (Entry × SrcSet)))
    (h : sortInfos o infos = .ok l) :
    ∃ l', sortInfos o infos' = .ok l' ∧ l'.map (·.1) = l.map (·.1) ∧ l'.Perm l ∧
      (o.injOn (keysOf (infos.map (·.2))) = true →
        ∀ (n : Nat) (x x' : List Nat × (Entry × SrcSet)), l[n]? = some x → l'[n]? = some x' →
          sameSet x'.2.2 x.2.2 = true) := by
  obtain ⟨w, hw, rfl⟩ := sortInfos_ok_iff.mp h
  rw [withInts_eq_mapM] at hw
  obtain ⟨w', hw', hpw⟩ := mapM_ok_perm hp hw
  rw [← withInts_eq_mapM] at hw'
  have h1 := sortInfos_ok_iff.mpr ⟨w', hw', rfl⟩
  have h2 := sortInfos_keys_eq h h1 (hp.map _)
  refine ⟨_, h1, h2, ((isort_perm _ w').trans hpw).trans (isort_perm _ w).symm,
    fun hinj n x x' hx hx' => ?_⟩
  obtain ⟨p, e, _⟩ := sortInfos_spec h
  obtain ⟨p', e', _⟩ := sortInfos_spec h1
  have mx := List.mem_of_getElem? hx
  have mx' := List.mem_of_getElem? hx'
  have ex : (List.map _ _)[n]? = (List.map _ _)[n]? := congrArg (·[n]?) h2
  rw [List.getElem?_map, List.getElem?_map, hx, hx'] at ex
  exact toInt_inj_on o _ hinj
    (List.mem_map_of_mem (hp.subset (p'.subset (List.mem_map_of_mem mx'))))
    (List.mem_map_of_mem (p.subset (List.mem_map_of_mem mx)))
    (e' x' mx') ((e x mx).trans ex.symm)

/-- **split_key_order_independent.**  The database a peptide is filed under does not depend on the
order of its header entries, nor does the multiset of entries written: if `p'` is `p` with the
header entries permuted, `splitPep` succeeds on `p'` with the same key, the same sequence and a
permutation of the same output header.  Hypotheses: the level map is injective on the source sets
of the header's entries (`source_order_cli`: true for every CLI-built order), and the values of
the wildcard map are duplicate-free lists (in the Python they are frozensets; for `wildcardMap`
proved only on an order without wildcard keys whose combination keys are sets:
`wildcardMap_noWild`, `wildNodup_of_ident`). -/
theorem split_key_order_independent (c : SplitCfg) (p p' : PRec) (hseq : p'.seq = p.seq)
    (hperm : p'.header.Perm p.header) (infos : List (Entry × SrcSet))
    (hi : headerInfos c.env p.header = .ok infos)
    (hinj : c.env.order.injOn (keysOf (infos.map (·.2))) = true)
    (hw : ∀ kv ∈ c.env.wildcard, kv.2.Nodup) (k : DbKey) (q : PRec)
    (h : splitPep c p = .ok (k, q)) :
    ∃ q', splitPep c p' = .ok (k, q') ∧ q'.seq = q.seq ∧ q'.header.Perm q.header := by
  obtain ⟨infos₀, i, is, h₁, h₂, rfl, rfl⟩ := splitPep_ok_iff.mp h
  cases hi.symm.trans h₁
  rw [headerInfos_eq_mapM] at h₁
  obtain ⟨infos', h₁', hpi⟩ := mapM_ok_perm hperm h₁
  rw [← headerInfos_eq_mapM] at h₁ h₁'
  obtain ⟨l', h₂', hkeys, hpl, hsame⟩ := sort_order_independent c.env.order infos infos' hpi _ h₂
  cases l' with
  | nil => cases hkeys
  | cons i' is' =>
    exact ⟨_, splitPep_ok_iff.mpr ⟨infos', i', is', h₁', h₂',
      (chooseKey_congr c (hsame hinj 0 i i' rfl rfl)
        (headerInfos_nodup c.env hw _ _ h₁' _ (sortInfos_head h₂').1)
        (headerInfos_nodup c.env hw _ _ h₁ _ (sortInfos_head h₂).1)).symm, rfl⟩, hseq,
      hpl.map fun x => x.2.1⟩

/-- **split_key_spec.**  One peptide's assignment: same sequence; the header is a permutation of the
(normalised) labels of the input header, one per input entry; the key is `chooseKey` of the source
set of one of its entries whose `to_int` image is minimal (`intsLe`) among those of all entries. -/
theorem split_key_spec (c : SplitCfg) (p : PRec) (k : DbKey) (q : PRec)
    (h : splitPep c p = .ok (k, q)) :
    q.seq = p.seq ∧
    ∃ infos, headerInfos c.env p.header = .ok infos ∧ infos.length = p.header.length ∧
      q.header.Perm (infos.map (·.1)) ∧
      ∃ i ∈ infos, ∃ n, toInt c.env.order i.2 = some n ∧ k = chooseKey c i.2 ∧
        ∀ j ∈ infos, ∃ m, toInt c.env.order j.2 = some m ∧ intsLe n m = true := by
  obtain ⟨infos, i0, rest, h1, h2, rfl, rfl⟩ := splitPep_ok_iff.mp h
  obtain ⟨hp, e, hs⟩ := sortInfos_spec h2
  refine ⟨rfl, infos, h1, ?_, ?_, i0.2, (sortInfos_head h2).1, i0.1, (sortInfos_head h2).2, rfl,
    fun j hj => ?_⟩
  · rw [headerInfos_eq_mapM] at h1
    exact mapM_ok_length h1
  · have := hp.map (·.1)
    rwa [List.map_map] at this
  · -- `j` is one of the sorted infos: the head itself, or behind it in a sorted list
    obtain ⟨x, hx, rfl⟩ := List.mem_map.mp (hp.symm.subset hj)
    refine ⟨x.1, e x hx, ?_⟩
    rcases List.mem_cons.mp hx with rfl | hx
    · exact (Bool.eq_false_or_eq_true _).elim id (intsLe_total _ _)
    · exact (List.pairwise_cons.mp hs).1 x hx

/-- **split_partition.** If `split` succeeds there is one assignment (key, record) per input
peptide, in input order, with unchanged sequences (headers: see `split_key_spec`); the database
keys are pairwise distinct; the database of key `k` holds exactly the records assigned to `k`
(so every peptide is in exactly one database); and the database sizes add up to the number of
input peptides. -/
theorem split_partition (c : SplitCfg) (pool : List PRec) (dbs : Dbs) (h : split c pool = .ok dbs) :
    ∃ as : List (DbKey × PRec),
      (∀ x ∈ pool.zip as, splitPep c x.1 = .ok x.2) ∧
      as.map (·.2.seq) = pool.map (·.seq) ∧
      (dbs.map (·.1)).Nodup ∧
      (∀ k, dbGet dbs k = (as.filter (fun a => a.1 = k)).map (·.2)) ∧
      (dbs.map (·.2.length)).sum = pool.length := by
  obtain ⟨as, h1, f1, f2, f3⟩ := split_ok h
  refine ⟨as, mapM_ok_zip h1, mapM_ok_map (fun p _ a ha => ?_) h1, f1, f2,
    f3.trans (mapM_ok_length h1)⟩
  obtain ⟨_, _, _, _, _, _, hq⟩ := (splitPep_ok_iff (k := a.1) (q := a.2)).mp ha
  rw [hq]

/-- all header entries contributed by the records of `b` with sequence `s`, in order -/
def hdrAll (b : List PRec) (s : Pep) : Header := (b.filter (fun q => q.seq = s)).flatMap (·.header)

/-- **merge_union.** Adding the records of `b` to the pool `a` (`add_peptide`) yields the union
of the sequences, keeps sequences unique, and the header of every sequence is the header it had
in `a` followed by the entries `b` contributes for it. -/
theorem merge_union (b : List PRec) : ∀ a : List PRec,
    let r := b.foldl addPeptide a
    (∀ s, s ∈ r.map (·.seq) ↔ s ∈ a.map (·.seq) ∨ s ∈ b.map (·.seq)) ∧
    ((a.map (·.seq)).Nodup → (r.map (·.seq)).Nodup) ∧
    (∀ s, hdrOf r s = hdrOf a s ++ hdrAll b s) := by
  induction b with
  | nil => exact fun a => ⟨fun s => ⟨.inl, fun h => h.elim id nofun⟩, id, fun s => (List.append_nil _).symm⟩
  | cons p ps ih =>
    intro a
    obtain ⟨i1, i2, i3⟩ := ih (addPeptide a p)
    obtain ⟨k1, k2⟩ := addPeptide_seqs a p
    refine ⟨fun s => ?_, fun hn => i2 (k2 hn), fun s => ?_⟩
    · rw [List.foldl_cons, i1 s, k1 s, List.map_cons, List.mem_cons, or_assoc, or_left_comm]
    · rw [List.foldl_cons, i3 s, addPeptide_hdr, hdrAll, hdrAll, List.filter_cons]
      by_cases h : s = p.seq
      · rw [if_pos h, if_pos (decide_eq_true h.symm), List.flatMap_cons, List.append_assoc]
      · rw [if_neg h, if_neg (by rw [decide_eq_true_eq]; exact fun e => h e.symm)]

/-- The part of the round trip that does not involve the id table: for a non-empty decoy string the
decoy mark is recognised on a marked identifier, stripping it returns the identifier, and
re-attaching it to the stripped header of a decoy returns the header — so decoy prefixes/suffixes
are preserved by strip → look-up → wrap.  The invariant of the `id_mapper` fold and the round trip
are `encode_inv` / `encode_decode`. -/
theorem encode_decode_partial (c : DecoyCfg) (hne : c.str ≠ []) :
    (∀ i : List Char, c.isDecoy (c.wrap i) = true ∧ c.real (c.wrap i) = i) ∧
    (∀ h : List Char, c.isDecoy h = true → c.wrap (c.real h) = h) := by
  unfold DecoyCfg.isDecoy DecoyCfg.real DecoyCfg.wrap
  cases c.prefixPos with
  | true =>
    exact ⟨fun i => ⟨List.isPrefixOf_iff_prefix.mpr (List.prefix_append _ _), List.drop_left⟩,
      fun h hd => List.prefix_iff_eq_append.mp (List.isPrefixOf_iff_prefix.mp hd)⟩
  | false =>
    -- `hne` is needed here only: `get_real_header` computes `header[:-0]` for the empty string
    -- (`DecoyCfg.real`)
    have h0 : (c.str.length == 0) = false :=
      beq_eq_false_iff_ne.mpr fun h => hne (List.length_eq_zero_iff.mp h)
    simp only [Bool.false_eq_true, if_false, h0]
    refine ⟨fun i => ⟨?_, ?_⟩, fun h hd => ?_⟩
    · rw [List.reverse_append]
      exact List.isPrefixOf_iff_prefix.mpr (List.prefix_append _ _)
    · rw [List.length_append, Nat.add_sub_cancel, List.take_left]
    · exact List.suffix_iff_eq_append.mp
        (List.reverse_prefix.mp (List.isPrefixOf_iff_prefix.mp hd))

/-- **encode_inv.**  The invariant of the `id_mapper` fold of `encode_fasta`, for every decoy
configuration, every supply of identifiers `uuid` (`uuid k` = the k-th `uuid4()`) and every list
of records: after the records `recs` the state `st` satisfies `EncInv`:
* the keys of `id_mapper` are pairwise distinct and are exactly the (decoy-stripped) headers seen;
* its values are `uuid 0, …, uuid (st.next - 1)` in insertion order (so pairwise distinct when
  `uuid` is injective), with `st.next ≤ recs.length`;
* the dictionary file lists exactly the mapper, as (identifier, header) lines in the same order;
* the i-th written record has the i-th sequence and, as title, the identifier `id_mapper` holds
  for its stripped header, with the decoy mark re-attached iff the input title carried it —
  so **equal headers share an identifier**. -/
theorem encode_inv (c : DecoyCfg) (uuid : Nat → List Char) (recs : List (List Char × Pep)) :
    EncInv c uuid recs (encode c uuid recs) :=
  MoPepGen.encode_inv c uuid recs

/-- the ids in use are pairwise distinct and free of the decoy mark: what `encode_decode` assumes
of `uuid4()` for an input of `n` records (decidable for given `uuid`, `n`) -/
def UuidOk (c : DecoyCfg) (uuid : Nat → List Char) (n : Nat) : Prop :=
  ((List.range n).map uuid).Nodup ∧ ∀ k, k < n → c.isDecoy (uuid k) = false

/-- equal (decoy-stripped) headers share an identifier, different ones get different
identifiers (ids pairwise distinct) -/
theorem encode_ids_iff (c : DecoyCfg) (uuid : Nat → List Char) (recs : List (List Char × Pep))
    (hinj : ((List.range recs.length).map uuid).Nodup) (r1 r2 : List Char × Pep)
    (h1 : r1 ∈ recs) (_h2 : r2 ∈ recs) :
    lookupHdr (encode c uuid recs).mapper (c.strip r1.1) =
      lookupHdr (encode c uuid recs).mapper (c.strip r2.1) ↔ c.strip r1.1 = c.strip r2.1 := by
  have inv := MoPepGen.encode_inv c uuid recs
  refine ⟨fun e => ?_, fun e => by rw [e]⟩
  -- both headers are the header the dictionary holds for the shared identifier
  obtain ⟨i, l1, m1⟩ := inv.lookup h1
  have m2 := lookupHdr_some_mem _ _ _ (e.symm.trans l1)
  exact Option.some.inj ((inv.dict_lookup hinj m1).symm.trans (inv.dict_lookup hinj m2))

/--
**encode_decode.**  For every list of records, every decoy configuration with a non-empty decoy
string (prefix or suffix) and every identifier supply satisfying `UuidOk` (the `recs.length`
first identifiers are pairwise distinct and do not carry the decoy mark): the sequences are
written unchanged and in order, and decoding every written title through the written dictionary
(strip the decoy mark, look the identifier up, re-attach the mark) restores the original title
exactly — decoy prefix / suffix preserved.
-/
theorem encode_decode (c : DecoyCfg) (hne : c.str ≠ []) (uuid : Nat → List Char)
    (recs : List (List Char × Pep)) (hu : UuidOk c uuid recs.length) :
    let st := encode c uuid recs
    st.out.map (fun r => (decode c st.dict r.1, r.2)) = recs.map (fun r => (some r.1, r.2)) := by
  obtain ⟨Hw, Hr⟩ := encode_decode_partial c hne
  exact decode_encode c uuid recs hu.1 Hw Hr fun _ _ _ k hk => hu.2 k hk

/-- the remaining configuration that round-trips: the empty decoy string as a prefix (every title
"is a decoy", the mark is empty).  Only pairwise distinct identifiers are needed. -/
theorem encode_decode_empty_prefix (c : DecoyCfg) (he : c.str = []) (hp : c.prefixPos = true)
    (uuid : Nat → List Char) (recs : List (List Char × Pep))
    (hinj : ((List.range recs.length).map uuid).Nodup) :
    let st := encode c uuid recs
    st.out.map (fun r => (decode c st.dict r.1, r.2)) = recs.map (fun r => (some r.1, r.2)) := by
  obtain ⟨Hw, Hr, Hall⟩ := decoy_marks_empty_prefix c he hp
  exact decode_encode c uuid recs hinj Hw Hr fun r' _ hd =>
    absurd ((Hall r'.1).symm.trans hd) nofun

/-- for an injective identifier supply the first half of `UuidOk` holds for every input -/
theorem uuid_injective_nodup (uuid : Nat → List Char) (h : ∀ j k, uuid j = uuid k → j = k)
    (n : Nat) : ((List.range n).map uuid).Nodup :=
  List.Pairwise.map uuid (fun j k hjk e => hjk (h j k e)) List.nodup_range

/-- The one configuration excluded above is a real failure (known finding
`encode-empty-decoy-suffix`): with `--decoy-string ''` and position `suffix`,
`get_real_header` computes `header[:-0] = ''`, every record is filed under the empty header and
the dictionary cannot restore anything. -/
theorem encode_decode_empty_suffix_fails :
    let c : DecoyCfg := ⟨[], false⟩
    let uuid : Nat → List Char := fun k => ("U" ++ toString k).toList
    let st := encode c uuid [("X".toList, "AAK".toList)]
    st.dict = [("U0".toList, [])] ∧ decode c st.dict (st.out.map (·.1))[0]! = none := by
  decide +kernel

/-- **summary_total.** The per-source totals of the summary table add up to the number of
peptides (for the table `count_peptide_source` builds; the rows `write_summary_table` prints may
omit source combinations — known finding `summary-rows-skip-exclusive`). -/
theorem summary_total (env : SrcEnv) (rule : Re) (exc : Option Re) (pool : List PRec) (t : SumTable)
    (h : summarize env rule exc pool = .ok t) : t.total = pool.length := by
  obtain ⟨ks, hk, rfl⟩ := summarize_ok h
  rw [sumKeys_eq_mapM] at hk
  rw [total_foldl_sumAdd, ← mapM_ok_length hk]
  exact Nat.zero_add _

/-- The grand totals agree: the summary table and the split databases both account for every
peptide exactly once, for any `split` configuration and any `summarize` environment (no hypothesis
on the options).  The per-key equality is `summary_eq_split`. -/
theorem summary_eq_split_partial (c : SplitCfg) (envS : SrcEnv) (rule : Re) (exc : Option Re)
    (pool : List PRec) (dbs : Dbs) (t : SumTable)
    (hs : split c pool = .ok dbs) (ht : summarize envS rule exc pool = .ok t) :
    t.total = (dbs.map (·.2.length)).sum := by
  obtain ⟨_, _, _, _, _, hsum⟩ := split_partition c pool dbs hs
  rw [summary_total envS rule exc pool t ht, hsum]

/-- the database key `splitFasta` uses for the source set `s` under the options `x`,
`--max-source-groups mg`, `--additional-split addl` (`chooseKey` only reads the order) -/
def cliKey (x : CliOpts) (mg : Int) (addl : List SrcSet) (s : SrcSet) : DbKey :=
  chooseKey { env := x.sumEnv, maxGroups := mg, additional := addl } s

/--
**summary_eq_split.**  `splitFasta` (`cliSplit`) and `summarizeFasta` (`cliSummarize`) run on the
same pool under the same options `x` (`--order-source`, `--group-source`, GVFs, annotation), any
`--max-source-groups`, `--additional-split`, enzyme.  Hypotheses on the options (all decidable):
* `hld` the levels of the order are pairwise distinct (true for every parsed `--order-source`,
  `source_order_cli`);
* `hset` its combination keys are sets;
* `hnw` no wildcard key (`X-*`, `X-+`) — excludes known finding `summary-vs-split-wildcard`;
* `hns` no (gene, label) in GVFs of two sources — excludes `summary-vs-split-shared-label`
(both are confirmed disagreements, with `decide`-checked counter-examples at the end of the file).
Then, with `ks` the source set `add_entry` counts each peptide under (in pool order):
1. every row total of the summary table is the number of peptides counted under that source
   combination (`t.count s`, the number `get_stringified_summary_entry` prints);
2. the size of every database `k` (source, `-additional`, `Remaining`) is the number of peptides
   whose source set `splitFasta` files under `k`;
3. per key: for every source combination `s` (duplicate-free list of plain keys of the order)
   with at most `--max-source-groups` members, the database key is `str(s)` and the row total of
   `s` equals the number of records of that database (0 = 0 when neither exists).
-/
theorem summary_eq_split (x : CliOpts) (mg : Int) (addl : List SrcSet) (rule : Re) (exc : Option Re)
    (pool : List PRec) (dbs : Dbs) (t : SumTable)
    (hld : x.order.levelsDistinct = true) (hset : x.order.keysAreSets = true)
    (hnw : x.order.noWildKeys = true) (hns : noSharedLabel x.gvfs = true)
    (hs : cliSplit x mg addl pool = .ok dbs) (ht : cliSummarize x rule exc pool = .ok t) :
    ∃ ks : List (SrcSet × Nat), sumKeys x.sumEnv rule exc pool = .ok ks ∧
      (∀ s, t.count s = (ks.filter fun y => sameSet y.1 s).length) ∧
      (∀ k, (dbGet dbs k).length = (ks.filter fun y => cliKey x mg addl y.1 = k).length) ∧
      (∀ s : SrcSet, s.Nodup → (∀ y ∈ s, x.order.has (.one y) = true) → (s.length : Int) ≤ mg →
        cliKey x mg addl s = .sources (setStr x.order s).1 "" ∧
        t.count s = (dbGet dbs (.sources (setStr x.order s).1 "")).length) := by
  obtain ⟨wm, hid, hs'⟩ := cliSplit_ok hset hnw hns hs
  -- stated for `x.sumEnv.order`, so that the unifier does not look into `x.order`
  have e : x.sumEnv.order = x.order := by unfold CliOpts.sumEnv; rfl
  rw [← e] at hld hnw ⊢
  exact split_eq_summarize x.sumEnv rfl wm hid hld hnw mg addl rule exc pool dbs t hs' ht

/-- **summary_row_eq_db.**  The source combinations of the rows of `write_summary_table` are
drawn, in level order, from the plain keys of the order (`x.order.plain`; `itertools.combinations`).
Under the hypotheses of `summary_eq_split` and with pairwise distinct plain keys, for every such
combination `comb` of at most `--max-source-groups` sources: the `n_total` of its row equals the
number of records in the database with key `comb` (no suffix), and the file name part of that key,
`'-'.join(comb)`, is the row name.  (That this is the key `splitFasta` files `comb` under is part 3
of `summary_eq_split` with `setStr_sublist`.) -/
theorem summary_row_eq_db (x : CliOpts) (mg : Int) (addl : List SrcSet) (rule : Re)
    (exc : Option Re) (pool : List PRec) (dbs : Dbs) (t : SumTable)
    (hld : x.order.levelsDistinct = true) (hset : x.order.keysAreSets = true)
    (hnw : x.order.noWildKeys = true) (hns : noSharedLabel x.gvfs = true)
    (hpl : x.order.plain.Nodup)
    (hs : cliSplit x mg addl pool = .ok dbs) (ht : cliSummarize x rule exc pool = .ok t)
    (i : Nat) (comb : List Src) (hc : comb ∈ combos (i + 1) x.order.plain)
    (hfit : (comb.length : Int) ≤ mg) :
    t.count comb = (dbGet dbs (.sources comb "")).length ∧
    (DbKey.sources comb "").render = "-".intercalate comb := by
  have hsub := combos_sublist (i + 1) x.order.plain comb hc
  obtain ⟨ks, _, _, _, h4⟩ := summary_eq_split x mg addl rule exc pool dbs t hld hset hnw hns hs ht
  have hkeys : ∀ y ∈ comb, x.order.has (.one y) = true :=
    fun y hy => (has_one_iff x.order y).mpr (hsub.subset hy)
  obtain ⟨_, e⟩ := h4 comb (hsub.nodup hpl) hkeys hfit
  rw [setStr_sublist x.order hnw hpl comb hsub] at e
  exact ⟨e, congrArg ("-".intercalate) (List.append_nil comb)⟩

/-! ## non-vacuity -/

section examples
def f (x : String) : Field := x.toList

def env0 : SrcEnv :=
  { tx2gene := [(f "T1", f "G1"), (f "T2", f "G2")],
    getSource := sourceFirst [⟨"gSNP", "parseVEP", [(f "G1", f "SNV-1-A-T")]⟩,
                              ⟨"gINDEL", "parseVEP", [(f "G1", f "INDEL-5-AC-A")]⟩],
    group := [], wildcard := [],
    order := [(.one "gSNP", 0), (.one "gINDEL", 1), (.one "NovelORF", 2), (.one "SECT", 3),
              (.one "CodonReassign", 4)] }
def cfg0 : SplitCfg := { env := env0, maxGroups := 1, additional := [] }
def pep0 : PRec := ⟨"PEPTIDEK".toList,
  [[f "T1", f "SNV-1-A-T", f "INDEL-5-AC-A", f "1"], [f "T1", f "INDEL-5-AC-A", f "2"]]⟩

/-- the entry with the single source gINDEL wins over {gSNP, gINDEL}; the header is re-ordered -/
example : splitPep cfg0 pep0 = .ok (.sources ["gINDEL"] "",
    ⟨"PEPTIDEK".toList, [[f "T1", f "INDEL-5-AC-A", f "2"],
                         [f "T1", f "SNV-1-A-T", f "INDEL-5-AC-A", f "1"]]⟩) := by decide +kernel

example : intsGt [0, 1] [5] = true ∧ intsGt [1] [0] = true ∧ intsGt [0, 2] [0, 1] = true := by
  decide +kernel

example : (mergePools [[⟨"AAK".toList, [[f "T1", f "SNV-1-A-T", f "1"]]⟩],
                       [⟨"AAK".toList, [[f "T2", f "SNV-9-C-G", f "1"]]⟩, ⟨"CCK".toList, [[f "X"]]⟩]]) =
    [⟨"AAK".toList, [[f "T1", f "SNV-1-A-T", f "1"], [f "T2", f "SNV-9-C-G", f "1"]]⟩,
     ⟨"CCK".toList, [[f "X"]]⟩] := by
  -- a literal's `toList` is dear to evaluate (UTF-8 decoding): turn the literals into lists first
  unfold f
  repeat rw [String.toList_ofList]
  decide +kernel

example : (⟨"DECOY_".toList, true⟩ : DecoyCfg).str ≠ [] := by decide +kernel

/-! ### source_order_total -/

/-- an order with a combination key, as `--order-source B,A-B,A,C` gives it -/
def ord1 : Order := [(.one "B", 0), (.many ["A", "B"], 1), (.one "A", 2), (.one "C", 3)]

example : ord1.levelsDistinct = true ∧ ord1.injOn (keysOf [["A", "B"], ["C"]]) = true := by decide +kernel
/-- order and repetitions of the underlying collection do not matter; the combination key wins -/
example : toInt ord1 ["A", "B"] = some [1] ∧ toInt ord1 ["B", "A", "B"] = some [1] ∧
    toInt ord1 ["C", "A"] = some [2, 3] ∧ toInt ord1 ["A", "C", "A"] = some [2, 3] := by decide +kernel
example : srcGt ord1 ["C"] ["A", "B"] = some true ∧ srcGt ord1 ["A", "B"] ["C"] = some false ∧
    srcGt ord1 ["A", "C"] ["C"] = some true ∧ srcGt ord1 ["B", "A"] ["A", "B"] = some false ∧
    srcGt ord1 ["A"] ["D"] = none := by decide +kernel
/-- without injectivity `to_int` is not injective and two different sets are incomparable: the
hypothesis of part 3 of `source_order_total` is needed -/
example : let o : Order := [(.one "A", 0), (.one "B", 0)]
    o.levelsDistinct = false ∧ o.injOn (keysOf [["A"], ["B"]]) = false ∧
    toInt o ["A"] = toInt o ["B"] ∧ srcGt o ["A"] ["B"] = some false ∧
    srcGt o ["B"] ["A"] = some false := by decide +kernel
/-- the header of `pep0` in the other order goes to the same database -/
example : (splitPep cfg0 ⟨pep0.seq, pep0.header.reverse⟩).map (·.1) = (splitPep cfg0 pep0).map (·.1) := by
  decide +kernel

/-! ### encode_decode -/

def uuid0 : Nat → List Char := fun k => ("U" ++ toString k).toList
def decoy0 : DecoyCfg := ⟨"DECOY_".toList, true⟩
def recs0 : List (List Char × Pep) :=
  [("T1|SNV-1-A-T|1".toList, "AAK".toList), ("DECOY_T1|SNV-1-A-T|1".toList, "KAA".toList),
   ("T2|X|1".toList, "CCK".toList), ("T1|SNV-1-A-T|1".toList, "AAR".toList)]

instance (c : DecoyCfg) (uuid : Nat → List Char) (n : Nat) : Decidable (UuidOk c uuid n) := by
  unfold UuidOk; exact inferInstance

example : UuidOk decoy0 uuid0 recs0.length := by decide +kernel
/-- target and decoy of one header share the identifier; two dictionary lines for four records -/
example : (encode decoy0 uuid0 recs0).out.map (·.1) =
      ["U0".toList, "DECOY_U0".toList, "U1".toList, "U0".toList] ∧
    (encode decoy0 uuid0 recs0).dict =
      [("U0".toList, "T1|SNV-1-A-T|1".toList), ("U1".toList, "T2|X|1".toList)] := by
  unfold decoy0 recs0
  repeat rw [String.toList_ofList]
  decide +kernel
/-- `UuidOk`'s second half is needed: an identifier that starts with the decoy string is decoded
as a decoy -/
example : let c : DecoyCfg := ⟨"U".toList, true⟩
    let st := encode c uuid0 [("X".toList, "AAK".toList)]
    decode c st.dict (st.out.map (·.1))[0]! = none := by decide +kernel

/-! ### summary_eq_split -/

def kr : Re := [⟨[], .pos ['K', 'R'], []⟩]
def gvSNP : Gvf := ⟨"gSNP", "parseVEP", [(f "G1", f "SNV-1-A-T")]⟩
def gvINDEL : Gvf := ⟨"gINDEL", "parseVEP", [(f "G1", f "INDEL-5-AC-A")]⟩
/-- `--order-source gSNP,gINDEL`, two GVFs -/
def opts0 : CliOpts :=
  { order0 := [(.one "gSNP", 0), (.one "gINDEL", 1)], group := [], gvfs := [gvSNP, gvINDEL],
    tx2gene := [(f "T1", f "G1"), (f "T2", f "G2")] }
def pepSNP : PRec := ⟨"AAK".toList, [[f "T1", f "SNV-1-A-T", f "1"]]⟩
def pepBoth : PRec := ⟨"CCKR".toList, [[f "T1", f "SNV-1-A-T", f "INDEL-5-AC-A", f "3"]]⟩
def pool0 : List PRec := [pep0, pepSNP, pepBoth]

/-- the hypotheses of `summary_eq_split` hold for `opts0`, both commands succeed, three
databases / rows with a count -/
example : opts0.order.levelsDistinct = true ∧ opts0.order.keysAreSets = true ∧
    opts0.order.noWildKeys = true ∧ noSharedLabel opts0.gvfs = true ∧
    opts0.order.plain = ["gSNP", "gINDEL", "NovelORF", "SECT", "CodonReassign"] := by decide +kernel
example : (cliSplit opts0 2 [] pool0).map (·.map fun d => (d.1, d.2.length)) =
      .ok [(.sources ["gINDEL"] "", 1), (.sources ["gSNP"] "", 1),
           (.sources ["gSNP", "gINDEL"] "", 1)] ∧
    (cliSummarize opts0 kr none pool0).map (fun t =>
        (t.count ["gINDEL"], t.count ["gSNP"], t.count ["gSNP", "gINDEL"], t.count ["SECT"])) =
      .ok (1, 1, 1, 0) := by decide +kernel
/-- with `--max-source-groups 1` the two-source peptide goes to `Remaining`; part 2 of the theorem
still accounts for it -/
example : (cliSplit opts0 1 [] pool0).map (·.map fun d => (d.1, d.2.length)) =
      .ok [(.sources ["gINDEL"] "", 1), (.sources ["gSNP"] "", 1), (.remaining, 1)] := by decide +kernel

/-- **`hnw` is needed** (known finding `summary-vs-split-wildcard`): with `--order-source
gSNP,gINDEL-*` splitFasta files the two-source peptide under `gINDEL-ALL`, summarizeFasta counts it
under gSNP-gINDEL -/
example : let x : CliOpts := { opts0 with order0 := [(.one "gSNP", 0), (.many ["gINDEL", "*"], 1)] }
    x.order.noWildKeys = false ∧
    (cliSplit x 2 [] [pepBoth]).map (·.map fun d => (d.1, d.2.length)) =
      .ok [(.sources ["gINDEL"] "ALL", 1)] ∧
    (cliSummarize x kr none [pepBoth]).map (fun t => t.count ["gSNP", "gINDEL"]) = .ok 1 := by
  decide +kernel
/-- **`hns` is needed** (known finding `summary-vs-split-shared-label`): the label of the gSNP GVF
also occurs in the gINDEL GVF; splitFasta keeps the first source, summarizeFasta the last -/
example : let x : CliOpts := { opts0 with gvfs := [gvSNP, ⟨"gINDEL", "parseVEP", gvSNP.labels⟩] }
    noSharedLabel x.gvfs = false ∧
    (cliSplit x 2 [] [pepSNP]).map (·.map fun d => (d.1, d.2.length)) =
      .ok [(.sources ["gSNP"] "", 1)] ∧
    (cliSummarize x kr none [pepSNP]).map (fun t => (t.count ["gSNP"], t.count ["gINDEL"])) =
      .ok (0, 1) := by
  decide +kernel
end examples

end MoPepGen.Props.C18
