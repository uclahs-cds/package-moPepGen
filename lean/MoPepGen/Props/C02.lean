import MoPepGen.Props.C01
/-!
# C02 — soundness of callVariant  (PARTIAL: of the graph algorithm only `create_variant_graph` and `translate` are modelled)

Proved for all inputs: membership in the definition's set implies realizability in the sense of
the property (`callVariant_sound`), and the header-witness predicate that the harness evaluates
on every real (peptide, entry) pair implies realizability (`witness_sound`) — so a real output
whose entries pass the Lean witness check is sound even on inputs too large to enumerate
haplotypes.  The retry loop of `caller_reducer` only lowers limits (Props.C07 `reducer_*`).
Layer G: the language of the position automaton of the transcript variant graph is exactly
the language of the definition (`tvg_walk_iff`, `tvg_language_eq`, `tvgLang_is_automaton`).
Whether the real graph algorithm only emits members of the set is decided per input by
`harness/c02.py`.
-/
namespace MoPepGen.Props.C02
open MoPepGen MoPepGen.Spec MoPepGen.Props.C01

/-- S: `p` is realizable: some compatible combination of the supplied records, applied to the
transcript, gives a translation (from a permitted start) of which `p` is a digestion-product
form (Met-removed / Sec-terminated / W→F forms per the options) -/
def Realizable (g : Cfg) (t : TxIn) (vs : List Var) (p : Pep) : Prop :=
  ∃ h ∈ haplotypes t vs, ProductOf g t h p

/-- everything in the definition's set is realizable -/
theorem callVariant_sound (g : Cfg) (t : TxIn) (vs : List Var) (p : Pep)
    (h : p ∈ callVariant g t vs) : Realizable g t vs p :=
  ((spec_declarative g t vs p).mp h).1

/-- S: realizable by a combination in which adjacent same-class records are applied one after
the other (what a header entry naming both records describes) -/
def RealizableByRecords (g : Cfg) (t : TxIn) (vs : List Var) (ids : List Nat) (p : Pep) : Prop :=
  ∃ h : List Var, (∀ v ∈ h, ∃ w ∈ vs, usable t w = some v) ∧ separatedOrPaired h = true ∧
    (∀ v ∈ h, ∀ i ∈ v.ids, i ∈ ids) ∧ (∀ i ∈ ids, ∃ v ∈ h, i ∈ v.ids) ∧
    p ∈ peptidesOf g t (applyHap t.seq h) (secAfter t.sec h) t.endNF

theorem mem_sortByStart (l : List Var) (x : Var) : x ∈ sortByStart l ↔ x ∈ l :=
  mem_sortByStart_iff x l

/-- the checker the harness runs on every real header entry accepts only true witnesses: the
named records are usable input records, mutually compatible, exactly the ones applied, and the
peptide is a product form of the resulting transcript. -/
theorem witness_sound (g : Cfg) (t : TxIn) (vs : List Var) (ids : List Nat) (p : Pep)
    (h : witness g t vs ids p = true) : RealizableByRecords g t vs ids p := by
  simp only [witness, Bool.and_eq_true] at h
  obtain ⟨⟨hcover, hsep⟩, hp⟩ := h
  obtain ⟨hin, hnamed, hcov⟩ := named_records_spec rfl hcover
  exact ⟨_, hin, hsep, hnamed, hcov, List.contains_iff_mem.mp hp⟩

/-! ## Layer G — refinement checkpoints inside the graph algorithm (soundness side) -/

open MoPepGen.Graph in
/-- CP1, soundness: whatever walk the position automaton of the transcript variant graph
(`Graph.Walk`) admits takes records of the pool that are ascending and strictly separated, and
emits exactly the transcript carrying them. -/
theorem tvg_automaton_sound (seq : List Char) (pool : List Var) (w : List Char) (h : List Var)
    (hw : Walk seq pool 0 false w h) :
    (∀ v ∈ h, v ∈ pool) ∧ separated h = true ∧ w = applyHap seq h := by
  obtain ⟨h1, h2, h3⟩ := walk_sound seq pool 0 false w h hw
  exact ⟨h1, separated_of_sepFrom h 0 _ h2, h3⟩

open MoPepGen.Graph in
/-- every path the driver enumerates on a dump is a maximal path of that graph -/
theorem paths_sound (g : Graph) (i : Nat) (p : List Nat) (hp : p ∈ paths g i) : MaxPath g i p :=
  ((mem_pathsFrom_iff g _ i p).mp hp).1

open MoPepGen.Graph in
/-- non-vacuity: the automaton of `ACGT` with the SNV `C→T` at 1 has the walk taking it -/
example : Walk "ACGT".toList
    [{ start := 1, stop := 2, ref := ['C'], alt := ['T'], cls := .snv, ids := [0] }] 0 false
    "ATGT".toList [{ start := 1, stop := 2, ref := ['C'], alt := ['T'], cls := .snv, ids := [0] }] := by
  char_lists
  exact .ref rfl (.var (v := { start := 1, stop := 2, ref := ['C'], alt := ['T'], cls := .snv, ids := [0] })
    List.mem_cons_self (Nat.lt_succ_self 1) (.ref rfl (.ref rfl (.done (Nat.le_refl 4)))))

/-! non-vacuity: a concrete coding transcript with one SNV has exactly one combination -/
example : (haplotypes
    { seq := "ATGGCC".toList, coding := true, orfStart := 0, orfEnd := 6, startNF := false,
      endNF := false, sec := [] }
    [{ start := 3, stop := 4, ref := ['G'], alt := ['T'], cls := .snv, ids := [0] }]).length = 1 := by
  decide +kernel

/-! ## Layer G — the automaton's language IS the definition's language (CP1, both directions) -/

open MoPepGen.Graph in
/-- CP1 with the combination exposed: the position automaton has a walk taking exactly the
records `h` and emitting `w` iff `h` is a compatible combination of the definition (or empty:
the reference walk) and `w` is the transcript carrying it.  Hypothesis: the pool records lie
inside the transcript behind its first base and have non-empty reference spans (the first of
the three always holds, see `tvg_language_eq_of_spans`). -/
theorem tvg_walk_iff (t : TxIn) (vs : List Var) (w : List Char) (h : List Var)
    (hwf : ∀ v ∈ recordPool t vs, 0 < v.start ∧ v.start < v.stop ∧ v.stop ≤ t.seq.length) :
    Walk t.seq (recordPool t vs) 0 false w h ↔ h ∈ allHaps t vs ∧ w = applyHap t.seq h := by
  have hpos : ∀ v ∈ recordPool t vs, v.start ≤ v.stop := fun v hv => Nat.le_of_lt (hwf v hv).2.1
  constructor
  · intro hw
    obtain ⟨hmem, hsep, rfl⟩ := tvg_automaton_sound t.seq (recordPool t vs) w h hw
    refine ⟨?_, rfl⟩
    cases h with
    | nil => exact List.mem_cons_self
    | cons a rest =>
      exact List.mem_cons_of_mem _
        ((mem_haplotypes_iff t vs (a :: rest) hpos).mpr ⟨List.cons_ne_nil a rest, hsep, hmem⟩)
  · rintro ⟨hh, rfl⟩
    rcases List.mem_cons.mp hh with rfl | hh
    · exact walk_complete t.seq (recordPool t vs) t.seq.length 0 false [] (Nat.le_refl _)
        (fun _ hv => nomatch hv) trivial (fun _ hv => nomatch hv)
    · exact tvg_automaton_complete t vs h hh hwf

open MoPepGen.Graph in
/-- CP1 as an equality of languages.  For a record pool whose records lie inside the transcript
behind its first base and have non-empty reference spans, the sequences accepted by the position
automaton are EXACTLY the sequences of the definition: the transcript carrying some compatible
combination of the pool, or no record at all (the reference walk).  The right-hand side is the
sequence component of `tvgLang t vs 0` (`Props.C01.tvgLang_frame`), i.e. what `Driver/G.lean`
compares the dumped graph with. -/
theorem tvg_language_eq (t : TxIn) (vs : List Var) (w : List Char)
    (hwf : ∀ v ∈ recordPool t vs, 0 < v.start ∧ v.start < v.stop ∧ v.stop ≤ t.seq.length) :
    (∃ h, Walk t.seq (recordPool t vs) 0 false w h) ↔
      w ∈ (allHaps t vs).map (applyHap t.seq) := by
  simp only [tvg_walk_iff t vs w _ hwf, List.mem_map]
  exact exists_congr fun h => and_congr_right fun _ => eq_comm

open MoPepGen.Graph in
/-- `tvg_language_eq` without the hypothesis `0 < v.start`: every pool record starts behind the
start codon (`Props.C01.recordPool_behind_start_codon`).  What remains is: non-empty reference
span, inside the transcript. -/
theorem tvg_language_eq_of_spans (t : TxIn) (vs : List Var) (w : List Char)
    (hwf : ∀ v ∈ recordPool t vs, v.start < v.stop ∧ v.stop ≤ t.seq.length) :
    (∃ h, Walk t.seq (recordPool t vs) 0 false w h) ↔
      w ∈ (allHaps t vs).map (applyHap t.seq) :=
  tvg_language_eq t vs w fun v hv => ⟨Hap.pool_start_pos t vs v hv, hwf v hv⟩

open MoPepGen.Graph in
/-- CP1's right-hand side, labels included, IS the automaton: a (sequence, record ids) pair is
in `tvgLang t vs f` — what `Driver/G.lean` compares the dumped frame-`f` graph with — iff some
walk of the position automaton emits a sequence whose cut at `f` is that sequence while
taking records with exactly those ids. -/
theorem tvgLang_is_automaton (t : TxIn) (vs : List Var) (f : Nat) (s : List Char) (ids : List Nat)
    (hwf : ∀ v ∈ recordPool t vs, v.start < v.stop ∧ v.stop ≤ t.seq.length) :
    (s, ids) ∈ tvgLang t vs f ↔
      ∃ w h, Walk t.seq (recordPool t vs) 0 false w h ∧ s = w.drop f ∧ ids = hapIds h := by
  have hwf' : ∀ v ∈ recordPool t vs, 0 < v.start ∧ v.start < v.stop ∧ v.stop ≤ t.seq.length :=
    fun v hv => ⟨Hap.pool_start_pos t vs v hv, hwf v hv⟩
  simp only [tvgLang, List.mem_map, Prod.mk.injEq]
  constructor
  · rintro ⟨h, hh, rfl, rfl⟩
    exact ⟨_, h, (tvg_walk_iff t vs _ h hwf').mpr ⟨hh, rfl⟩, rfl, rfl⟩
  · rintro ⟨w, h, hw, rfl, rfl⟩
    obtain ⟨hh, rfl⟩ := (tvg_walk_iff t vs w h hwf').mp hw
    exact ⟨h, hh, rfl, rfl⟩

/-! non-vacuity of `tvg_language_eq` / `tvg_walk_iff` / `tvg_language_eq_of_spans` /
`tvgLang_is_automaton`: the two-SNV transcript of `Props.C01` satisfies the hypotheses, and its
language has four members -/
example : ∀ v ∈ recordPool nvTx [nvB, nvA], 0 < v.start ∧ v.start < v.stop ∧ v.stop ≤ nvTx.seq.length := by
  unfold nvTx
  char_lists
  decide +kernel

open MoPepGen.Graph in
example : (allHaps nvTx [nvB, nvA]).map (applyHap nvTx.seq) =
    ["ATGGCCAAATAG".toList, "ATGTCCAAATAG".toList, "ATGGCCACATAG".toList, "ATGTCCACATAG".toList] := by
  unfold nvTx
  char_lists
  decide +kernel

open MoPepGen.Graph in
/-- the automaton of the example accepts the sequence carrying both SNVs (through the theorem) -/
example : ∃ h, Walk nvTx.seq (recordPool nvTx [nvB, nvA]) 0 false "ATGTCCACATAG".toList h :=
  (tvg_language_eq nvTx [nvB, nvA] _ (by unfold nvTx; char_lists; decide +kernel)).mpr
    (by unfold nvTx; char_lists; decide +kernel)

open MoPepGen.Graph in
/-- frame 1 of the example: the automaton has a walk with the labels of both records -/
example : ∃ w h, Walk nvTx.seq (recordPool nvTx [nvB, nvA]) 0 false w h ∧
    "TGTCCACATAG".toList = w.drop 1 ∧ [0, 1] = hapIds h :=
  (tvgLang_is_automaton nvTx [nvB, nvA] 1 _ _ (by unfold nvTx; char_lists; decide +kernel)).mp
    (by unfold nvTx; char_lists; decide +kernel)

open MoPepGen.Graph in
/-- … and no sequence outside the definition's language, e.g. one with an unsupplied change -/
example : ¬ ∃ h, Walk nvTx.seq (recordPool nvTx [nvB, nvA]) 0 false "ATGTCCACATAA".toList h := by
  rw [tvg_language_eq nvTx [nvB, nvA] _ (by unfold nvTx; char_lists; decide +kernel)]
  unfold nvTx
  char_lists
  decide +kernel

end MoPepGen.Props.C02
