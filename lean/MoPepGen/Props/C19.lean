import MoPepGen.Lemmas.Filter
import MoPepGen.Lemmas.ListAux
/-!
# C19 — filterFasta keeps exactly the entries satisfying its criteria

`filterPool`, `filterPep`, `keepEntry`, `entryView`, `normLabel` are the models of
`VariantPeptidePool.filter` and of the label helpers (tied to /repo by the correspondence
streams `filter`, `norm`, `view`); `KeepRule` is the rule as the property states it.  All
theorems are about runs that do not raise (`= .ok …`), for arbitrary pools, tables and flag
combinations.
-/
namespace MoPepGen.Props.C19
open MoPepGen

/-- A header entry (in the form `filter` sees it, `str(variant_id)`) is
kept iff it satisfies the stated rule: not denylisted unless canonical and keep-canonical,
and exempt (keep-all-noncoding / keep-all-coding / no table / fusion / circRNA /
splice-altering) or all its transcripts expressed at or above the cutoff. -/
theorem filter_entry_iff (c : FCfg) (denied : Bool) (l : Entry) (b : Bool)
    (h : keepEntry c denied l = .ok b) :
    ∃ v, entryView l = .ok v ∧ (b = true ↔ KeepRule c denied v) := by
  unfold keepEntry at h
  cases hv : entryView l with
  | error e => rw [hv] at h; cases h
  | ok v =>
    rw [hv] at h
    exact ⟨v, rfl, keepView_iff c denied v b h⟩

theorem head_splitOnC_prefix (c : Char) : ∀ x : List Char, ((splitOnC c x).headD []) <+: x := by
  intro x
  induction x with
  | nil => simp [splitOnC]
  | cons a t ih =>
    unfold splitOnC
    by_cases hac : (a == c) = true
    · simp [hac]
    · simp only [hac]
      cases hs : splitOnC c t with
      | nil => simp
      | cons hd tl =>
        rw [hs] at ih
        simp only [List.headD_cons] at ih ⊢
        exact (List.prefix_cons_inj a).mpr ih

theorem isInfix_of_prefix (y x : List Char) (h : y <+: x) : isInfix y x = true := by
  cases x with
  | nil =>
    have : y = [] := List.prefix_nil.mp h
    subst this; simp [isInfix]
  | cons a t =>
    have : y.isPrefixOf (a :: t) = true := List.isPrefixOf_iff_prefix.mpr h
    simp [isInfix, this]

/-- Since `fix:` commit 44abca4 in /repo (which compares the variant TYPE instead of testing
`'SE' in id`) the code's splice flag equals the type-based definition for every entry: an entry is
splice-altering iff it is a base-variant entry carrying a variant whose type is
SE / A5SS / A3SS / RI / MXE. -/
theorem splice_flag_eq_spec (d : Ident) : d.isSpliceAltering = d.hasSpliceVariant :=
  rfl

/-- in particular the flag is implied by the type-based definition -/
theorem splice_spec_imp_flag (d : Ident) (h : d.hasSpliceVariant = true) :
    d.isSpliceAltering = true :=
  (splice_flag_eq_spec d).trans h

/-- A peptide is kept iff its miscleavage count is within the range and
some entry of its (normalised) header is kept; the kept record has the same sequence and
exactly the kept entries, in order. -/
theorem filter_peptide_iff (c : FCfg) (p : PRec) (r : Option PRec) (h : filterPep c p = .ok r) :
    (r.isSome = true ↔ miscOk c p.seq = true ∧ ∃ labels, normHeader p.header = .ok labels ∧
        ∃ l ∈ labels, keepEntry c (isDenied c p.seq) l = .ok true) ∧
    (∀ q, r = some q → q.seq = p.seq ∧ ∃ labels, normHeader p.header = .ok labels ∧
        q.header = labels.filter (keptB c (isDenied c p.seq))) := by
  rcases filterPep_spec c p r h with ⟨hm, rfl⟩ | ⟨hm, labels, hn, _, ⟨hnil, rfl⟩ | ⟨hne, rfl⟩⟩
  · refine ⟨iff_of_false Bool.false_ne_true fun hh => ?_, fun q hq => nomatch hq⟩
    rw [hm] at hh
    cases hh.1
  · refine ⟨iff_of_false Bool.false_ne_true ?_, fun q hq => nomatch hq⟩
    rintro ⟨_, labels', hn', l, hl, hk⟩
    cases hn.symm.trans hn'
    have : l ∈ labels.filter (keptB c (isDenied c p.seq)) :=
      List.mem_filter.mpr ⟨hl, keptB_iff.mpr hk⟩
    rw [hnil] at this
    cases this
  · refine ⟨iff_of_true rfl ⟨hm, labels, hn, ?_⟩, fun q hq => ?_⟩
    · obtain ⟨l, hl⟩ := List.exists_mem_of_ne_nil _ hne
      exact ⟨l, (List.mem_filter.mp hl).1, keptB_iff.mp (List.mem_filter.mp hl).2⟩
    · cases hq
      exact ⟨rfl, labels, hn, rfl⟩

/-- the pool filter is the peptide filter applied to every record -/
theorem filter_pool_eq (c : FCfg) (pool out : List PRec) (h : filterPool c pool = .ok out) :
    out = pool.filterMap (fun p => match filterPep c p with | .ok r => r | .error _ => none) :=
  (filterPool_spec c pool out h).2

theorem filterPep_some_sub (c : FCfg) (p q : PRec) (h : filterPep c p = .ok (some q)) :
    q.seq = p.seq ∧ ∃ labels, normHeader p.header = .ok labels ∧ q.header.Sublist labels := by
  obtain ⟨h1, labels, h2, h3⟩ := (filter_peptide_iff c p _ h).2 q rfl
  exact ⟨h1, labels, h2, by rw [h3]; exact List.filter_sublist⟩

/-- The output is a sub-collection of the input: the output sequences are a
sub-list of the input sequences (unchanged), and every output record comes from an input record
with the same sequence whose normalised header contains the output header as a sub-list. -/
theorem filter_sub (c : FCfg) :
    ∀ (pool out : List PRec), filterPool c pool = .ok out →
      (out.map (·.seq)).Sublist (pool.map (·.seq)) ∧
      ∀ q ∈ out, ∃ p ∈ pool, q.seq = p.seq ∧
        ∃ labels, normHeader p.header = .ok labels ∧ q.header.Sublist labels := by
  intro pool out h
  constructor
  · obtain ⟨hall, rfl⟩ := filterPool_spec c pool out h
    -- the input is the selection that keeps every record as it is
    have key := filterMap_map_sublist (l := pool) (g := some) (k := (·.seq))
      (f := fun p => match filterPep c p with | .ok r => r | .error _ => none) ?_
    · rwa [List.filterMap_some] at key
    · intro p hp q hq
      obtain ⟨r, hr⟩ := hall p hp
      rw [hr] at hq
      exact ⟨p, rfl, ((filterPep_some_sub c p q (hr.trans (congrArg Except.ok hq))).1).symm⟩
  · intro q hq
    obtain ⟨p, hp, hpq⟩ := (mem_filterPool h q).mp hq
    exact ⟨p, hp, filterPep_some_sub c p q hpq⟩

/-- well-formedness needed for idempotence: normalising a normalised entry changes nothing
(`str ∘ parse` is idempotent on it).  Decidable for every concrete entry. -/
def NormIdem (e : Entry) : Prop := ∀ l, normLabel e = .ok l → normLabel l = .ok l

theorem filterPep_idem (c : FCfg) (p q : PRec) (hwf : ∀ e ∈ p.header, NormIdem e)
    (h : filterPep c p = .ok (some q)) : filterPep c q = .ok (some q) := by
  rcases filterPep_spec c p _ h with ⟨_, hr⟩ | ⟨hm, labels, hn, _, hcase⟩
  · cases hr
  · rcases hcase with ⟨_, hr⟩ | ⟨hne, hr⟩
    · cases hr
    · cases hr
      have hfix : ∀ l ∈ labels.filter (keptB c (isDenied c p.seq)), normLabel l = .ok l := by
        intro l hl
        obtain ⟨e, he, hnl⟩ := normHeader_mem _ _ hn l (List.mem_filter.mp hl).1
        exact hwf e he l hnl
      have hkeep : ∀ l ∈ labels.filter (keptB c (isDenied c p.seq)),
          keepEntry c (isDenied c p.seq) l = .ok true :=
        fun l hl => keptB_iff.mp (List.mem_filter.mp hl).2
      unfold filterPep
      simp only [hm, Bool.not_true, Bool.false_eq_true, if_false]
      rw [normHeader_fix _ hfix]
      simp only
      rw [keepLabels_all _ _ _ hkeep]
      cases hf : labels.filter (keptB c (isDenied c p.seq)) with
      | nil => exact absurd hf hne
      | cons k ks => rfl

/-- Filtering a filtered pool again with the same options returns it unchanged
(for pools whose header entries are stable under `str ∘ parse`). -/
theorem filter_idem (c : FCfg) (pool out : List PRec)
    (hwf : ∀ p ∈ pool, ∀ e ∈ p.header, NormIdem e)
    (h : filterPool c pool = .ok out) : filterPool c out = .ok out := by
  apply filterPool_fix
  intro q hq
  obtain ⟨p, hp, hpq⟩ := (mem_filterPool h q).mp hq
  exact filterPep_idem c p q (hwf p hp) hpq

/-- `a` is a sub-collection of `b`: its sequences are a sub-list of those of `b`, headers thinned -/
def PoolSub (a b : List PRec) : Prop :=
  (a.map (·.seq)).Sublist (b.map (·.seq)) ∧
  ∀ q' ∈ a, ∃ q ∈ b, q.seq = q'.seq ∧ q'.header.Sublist q.header

/-- generic monotonicity: if `c'` accepts no more miscleavage counts and no more entries than
`c` (same denylist), its output is a sub-collection of `c`'s output -/
theorem filterPool_mono (c c' : FCfg)
    (hm : ∀ s, miscOk c' s = true → miscOk c s = true)
    (hd : ∀ s, isDenied c' s = isDenied c s)
    (hk : ∀ d l, keepEntry c' d l = .ok true → ∀ b, keepEntry c d l = .ok b → b = true) :
    ∀ (pool out out' : List PRec), filterPool c pool = .ok out → filterPool c' pool = .ok out' →
      PoolSub out' out := by
  have hpep : ∀ p q' r, filterPep c' p = .ok (some q') → filterPep c p = .ok r →
      ∃ q, r = some q ∧ q.seq = q'.seq ∧ q'.header.Sublist q.header := by
    intro p q' r h' h
    rcases filterPep_spec c' p _ h' with ⟨_, hr⟩ | ⟨hm', labels', hn', _, hcase'⟩
    · cases hr
    rcases hcase' with ⟨_, hr⟩ | ⟨hne', hr'⟩
    · cases hr
    cases hr'
    rcases filterPep_spec c p _ h with ⟨hmf, _⟩ | ⟨_, labels, hn, hall, hcase⟩
    · rw [hm _ hm'] at hmf; cases hmf
    rw [hn'] at hn; cases hn
    have hsub : (labels'.filter (keptB c' (isDenied c' p.seq))).Sublist
        (labels'.filter (keptB c (isDenied c p.seq))) := by
      apply filter_sublist_of_imp
      intro l hl hkl
      obtain ⟨b, hb⟩ := hall l hl
      rw [hd] at hkl
      have := hk _ l (keptB_iff.mp hkl) b hb
      subst this
      exact keptB_iff.mpr hb
    rcases hcase with ⟨hnil, _⟩ | ⟨_, hr⟩
    · rw [hnil] at hsub
      exact absurd (List.sublist_nil.mp hsub) hne'
    · exact ⟨_, hr, rfl, hsub⟩
  intro pool out out' h h'
  obtain ⟨hall, hout⟩ := filterPool_spec c pool out h
  constructor
  · obtain ⟨hall', rfl⟩ := filterPool_spec c' pool out' h'
    subst hout
    apply filterMap_map_sublist
    intro p hp q' hq'
    obtain ⟨r', hr'⟩ := hall' p hp
    obtain ⟨r, hr⟩ := hall p hp
    rw [hr'] at hq'
    obtain ⟨q, rfl, hs, _⟩ := hpep p q' r (hr'.trans (congrArg Except.ok hq')) hr
    exact ⟨q, by rw [hr], hs⟩
  · intro q' hq'
    obtain ⟨p, hp, hpq'⟩ := (mem_filterPool h' q').mp hq'
    obtain ⟨r, hr⟩ := hall p hp
    obtain ⟨q, rfl, hs, hl⟩ := hpep p q' r hpq' hr
    exact ⟨q, (mem_filterPool h q).mpr ⟨p, hp, hr⟩, hs, hl⟩

/-- A stricter (higher) cutoff never keeps more: the output under the
higher cutoff is a sub-collection of the output under the lower one. -/
theorem filter_mono_cutoff (c : FCfg) (k k' : Int) (hc : c.cutoff = some k) (hkk : k ≤ k')
    (pool out out' : List PRec)
    (h : filterPool c pool = .ok out)
    (h' : filterPool { c with cutoff := some k' } pool = .ok out') : PoolSub out' out := by
  refine filterPool_mono c { c with cutoff := some k' } (fun _ hm => hm) (fun _ => rfl) ?_
    pool out out' h h'
  intro d l hk' b hb
  obtain ⟨v', hv', hiff'⟩ := filter_entry_iff _ d l true hk'
  obtain ⟨v, hv, hiff⟩ := filter_entry_iff c d l b hb
  rw [hv'] at hv; cases hv
  exact hiff.mpr (keepRule_mono_cutoff c k k' hc hkk d v' (hiff'.mp rfl))

/-- `[lo', hi']` is inside `[lo, hi]` (`none` = unbounded) -/
def RangeNarrower (lo hi lo' hi' : Option Int) : Prop :=
  (∀ a, lo = some a → ∃ a', lo' = some a' ∧ a ≤ a') ∧
  (∀ b, hi = some b → ∃ b', hi' = some b' ∧ b' ≤ b)

/-- A narrower miscleavage range never keeps more. -/
theorem filter_mono_misc (c : FCfg) (lo' hi' : Option Int)
    (hn : RangeNarrower c.miscLo c.miscHi lo' hi')
    (pool out out' : List PRec)
    (h : filterPool c pool = .ok out)
    (h' : filterPool { c with miscLo := lo', miscHi := hi' } pool = .ok out') :
    PoolSub out' out := by
  refine filterPool_mono c { c with miscLo := lo', miscHi := hi' } ?_ (fun _ => rfl) ?_
    pool out out' h h'
  · intro s hm
    rw [miscOk_iff] at hm ⊢
    constructor
    · intro a ha
      obtain ⟨a', ha', hle⟩ := hn.1 a ha
      exact Int.le_trans hle (hm.1 a' ha')
    · intro b hb
      obtain ⟨b', hb', hle⟩ := hn.2 b hb
      exact Int.le_trans (hm.2 b' hb') hle
  · intro d l hk' b hb
    have : keepEntry { c with miscLo := lo', miscHi := hi' } d l = keepEntry c d l := rfl
    rw [this] at hk'
    rw [hk'] at hb
    cases hb; rfl

/-! ## non-vacuity -/

section examples
def s (x : String) : Field := x.toList

def tab0 : List (Field × Int) := [(s "T1", 5000), (s "T2", 500), (s "T1", 12000)]
def cfg0 : FCfg :=
  { exprs := some tab0, cutoff := some 10000, coding := [s "T1"], keepNoncoding := false,
    keepCoding := false, keepCanonical := false, denylist := some [s "DENIED"], miscLo := some 0,
    miscHi := some 2, rule := [], exc := none }

/-- Evaluate a test vector in the kernel, after turning every string literal into its
character list by one rewrite: decoding the literals inside the kernel costs more than the
filter. -/
macro "eval_chars" : tactic =>
  `(tactic| (unfold s; (repeat rw [String.toList_ofList]); decide +kernel))

/-- last assignment wins in the table; T1 (12.0 ≥ 10.0) is kept, T2 is not, the fusion is -/
example : keepEntry cfg0 false [s "T1", s "SNV-1-A-T", s "1"] = .ok true := by
  unfold cfg0 tab0
  eval_chars
example : keepEntry cfg0 false [s "T2", s "SNV-1-A-T", s "1"] = .ok false := by
  unfold cfg0 tab0
  eval_chars
example : keepEntry cfg0 false [s "FUSION-T2:1-T2:9", s "1"] = .ok true := by
  unfold cfg0 tab0
  eval_chars
example : keepEntry cfg0 true [s "T1", s "SNV-1-A-T", s "1"] = .ok false := by
  unfold cfg0 tab0
  eval_chars
example : keepEntry { cfg0 with keepCanonical := true } true [s "T1", s "SNV-1-A-T", s "1"] =
    .ok true := by
  unfold cfg0 tab0
  eval_chars
/-- a missing transcript is a KeyError, not a decision -/
example : keepEntry cfg0 false [s "T9", s "SNV-1-A-T", s "1"] = .error .keyError := by
  unfold cfg0 tab0
  eval_chars

/-- `SECT-…` (selenocysteine termination) is not splice-altering although it contains `SE`
(it was, before `fix:` commit 44abca4) -/
example : (Ident.mk .base (s "T2") none [s "SECT-5"] [] [] none (some 1)).isSpliceAltering = false ∧
    (Ident.mk .base (s "T2") none [s "SE-5-9"] [] [] none (some 1)).isSpliceAltering = true := by
  eval_chars

/-- entries of the documented grammar are `NormIdem` … -/
example : normLabel [s "T1", s "SNV-1-A-T", s "W2F-3", s "ORF2", s "4"] =
    .ok [s "T1", s "SNV-1-A-T", s "W2F-3", s "ORF2", s "4"] := by eval_chars
example : normLabel [s "T1", s "G1", s "W2F-3", s "ORF2", s "4"] =
    .ok [s "T1", s "G1", s "W2F-3", s "ORF2", s "4"] := by eval_chars
/-- … a novel-ORF entry without gene id is not: each pass adds a field -/
example : normLabel [s "T1", s "W2F-3", s "ORF2", s "4"] =
    .ok [s "T1", s "W2F-3", s "W2F-3", s "ORF2", s "4"] := by eval_chars

example : RangeNarrower (some 0) (some 2) (some 1) (some 2) := by
  refine ⟨fun a h => ⟨1, rfl, ?_⟩, fun b h => ⟨2, rfl, ?_⟩⟩
  · cases h; decide
  · cases h; decide
end examples

end MoPepGen.Props.C19
