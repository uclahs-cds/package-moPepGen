import MoPepGen.Lemmas.Pipeline
/-!
# C04 — output hygiene

For ANY per-unit results (the graph callers are data): every sequence that reaches the
callVariant table/FASTA passed `is_valid` (length window, minimum mass, not in the
canonical pool — which by C10 `pool_closed_iToL` also holds every I→L image), each sequence
is one FASTA record, and the table lists exactly the (sequence, header entry) pairs of the
FASTA.  Same for the pool filter used by callNovelORF / callAltTranslation.
"No X / stop symbol" and "row sub-sequence = stated slice" depend on what the graph callers
return and are checked directly on the real outputs by the harness.
-/
namespace MoPepGen.Props.C04
open MoPepGen MoPepGen.Pipe

/-- S: what `is_valid = true` means -/
theorem isValid_spec (c : Limits) (p : Pep) (h : isValid c p = some true) :
    ∃ w, molWeight c.tab c.water p = some w ∧ c.minMw ≤ w ∧
      c.minLen ≤ p.length ∧ p.length ≤ c.maxLen ∧ p ∉ c.canonical := by
  unfold isValid at h
  cases hw : molWeight c.tab c.water p with
  | none => rw [hw] at h; cases h
  | some w =>
    simp only [hw, Option.some.injEq, Bool.and_eq_true, Bool.not_eq_true', decide_eq_false_iff_not,
      Bool.or_eq_false_iff, List.contains_eq_mem] at h
    exact ⟨w, rfl, Int.not_lt.1 h.1.1, Nat.not_lt.1 h.1.2.1, Nat.not_lt.1 h.1.2.2, h.2⟩

/-- HYGIENE: every sequence written to the callVariant FASTA is within the length window,
not lighter than `min_mw`, and not in the canonical pool. -/
theorem final_valid (c : Limits) (skip : Bool) (threads : Nat) (g : List (Option TxUnits))
    (t : Table) (ty : Tally) (h : runAll c skip threads g = some (t, ty)) (s : Pep)
    (hs : s ∈ t.fasta.map (·.1)) :
    ∃ w, molWeight c.tab c.water s = some w ∧ c.minMw ≤ w ∧
      c.minLen ≤ s.length ∧ s.length ≤ c.maxLen ∧ s ∉ c.canonical := by
  rw [fasta_keys] at hs
  exact isValid_spec c s ((run_inv c skip threads g t ty h).valid s hs)

/-- each sequence occurs exactly once in the FASTA -/
theorem fasta_unique (c : Limits) (skip : Bool) (threads : Nat) (g : List (Option TxUnits))
    (t : Table) (ty : Tally) (h : runAll c skip threads g = some (t, ty)) :
    (t.fasta.map (·.1)).Nodup := by
  rw [fasta_keys]
  exact (run_inv c skip threads g t ty h).nodup

/-- the table lists exactly the (sequence, header entry) pairs of the FASTA -/
theorem table_fasta_same_pairs (c : Limits) (skip : Bool) (threads : Nat)
    (g : List (Option TxUnits)) (t : Table) (ty : Tally)
    (h : runAll c skip threads g = some (t, ty)) (s : Pep) (l : Label) :
    (s, l) ∈ t.rows ↔ ∃ ls, (s, ls) ∈ t.fasta ∧ l ∈ ls := by
  rw [(run_inv c skip threads g t ty h).pairs, fasta_pairs]

/-- every sequence in the pool written by callNovelORF / callAltTranslation is within the
limits and non-canonical, and occurs once -/
theorem pool_add_valid (c : Limits) (adds : List (Pep × Label)) (pool : List (Pep × List Label))
    (h : poolAddAll c [] adds = some pool) :
    (pool.map (·.1)).Nodup ∧ ∀ s ∈ pool.map (·.1),
      ∃ w, molWeight c.tab c.water s = some w ∧ c.minMw ≤ w ∧
        c.minLen ≤ s.length ∧ s.length ≤ c.maxLen ∧ s ∉ c.canonical := by
  have := poolAddAll_valid c adds [] pool List.nodup_nil (fun _ h => nomatch h) h
  exact ⟨this.1, fun s hs => isValid_spec c s (this.2 s hs)⟩

end MoPepGen.Props.C04
