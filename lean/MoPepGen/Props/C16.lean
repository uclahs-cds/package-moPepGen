import MoPepGen.Lemmas.Rmats
import MoPepGen.Lemmas.RmatsEvent
/-!
# C16 — parseRMATS records reproduce the alternative isoform

Layer S (`Model/RmatsSpec.lean`): `applyAS` = the documented meaning of a Deletion /
Insertion / Substitution record on a transcript sequence, `seqOfExons` = the sequence of an
exon list on a strand, `HasJunction`.  Layer M (`Model/Rmats.lean`): the Python, function by
function.  All theorems are for arbitrary exon lists (`pre`, `post` of any length), arbitrary
chromosomes, both strands (`g.strand` is not fixed, except in the `a5ss_spec_*` / `a3ss_spec_*`
theorems, which come one per strand) and arbitrary thresholds.

Hypotheses are the decidable well-formedness predicates of C11 (`Transcript.WF`: exons
non-empty, ascending, separated by ≥ 1 base; `Transcript.Within`: inside the gene, same strand)
plus `g.loc.stop ≤ chrom.length`; "the event's exons coincide with exons of the transcript" is
the explicit shape `t.exons = pre ++ … ++ post` with the junction ends equal to the row's.

Contents: RI (both forms, both no-emit rules); junction novelty and the no-emit rules of all
types; SE / A5SS / A3SS / MXE end to end (`se_skip_spec`, `se_include_spec`, `se_*_exact`,
`a5ss_spec_*`, `a3ss_spec_*`, `mxe_spec_*`): every record emitted for a transcript that carries one
of the two forms of the event, with the event's exons consecutive in the transcript, reproduces
the other form — the alignment step (`align_to_transcript`, interjacent / spanning exons, the
cascade of `convert_to_variant_records`) is part of the proof (`Lemmas/RmatsAlign.lean`,
`Lemmas/RmatsEvent.lean`).  Transcripts that match an event only partially are outside these
statements (differential streams `aln` / `event` and the direct predicate of `harness/c16.py`).
-/
namespace MoPepGen.Props.C16
open MoPepGen MoPepGen.Rmats

/-! ## non-vacuity: concrete values satisfying the hypotheses -/

def exGene : Gene := { strand := .minus, loc := ⟨2, 60⟩ }
def exSpliced : Transcript := { strand := .minus, exons := [⟨4, 9⟩, ⟨12, 20⟩, ⟨25, 31⟩, ⟨40, 52⟩] }
def exRetained : Transcript := { strand := .minus, exons := [⟨4, 9⟩, ⟨12, 31⟩, ⟨40, 52⟩] }
def exRI : RI := { us := 12, ue := 20, ds := 25, de := 31, ijc := 3, sjc := 2 }
def exChrom : List Char := (List.replicate 16 "ACGT".toList).flatten

example : exSpliced.WF ∧ exSpliced.Within exGene ∧ exRetained.WF ∧ exRetained.Within exGene
    ∧ exGene.loc.stop ≤ exChrom.length := by decide +kernel
/-- the spliced isoform gets the Insertion of the intron, the retained isoform (alone) the
Deletion; with both annotated nothing is emitted -/
example : riConvert exRI exGene [exSpliced] 1 1 = .ok [(0, ⟨.insertion, 34, 35, 35, 40⟩)] := by
  decide +kernel
example : riConvert exRI exGene [exRetained] 1 1 = .ok [(0, ⟨.deletion, 35, 40, 0, 0⟩)] := by
  decide +kernel
example : riConvert exRI exGene [exSpliced, exRetained] 1 1 = .ok [] := by decide +kernel
example : applyAS exGene exSpliced.exons (seqOfExons exChrom .minus exSpliced.exons)
    (geneSeq exChrom exGene) ⟨.insertion, 34, 35, 35, 40⟩
    = seqOfExons exChrom .minus exRetained.exons := by decide +kernel


/-- `seqOfExons` is what `get_transcript_sequence` returns (C11's `txSeq`) -/
theorem txSeq_eq_seqOfExons (chrom : List Char) (t : Transcript) (h : t.exons ≠ []) :
    txSeq chrom t = .ok (seqOfExons chrom t.strand t.exons) := by
  unfold txSeq seqOfExons
  rw [if_neg h]
  cases t.strand <;> rfl


/-- **Retained intron, spliced isoform.**  A record of `RIRecord.convert_to_variant_records`
tagged with a transcript that has the two exons of the event adjacent (`… U D …`, `U` ending at
`upstreamEE`, `D` starting at `downstreamES`), applied to that transcript's sequence, gives the
sequence of the isoform in which the intron is retained (`U` and `D` fused into one exon). -/
theorem ri_retain_spec (chrom : List Char) (g : Gene) (txs : List Transcript) (v : RI)
    (minIjc minSjc : Nat) (out : List (Nat × ASRec)) (i : Nat) (r : ASRec) (t : Transcript)
    (pre post : List Iv) (U D : Iv)
    (hout : riConvert v g txs minIjc minSjc = .ok out) (hm : (i, r) ∈ out)
    (hi : txs[i]? = some t) (he : t.exons = pre ++ U :: D :: post)
    (hw : t.WF) (hg : t.Within g) (hc : g.loc.stop ≤ chrom.length)
    (hU : U.stop = v.ue) (hD : D.start = v.ds) :
    applyAS g t.exons (seqOfExons chrom t.strand t.exons) (geneSeq chrom g) r
      = seqOfExons chrom t.strand (pre ++ ⟨U.start, D.stop⟩ :: post) := by
  have hin := inGene_of_within hw hg
  have hUin := hin U (he ▸ List.mem_append_cons_self)
  have hDin := hin D (he.trans (List.append_cons ..) ▸ List.mem_append_cons_self)
  have hch := chain2_of_wf hw he
  have hud : v.ue < v.ds := hU ▸ hD ▸ hch.hPQ
  obtain ⟨s, e, hco, hcase⟩ := riConvert_mem hout hm
  rw [riCoords_eq (hU ▸ Nat.le_trans hUin.1 hUin.2.1) hud
    (hD ▸ Nat.le_trans hDin.2.1 hDin.2.2)] at hco
  cases hco
  rcases hcase with ⟨_, _, _, _, hr⟩ | ⟨hret, _, _, _⟩
  · -- the Insertion of the intron, then `U`, the intron and `D` are one exon
    have hr' : r = insRec g (match g.strand with | .plus => U.stop | .minus => D.start)
        ⟨v.ue, v.ds⟩ := by
      rw [hr, hU, hD, insRec, geneIv_start_eq_cut]
      rfl
    rw [hr', hg.1]
    refine (insert_between he hin (D := ⟨v.ue, v.ds⟩) hc hch.below hch.hP (Nat.le_of_eq hU)
      (Nat.le_of_lt hud) (Nat.le_of_eq hD.symm) hch.hQ hch.above).trans ?_
    rw [seqOfExons_merge2 chrom _ pre _ (Y := ⟨v.ue, v.ds⟩) (Nat.le_of_lt hch.hP) hU
        (Nat.le_of_lt hud),
      seqOfExons_merge2 chrom _ pre _ (X := ⟨U.start, v.ds⟩)
        (Nat.le_of_lt (Nat.lt_trans hch.hP (hD ▸ hch.hPQ))) hD.symm (Nat.le_of_lt hch.hQ)]
  · -- a Deletion is only emitted for transcripts the walk found retained
    obtain ⟨_, t', ht', hpos⟩ := mem_riRetained hret
    rw [Nat.sub_zero, hi] at ht'
    cases ht'
    rw [he, riWalk_spliced_form hch.hp hch.hP hU hD]
      at hpos
    cases hpos

/-- **Retained intron, retained isoform.**  A record emitted for a transcript one of whose
exons `R` spans the intron of the event (`R.start < upstreamEE < downstreamES < R.stop`) gives
the sequence of the isoform in which the intron is spliced out (`R` split into
`[R.start, upstreamEE)` and `[downstreamES, R.stop)`). -/
theorem ri_splice_spec (chrom : List Char) (g : Gene) (txs : List Transcript) (v : RI)
    (minIjc minSjc : Nat) (out : List (Nat × ASRec)) (i : Nat) (r : ASRec) (t : Transcript)
    (pre post : List Iv) (R : Iv)
    (hout : riConvert v g txs minIjc minSjc = .ok out) (hm : (i, r) ∈ out)
    (hi : txs[i]? = some t) (he : t.exons = pre ++ R :: post)
    (hw : t.WF) (hg : t.Within g) (hc : g.loc.stop ≤ chrom.length)
    (h1 : R.start < v.ue) (h2 : v.ue < v.ds) (h3 : v.ds < R.stop) :
    applyAS g t.exons (seqOfExons chrom t.strand t.exons) (geneSeq chrom g) r
      = seqOfExons chrom t.strand (pre ++ ⟨R.start, v.ue⟩ :: ⟨v.ds, R.stop⟩ :: post) := by
  have hin := inGene_of_within hw hg
  obtain ⟨hp1, hRne, hq1⟩ := wf_parts hw he
  have hRin := hin R (he ▸ List.mem_append_cons_self)
  obtain ⟨s, e, hco, hcase⟩ := riConvert_mem hout hm
  rw [riCoords_eq (Nat.le_trans hRin.1 (Nat.le_of_lt h1)) h2
    (Nat.le_trans (Nat.le_of_lt h3) hRin.2.2)] at hco
  cases hco
  rcases hcase with ⟨hsp, _, _, _, _⟩ | ⟨_, _, _, hr⟩
  · -- an Insertion is only emitted for transcripts the walk found spliced
    obtain ⟨_, t', ht', hpos⟩ := mem_riSpliced hsp
    rw [Nat.sub_zero, hi] at ht'
    cases ht'
    rw [he, riWalk_retained_form hp1 hq1 h1 h2 h3] at hpos
    cases hpos
  · rw [hr, hg.1]
    exact delete_in_exon he hin hc (fun e h => Nat.le_of_lt (hp1 e h).2)
      (fun e h => Nat.le_of_lt (hq1 e h).1) (Nat.le_of_lt h1) (Nat.le_of_lt h2) (Nat.le_of_lt h3)

/-- RI, no record for an annotated form: if some annotated isoform retains the intron (an
exon `R` with `R.start < upstreamEE < downstreamES < R.stop`), no Insertion is emitted.
This is the clause of the property at full strength; it holds for the tree with the `fix:` 2fa1cff
that tests `< exon_end` (the unchanged tree tested `< exon_end - 1` and missed
`R.stop = v.ds + 1`). -/
theorem ri_no_insertion_when_retained_annotated (g : Gene) (txs : List Transcript)
    (v : RI) (minIjc minSjc : Nat) (out : List (Nat × ASRec)) (t : Transcript)
    (pre post : List Iv) (R : Iv)
    (hout : riConvert v g txs minIjc minSjc = .ok out)
    (ht : t ∈ txs) (hw : t.WF) (he : t.exons = pre ++ R :: post)
    (h1 : R.start < v.ue) (h2 : v.ue < v.ds) (h3 : v.ds < R.stop) :
    ∀ x ∈ out, x.2.kind ≠ .insertion := by
  obtain ⟨hp1, _, hq1⟩ := wf_parts hw he
  intro x hx hk
  obtain ⟨i, r⟩ := x
  obtain ⟨s, e, _, hcase⟩ := riConvert_mem hout hx
  rcases hcase with ⟨_, _, hnil, _, _⟩ | ⟨_, _, _, hr⟩
  · refine riRetained_ne_nil ht ?_ 0 hnil
    rw [he, riWalk_retained_form hp1 hq1 h1 h2 h3]
    exact Nat.one_pos
  · rw [hr] at hk; cases hk

/-- RI: if some isoform has the intron spliced (the junction `upstreamEE → downstreamES`), no
Deletion is emitted -/
theorem ri_no_deletion_when_spliced_annotated (g : Gene) (txs : List Transcript)
    (v : RI) (minIjc minSjc : Nat) (out : List (Nat × ASRec)) (t : Transcript)
    (hout : riConvert v g txs minIjc minSjc = .ok out)
    (ht : t ∈ txs) (hw : t.WF) (hj : HasJunction v.ue v.ds t.exons) :
    ∀ x ∈ out, x.2.kind ≠ .deletion := by
  obtain ⟨pre, U, D, post, he, hU, hD⟩ := hj
  obtain ⟨hp1, hU', -⟩ := wf_parts hw he
  intro x hx hk
  obtain ⟨i, r⟩ := x
  obtain ⟨s, e, _, hcase⟩ := riConvert_mem hout hx
  rcases hcase with ⟨_, _, _, _, hr⟩ | ⟨_, _, hnil, _⟩
  · rw [hr] at hk; cases hk
  · refine riSpliced_ne_nil ht ?_ 0 hnil
    rw [he, riWalk_spliced_form hp1 hU' hU hD]

/-- RI: read support below the thresholds ⇒ nothing; more precisely every Insertion needs
`IJC ≥ min_ijc`, every Deletion `SJC ≥ min_sjc`, and there is no Substitution -/
theorem ri_no_emit_below_threshold (g : Gene) (txs : List Transcript) (v : RI)
    (minIjc minSjc : Nat) (out : List (Nat × ASRec))
    (hout : riConvert v g txs minIjc minSjc = .ok out) :
    (∀ x ∈ out, (x.2.kind = .insertion → v.ijc ≥ minIjc) ∧ (x.2.kind = .deletion → v.sjc ≥ minSjc)
      ∧ x.2.kind ≠ .substitution)
    ∧ (v.ijc < minIjc → v.sjc < minSjc → out = []) := by
  refine (fun hall => ⟨hall, fun h1 h2 => List.eq_nil_iff_forall_not_mem.mpr fun x hx => ?_⟩) ?_
  · intro x hx
    obtain ⟨i, r⟩ := x
    obtain ⟨s, e, _, hcase⟩ := riConvert_mem hout hx
    rcases hcase with ⟨_, h, _, _, rfl⟩ | ⟨_, h, _, rfl⟩
    · exact ⟨fun _ => h, fun hk => Kind.noConfusion hk, fun hk => Kind.noConfusion hk⟩
    · exact ⟨fun hk => Kind.noConfusion hk, fun _ => h, fun hk => Kind.noConfusion hk⟩
  · obtain ⟨hi, hd, hs⟩ := hall x hx
    cases hk : x.2.kind
    · exact Nat.lt_irrefl _ (Nat.lt_of_lt_of_le h2 (hd hk))
    · exact Nat.lt_irrefl _ (Nat.lt_of_lt_of_le h1 (hi hk))
    · exact hs hk


/-- `has_junction` finds every annotated junction of a well-formed transcript (its early
`break` never fires too soon) -/
theorem hasJunction_complete (t : Transcript) (hw : t.WF) (a b : Nat)
    (h : HasJunction a b t.exons) : hasJunction a b t.exons = true := by
  obtain ⟨pre, x, y, post, he, hx, hy⟩ := h
  exact hasJunction_of_form hw he hx hy

/-- `has_junction` only reports junctions that are there (any exon list) -/
theorem hasJunction_sound (a b : Nat) (es : List Iv) (h : hasJunction a b es = true) :
    HasJunction a b es := by
  induction es with
  | nil => cases h
  | cons e1 rest ih =>
    cases rest with
    | nil => cases h
    | cons e2 rest' =>
      rw [hasJunction_cons2] at h
      by_cases c1 : e2.start > b
      · rw [if_pos c1] at h; cases h
      · rw [if_neg c1] at h
        by_cases c2 : e1.stop = a ∧ e2.start = b
        · exact ⟨[], e1, e2, rest', rfl, c2.1, c2.2⟩
        · rw [if_neg c2] at h
          obtain ⟨pre, x, y, post, he, hx, hy⟩ := ih h
          exact ⟨e1 :: pre, x, y, post, by rw [he]; rfl, hx, hy⟩

/-- SE: all three junctions (skip, upstream-inclusion, downstream-inclusion) annotated, each in
some well-formed isoform ⇒ no record, whatever the counts -/
theorem se_no_emit_when_all_known (v : SE) (g : Gene) (txs : List Transcript)
    (minIjc minSjc : Nat) (h : AllAnnotated txs [v.skipJ, v.upJ, v.downJ]) :
    seConvert v g txs minIjc minSjc = .ok [] := by
  unfold seConvert
  rw [allKnown_of_annotated h]; rfl

/-- A5SS: long and short junction annotated ⇒ no record -/
theorem a5ss_no_emit_when_all_known (v : AxSS) (g : Gene) (txs : List Transcript)
    (minIjc minSjc : Nat)
    (h : AllAnnotated txs [(v.a5Junctions g.strand).1, (v.a5Junctions g.strand).2]) :
    a5Convert v g txs minIjc minSjc = .ok [] := by
  unfold a5Convert
  simp only
  rw [allKnown_of_annotated h]; rfl

/-- A3SS: long and short junction annotated ⇒ no record -/
theorem a3ss_no_emit_when_all_known (v : AxSS) (g : Gene) (txs : List Transcript)
    (minIjc minSjc : Nat)
    (h : AllAnnotated txs [(v.a3Junctions g.strand).1, (v.a3Junctions g.strand).2]) :
    a3Convert v g txs minIjc minSjc = .ok [] := by
  unfold a3Convert
  simp only
  rw [allKnown_of_annotated h]; rfl

/-- MXE: the two junctions the code looks at (first exon → downstream, upstream → second
exon) annotated ⇒ no record -/
theorem mxe_no_emit_when_all_known (v : MXE) (g : Gene) (txs : List Transcript)
    (minIjc minSjc : Nat) (h : AllAnnotated txs [v.firstDownJ, v.secondUpJ]) :
    mxeConvert v g txs minIjc minSjc = .ok [] := by
  unfold mxeConvert
  rw [allKnown_of_annotated h]; rfl

/-- SE: both counts below their thresholds ⇒ no record (if the call returns at all) -/
theorem se_no_emit_below_threshold (v : SE) (g : Gene) (txs : List Transcript)
    (minIjc minSjc : Nat) (out : List (Nat × ASRec)) (h1 : v.ijc < minIjc) (h2 : v.sjc < minSjc)
    (hout : seConvert v g txs minIjc minSjc = .ok out) : out = [] := by
  have hz : ∀ t ∈ txs, seTx v g minIjc minSjc t = .ok [] := by
    intro t _
    simp only [seTx, if_neg (Nat.not_le_of_lt h1), if_neg (Nat.not_le_of_lt h2)]
    rfl
  cases out with
  | nil => rfl
  | cons x xs =>
    have := convert_mem hout List.mem_cons_self
    rw [overTxs_nil hz 0] at this
    cases this

/-- A5SS / A3SS loop body: both counts below their thresholds ⇒ no record for any transcript -/
theorem axss_no_emit_below_threshold (v : AxSS) (jl jsh : Junction) (un dn : Bool) (g : Gene)
    (minIjc minSjc : Nat) (t : Transcript) (h1 : v.ijc < minIjc) (h2 : v.sjc < minSjc) :
    axTx v jl jsh un dn g minIjc minSjc t = .ok [] := by
  simp only [axTx, if_neg (Nat.not_le_of_lt h1), if_neg (Nat.not_le_of_lt h2)]
  rfl

/-- MXE loop body: `IJC < min_ijc` and `SJC ≤ min_sjc` (the code compares `SJC` strictly) ⇒ no
record for any transcript -/
theorem mxe_no_emit_below_threshold (v : MXE) (g : Gene) (minIjc minSjc : Nat) (t : Transcript)
    (h1 : v.ijc < minIjc) (h2 : v.sjc ≤ minSjc) :
    mxeTx v g minIjc minSjc t = .ok [] := by
  simp only [mxeTx, if_neg (Nat.not_le_of_lt h1), if_neg (Nat.not_lt_of_le h2)]
  rfl

/-! ## SE: the record constructors on the aligned exons (`_partial`)

For SE on both strands and arbitrary `pre` / `post`: the record each path of
`convert_to_variant_records` builds *once the alignment has found the exons*
(`create_downstream_deletion` on the plus strand, `create_upstream_deletion` on the minus strand,
`create_upstream_insertion` for the inclusion form) reproduces the alternative isoform.  The
indices (`spanning`, `interjacent`, `downstream_start_index`) are hypotheses here; the end-to-end
theorems of the following sections compute them from the exon list (through `se_skip_exact`,
`se_include_exact`). -/

/-- SE, skip form, the record of the plus-strand path (`create_downstream_deletion` with the
downstream exon as spanning exon and the skipped exon as the only interjacent one) -/
theorem se_skip_spec_partial_plus_path {chrom : List Char} {g : Gene} {a : Aln}
    {pre post : List Iv} {U E D : Iv} {r : ASRec}
    (hin : InGene g (pre ++ U :: E :: D :: post)) (hc : g.loc.stop ≤ chrom.length)
    (hp : ∀ e ∈ pre, e.stop ≤ U.start) (hU : U.start ≤ U.stop) (hUE : U.stop ≤ E.start)
    (hE : E.start < E.stop) (hED : E.stop ≤ D.start) (hq : ∀ e ∈ post, D.stop ≤ e.start)
    (hDs : D.start = a.j.ds)
    (h : createDownstreamDeletion a g (pre ++ U :: E :: D :: post) ((pre.length + 2 : Nat) : Int)
        [pre.length + 1] = .ok r) :
    applyAS g (pre ++ U :: E :: D :: post)
        (seqOfExons chrom g.strand (pre ++ U :: E :: D :: post)) (geneSeq chrom g) r
      = seqOfExons chrom g.strand (pre ++ U :: D :: post) := by
  rw [downstream_deletion_skip_ok rfl hin hE hDs] at h
  cases h
  rw [List.append_cons pre U (D :: post)]
  exact delete_exon (List.append_cons ..) hin hc (below_snoc hp hU hUE)
    (above_cons hq hin.shift.shift.head.2.1 hED)

/-- SE, skip form, the record of the minus-strand path (`create_upstream_deletion` with the
upstream exon as spanning exon) -/
theorem se_skip_spec_partial_minus_path {chrom : List Char} {g : Gene} {a : Aln}
    {pre post : List Iv} {U E D : Iv} {r : ASRec}
    (hin : InGene g (pre ++ U :: E :: D :: post)) (hc : g.loc.stop ≤ chrom.length)
    (hp : ∀ e ∈ pre, e.stop ≤ U.start) (hU : U.start ≤ U.stop) (hUE : U.stop ≤ E.start)
    (hE : E.start < E.stop) (hED : E.stop ≤ D.start) (hq : ∀ e ∈ post, D.stop ≤ e.start)
    (hUs : U.stop = a.j.ue)
    (h : createUpstreamDeletion a g (pre ++ U :: E :: D :: post) ((pre.length : Nat) : Int)
        [pre.length + 1] = .ok r) :
    applyAS g (pre ++ U :: E :: D :: post)
        (seqOfExons chrom g.strand (pre ++ U :: E :: D :: post)) (geneSeq chrom g) r
      = seqOfExons chrom g.strand (pre ++ U :: D :: post) := by
  rw [upstream_deletion_skip_ok rfl hin hE hUs] at h
  cases h
  rw [List.append_cons pre U (D :: post)]
  exact delete_exon (List.append_cons ..) hin hc (below_snoc hp hU hUE)
    (above_cons hq hin.shift.shift.head.2.1 hED)

/-- SE, inclusion: the Insertion `create_upstream_insertion` builds for a transcript with the
two flanking exons adjacent (`… U D …`) from the junction skipped exon → downstream exon -/
theorem se_include_spec_partial {chrom : List Char} {g : Gene} {a : Aln}
    {pre post : List Iv} {U D E : Iv} {r : ASRec}
    (hin : InGene g (pre ++ U :: D :: post)) (hEin : InGene g [E])
    (hc : g.loc.stop ≤ chrom.length)
    (hp : ∀ e ∈ pre, e.stop ≤ U.start) (hU : U.start < U.stop) (hUE : U.stop ≤ E.start)
    (hE : E.start < E.stop) (hED : E.stop ≤ D.start) (hD : D.start < D.stop)
    (hq : ∀ e ∈ post, D.stop ≤ e.start)
    (hdsi : a.dsi = (pre.length : Int) + 1) (hjs : a.j.us = E.start) (hje : a.j.ue = E.stop)
    (hjd : a.j.ds = D.start)
    (h : createUpstreamInsertion a g (pre ++ U :: D :: post) = .ok r) :
    applyAS g (pre ++ U :: D :: post)
        (seqOfExons chrom g.strand (pre ++ U :: D :: post)) (geneSeq chrom g) r
      = seqOfExons chrom g.strand (pre ++ U :: E :: D :: post) := by
  have hE' : (⟨max U.stop a.j.us, a.j.ue⟩ : Iv) = E := by
    rw [hjs, hje, Nat.max_eq_right hUE]
  rw [upstream_insertion_ok rfl hin hU hD hdsi hjd (hje ▸ Nat.lt_of_le_of_lt hUE hE) (hje ▸ hED)
    (hjs ▸ hje ▸ hE), hE'] at h
  cases h
  exact insert_between rfl hin hc hp hU hUE (hEin E List.mem_cons_self).2.1 hED hD hq


/-- SE, transcript has the cassette exon: the two inclusion junctions `U → E` and `E → D` emit
NO record for it (they join exons that are adjacent in the transcript); so every record of
`se_skip_spec` comes from the skip junction -/
theorem se_skip_inclusion_junctions_silent (g : Gene) (v : SE) (t : Transcript)
    (pre post : List Iv) (U E D : Iv)
    (he : t.exons = pre ++ U :: E :: D :: post) (hw : t.WF)
    (hU : U.stop = v.ue) (hE : E = ⟨v.es, v.ee⟩) (hD : D.start = v.ds) :
    alignConvert v.upJ g t false true = .ok [] ∧ alignConvert v.downJ g t true false = .ok [] := by
  subst hE
  have he' := he.trans (List.append_cons ..)
  exact ⟨alignConvert_adjacent he (chain2_of_wf hw he) hU.symm rfl,
    alignConvert_adjacent he' (chain2_of_wf hw he') rfl hD.symm⟩

/-- SE, transcript lacks the cassette exon: the skip junction `U → D` emits NO record for it -/
theorem se_include_skip_junction_silent (g : Gene) (v : SE) (t : Transcript)
    (pre post : List Iv) (U D : Iv)
    (he : t.exons = pre ++ U :: D :: post) (hw : t.WF)
    (hU : U.stop = v.ue) (hD : D.start = v.ds) :
    alignConvert v.skipJ g t false false = .ok [] :=
  alignConvert_adjacent he (chain2_of_wf hw he) hU.symm hD.symm

/-- **SE, transcript has the cassette exon: the exact output of the loop body.**  Exactly one
record, the Deletion of the gene interval of `E`, iff `SJC ≥ min_sjc` — except that on the minus
strand the code also requires `tx_end > downstream_exon_start + 1` (nothing is emitted when the
downstream exon is a 1-nt last exon).  In particular the loop body never raises and no junction
emits anything else. -/
theorem se_skip_exact (g : Gene) (v : SE) (minIjc minSjc : Nat)
    (t : Transcript) (pre post : List Iv) (U E D : Iv)
    (he : t.exons = pre ++ U :: E :: D :: post) (hw : t.WF) (hg : t.Within g)
    (hU : U.stop = v.ue) (hE : E = ⟨v.es, v.ee⟩) (hD : D.start = v.ds) :
    seTx v g minIjc minSjc t
      = .ok (if v.sjc ≥ minSjc ∧ (t.strand = .plus ∨ t.spanStop > v.ds + 1)
          then [⟨.deletion, (geneIv g E).start, (geneIv g E).stop, 0, 0⟩] else []) := by
  obtain ⟨h2, h3⟩ := se_skip_inclusion_junctions_silent g v t pre post U E D he hw hU hE hD
  rw [seTx_ok (alignConvert_known_skip_exact he hw hg hU.symm hD.symm) h2 h3, ite_and_eq]
  simp only [List.append_nil, ite_self]
  rfl

/-- **SE, transcript lacks the cassette exon: the exact output of the loop body.**  Exactly one
record iff `IJC ≥ min_ijc`: the Insertion of the gene interval of the event's exon after the last
transcript base before the intron (`c` = number of gene bases upstream of the insertion point).
It comes from the junction `E → D`; `U → D` joins adjacent exons and emits nothing, and so does
`U → E`, because no exon of the transcript ends at `exonEnd` (`seTx_include`). -/
theorem se_include_exact (g : Gene) (v : SE) (minIjc minSjc : Nat)
    (t : Transcript) (pre post : List Iv) (U D : Iv)
    (he : t.exons = pre ++ U :: D :: post) (hw : t.WF) (hg : t.Within g)
    (hU : U.stop = v.ue) (hD : D.start = v.ds)
    (h1 : v.ue < v.es) (h2 : v.es < v.ee) (h3 : v.ee < v.ds) :
    seTx v g minIjc minSjc t
      = .ok (if v.ijc ≥ minIjc
          then
            let c := match g.strand with | .plus => v.ue - g.loc.start | .minus => g.loc.stop - v.ds
            [⟨.insertion, c - 1, c, (geneIv g ⟨v.es, v.ee⟩).start, (geneIv g ⟨v.es, v.ee⟩).stop⟩]
          else []) := by
  rw [seTx_include he hw hg hU hD h1 h2 h3, hU, hD]
  unfold insRec cut
  cases g.strand <;> rfl

/-- **Skipped exon, transcript has the cassette exon** (`… U E D …`, `U` ending at
`upstreamEE`, `E` = the event's exon, `D` starting at `downstreamES`).  Every record the loop
body of `SERecord.convert_to_variant_records` emits for that transcript — from any of the three
junctions — applied to the transcript sequence gives the sequence of the isoform without `E`.
(The exact output is `se_skip_exact`.) -/
theorem se_skip_spec (chrom : List Char) (g : Gene) (v : SE) (minIjc minSjc : Nat)
    (t : Transcript) (pre post : List Iv) (U E D : Iv) (rs : List ASRec) (r : ASRec)
    (he : t.exons = pre ++ U :: E :: D :: post) (hw : t.WF) (hg : t.Within g)
    (hc : g.loc.stop ≤ chrom.length)
    (hU : U.stop = v.ue) (hE : E = ⟨v.es, v.ee⟩) (hD : D.start = v.ds)
    (h : seTx v g minIjc minSjc t = .ok rs) (hr : r ∈ rs) :
    applyAS g t.exons (seqOfExons chrom t.strand t.exons) (geneSeq chrom g) r
      = seqOfExons chrom t.strand (pre ++ U :: D :: post) := by
  have he' := he.trans (List.append_cons ..)
  rw [se_skip_exact g v minIjc minSjc t pre post U E D he hw hg hU hE hD] at h
  cases h
  split at hr
  · cases List.mem_singleton.mp hr
    rw [hg.1, List.append_cons pre U (D :: post)]
    exact delete_exon he' (inGene_of_within hw hg) hc (chain2_of_wf hw he').below
      (chain2_of_wf hw he).above
  · cases hr

/-- **Skipped exon, transcript lacks the cassette exon** (`… U D …`, `U` ending at
`upstreamEE`, `D` starting at `downstreamES`, the event's exon strictly inside the intron).
Every record the loop body emits for that transcript gives the sequence of the isoform with the
exon `[exonStart, exonEnd)` included between `U` and `D`.  (The exact output is
`se_include_exact`.) -/
theorem se_include_spec (chrom : List Char) (g : Gene) (v : SE) (minIjc minSjc : Nat)
    (t : Transcript) (pre post : List Iv) (U D : Iv) (rs : List ASRec) (r : ASRec)
    (he : t.exons = pre ++ U :: D :: post) (hw : t.WF) (hg : t.Within g)
    (hc : g.loc.stop ≤ chrom.length)
    (hU : U.stop = v.ue) (hD : D.start = v.ds)
    (h1 : v.ue < v.es) (h2 : v.es < v.ee) (h3 : v.ee < v.ds)
    (h : seTx v g minIjc minSjc t = .ok rs) (hr : r ∈ rs) :
    applyAS g t.exons (seqOfExons chrom t.strand t.exons) (geneSeq chrom g) r
      = seqOfExons chrom t.strand (pre ++ U :: ⟨v.es, v.ee⟩ :: D :: post) := by
  have hch := chain2_of_wf hw he
  rw [seTx_include he hw hg hU hD h1 h2 h3] at h
  cases h
  split at hr
  · cases List.mem_singleton.mp hr
    rw [hg.1]
    exact insert_between he (inGene_of_within hw hg) hc hch.below hch.hP (hU ▸ Nat.le_of_lt h1)
      (Nat.le_of_lt h2) (hD ▸ Nat.le_of_lt h3) hch.hQ hch.above
  · cases hr

/-- `se_skip_spec` for a record of the whole `SERecord.convert_to_variant_records` call: the
record tagged with transcript index `i` -/
theorem se_skip_spec_event (chrom : List Char) (g : Gene) (txs : List Transcript) (v : SE)
    (minIjc minSjc : Nat) (out : List (Nat × ASRec)) (i : Nat) (r : ASRec) (t : Transcript)
    (pre post : List Iv) (U E D : Iv)
    (hout : seConvert v g txs minIjc minSjc = .ok out) (hm : (i, r) ∈ out)
    (hi : txs[i]? = some t) (he : t.exons = pre ++ U :: E :: D :: post)
    (hw : t.WF) (hg : t.Within g) (hc : g.loc.stop ≤ chrom.length)
    (hU : U.stop = v.ue) (hE : E = ⟨v.es, v.ee⟩) (hD : D.start = v.ds) :
    applyAS g t.exons (seqOfExons chrom t.strand t.exons) (geneSeq chrom g) r
      = seqOfExons chrom t.strand (pre ++ U :: D :: post) := by
  obtain ⟨rs, h, hr⟩ := seConvert_mem hout hm hi
  exact se_skip_spec chrom g v minIjc minSjc t pre post U E D rs r he hw hg hc hU hE hD h hr

/-- `se_include_spec` for a record of the whole `SERecord.convert_to_variant_records` call -/
theorem se_include_spec_event (chrom : List Char) (g : Gene) (txs : List Transcript) (v : SE)
    (minIjc minSjc : Nat) (out : List (Nat × ASRec)) (i : Nat) (r : ASRec) (t : Transcript)
    (pre post : List Iv) (U D : Iv)
    (hout : seConvert v g txs minIjc minSjc = .ok out) (hm : (i, r) ∈ out)
    (hi : txs[i]? = some t) (he : t.exons = pre ++ U :: D :: post)
    (hw : t.WF) (hg : t.Within g) (hc : g.loc.stop ≤ chrom.length)
    (hU : U.stop = v.ue) (hD : D.start = v.ds)
    (h1 : v.ue < v.es) (h2 : v.es < v.ee) (h3 : v.ee < v.ds) :
    applyAS g t.exons (seqOfExons chrom t.strand t.exons) (geneSeq chrom g) r
      = seqOfExons chrom t.strand (pre ++ U :: ⟨v.es, v.ee⟩ :: D :: post) := by
  obtain ⟨rs, h, hr⟩ := seConvert_mem hout hm hi
  exact se_include_spec chrom g v minIjc minSjc t pre post U D rs r he hw hg hc hU hD h1 h2 h3 h hr

/-! ## A5SS / A3SS, end to end

The alternative site lies on the exon genomically upstream of the flanking exon for A5SS on `+`
and A3SS on `-` (junctions `(long|short exon) → flanking`, `upstream_novel = True`) and on the
exon downstream of it for A5SS on `-` and A3SS on `+` (junctions `flanking → (long|short exon)`,
`downstream_novel = True`).  In each of the eight theorems the transcript has the two exons of
one form adjacent; every record of the whole `convert_to_variant_records` call tagged with that
transcript moves the exon boundary to the site of the other form: long → short is the Deletion
of the segment between the sites, short → long the Insertion of it.  The junction of the form
the transcript already has joins adjacent exons and emits nothing. -/

/-- A5SS on `+`, transcript `… L F …` uses the long site (`L` ends at `longExonEnd`, `F` the
flanking exon): the record moves the end of `L` to `shortExonEnd` -/
theorem a5ss_spec_long_plus (chrom : List Char) (g : Gene) (txs : List Transcript) (v : AxSS)
    (minIjc minSjc : Nat) (out : List (Nat × ASRec)) (i : Nat) (r : ASRec) (t : Transcript)
    (pre post : List Iv) (L F : Iv) (hs : g.strand = .plus)
    (hout : a5Convert v g txs minIjc minSjc = .ok out) (hm : (i, r) ∈ out)
    (hi : txs[i]? = some t) (he : t.exons = pre ++ L :: F :: post)
    (hw : t.WF) (hg : t.Within g) (hc : g.loc.stop ≤ chrom.length)
    (hL : L.stop = v.le) (hF : F.start = v.fs) (h1 : L.start < v.se) (h2 : v.se < v.le) :
    applyAS g t.exons (seqOfExons chrom t.strand t.exons) (geneSeq chrom g) r
      = seqOfExons chrom t.strand (pre ++ ⟨L.start, v.se⟩ :: F :: post) := by
  obtain ⟨rs, h, hr⟩ := a5Convert_mem hs hout hm hi
  exact axTx_up_long h hr he hw hg hc hL.symm hF.symm hF.symm h1 (hL ▸ h2)

/-- A5SS on `+`, transcript `… S F …` uses the short site: the record moves the end of `S` to
`longExonEnd` -/
theorem a5ss_spec_short_plus (chrom : List Char) (g : Gene) (txs : List Transcript) (v : AxSS)
    (minIjc minSjc : Nat) (out : List (Nat × ASRec)) (i : Nat) (r : ASRec) (t : Transcript)
    (pre post : List Iv) (S F : Iv) (hs : g.strand = .plus)
    (hout : a5Convert v g txs minIjc minSjc = .ok out) (hm : (i, r) ∈ out)
    (hi : txs[i]? = some t) (he : t.exons = pre ++ S :: F :: post)
    (hw : t.WF) (hg : t.Within g) (hc : g.loc.stop ≤ chrom.length)
    (hS : S.stop = v.se) (hF : F.start = v.fs)
    (h1 : v.se < v.le) (h2 : v.le ≤ v.fs) (h3 : v.ls ≤ v.se) :
    applyAS g t.exons (seqOfExons chrom t.strand t.exons) (geneSeq chrom g) r
      = seqOfExons chrom t.strand (pre ++ ⟨S.start, v.le⟩ :: F :: post) := by
  obtain ⟨rs, h, hr⟩ := a5Convert_mem hs hout hm hi
  exact axTx_up_short h hr he hw hg hc hS.symm hF.symm hF.symm (hS ▸ h1)
    (hF ▸ h2) (hS ▸ h3)

/-- A5SS on `-`, transcript `… F L …` uses the long site (`L` starts at `longExonStart`): the
record moves the start of `L` to `shortExonStart` -/
theorem a5ss_spec_long_minus (chrom : List Char) (g : Gene) (txs : List Transcript) (v : AxSS)
    (minIjc minSjc : Nat) (out : List (Nat × ASRec)) (i : Nat) (r : ASRec) (t : Transcript)
    (pre post : List Iv) (F L : Iv) (hs : g.strand = .minus)
    (hout : a5Convert v g txs minIjc minSjc = .ok out) (hm : (i, r) ∈ out)
    (hi : txs[i]? = some t) (he : t.exons = pre ++ F :: L :: post)
    (hw : t.WF) (hg : t.Within g) (hc : g.loc.stop ≤ chrom.length)
    (hF : F.stop = v.fe) (hL : L.start = v.ls) (h1 : v.ls < v.ss) (h2 : v.ss < L.stop) :
    applyAS g t.exons (seqOfExons chrom t.strand t.exons) (geneSeq chrom g) r
      = seqOfExons chrom t.strand (pre ++ F :: ⟨v.ss, L.stop⟩ :: post) := by
  obtain ⟨rs, h, hr⟩ := a5Convert_mem hs hout hm hi
  exact axTx_down_long h hr he hw hg hc hF.symm hL.symm hF.symm (hL ▸ h1) h2

/-- A5SS on `-`, transcript `… F S …` uses the short site: the record moves the start of `S` to
`longExonStart` -/
theorem a5ss_spec_short_minus (chrom : List Char) (g : Gene) (txs : List Transcript) (v : AxSS)
    (minIjc minSjc : Nat) (out : List (Nat × ASRec)) (i : Nat) (r : ASRec) (t : Transcript)
    (pre post : List Iv) (F S : Iv) (hs : g.strand = .minus)
    (hout : a5Convert v g txs minIjc minSjc = .ok out) (hm : (i, r) ∈ out)
    (hi : txs[i]? = some t) (he : t.exons = pre ++ F :: S :: post)
    (hw : t.WF) (hg : t.Within g) (hc : g.loc.stop ≤ chrom.length)
    (hF : F.stop = v.fe) (hS : S.start = v.ss)
    (h1 : v.fe ≤ v.ls) (h2 : v.ls < v.ss) (h3 : v.ss ≤ v.le) :
    applyAS g t.exons (seqOfExons chrom t.strand t.exons) (geneSeq chrom g) r
      = seqOfExons chrom t.strand (pre ++ F :: ⟨v.ls, S.stop⟩ :: post) := by
  obtain ⟨rs, h, hr⟩ := a5Convert_mem hs hout hm hi
  exact axTx_down_short h hr he hw hg hc hF.symm hS.symm hF.symm (hF ▸ h1)
    (hS ▸ h2) (hS ▸ h3)

/-- A3SS on `+`, transcript `… F L …` uses the long site: the record moves the start of `L` to
`shortExonStart` -/
theorem a3ss_spec_long_plus (chrom : List Char) (g : Gene) (txs : List Transcript) (v : AxSS)
    (minIjc minSjc : Nat) (out : List (Nat × ASRec)) (i : Nat) (r : ASRec) (t : Transcript)
    (pre post : List Iv) (F L : Iv) (hs : g.strand = .plus)
    (hout : a3Convert v g txs minIjc minSjc = .ok out) (hm : (i, r) ∈ out)
    (hi : txs[i]? = some t) (he : t.exons = pre ++ F :: L :: post)
    (hw : t.WF) (hg : t.Within g) (hc : g.loc.stop ≤ chrom.length)
    (hF : F.stop = v.fe) (hL : L.start = v.ls) (h1 : v.ls < v.ss) (h2 : v.ss < L.stop) :
    applyAS g t.exons (seqOfExons chrom t.strand t.exons) (geneSeq chrom g) r
      = seqOfExons chrom t.strand (pre ++ F :: ⟨v.ss, L.stop⟩ :: post) := by
  obtain ⟨rs, h, hr⟩ := a3Convert_mem hs hout hm hi
  exact axTx_down_long h hr he hw hg hc hF.symm hL.symm hF.symm (hL ▸ h1) h2

/-- A3SS on `+`, transcript `… F S …` uses the short site: the record moves the start of `S` to
`longExonStart` -/
theorem a3ss_spec_short_plus (chrom : List Char) (g : Gene) (txs : List Transcript) (v : AxSS)
    (minIjc minSjc : Nat) (out : List (Nat × ASRec)) (i : Nat) (r : ASRec) (t : Transcript)
    (pre post : List Iv) (F S : Iv) (hs : g.strand = .plus)
    (hout : a3Convert v g txs minIjc minSjc = .ok out) (hm : (i, r) ∈ out)
    (hi : txs[i]? = some t) (he : t.exons = pre ++ F :: S :: post)
    (hw : t.WF) (hg : t.Within g) (hc : g.loc.stop ≤ chrom.length)
    (hF : F.stop = v.fe) (hS : S.start = v.ss)
    (h1 : v.fe ≤ v.ls) (h2 : v.ls < v.ss) (h3 : v.ss ≤ v.le) :
    applyAS g t.exons (seqOfExons chrom t.strand t.exons) (geneSeq chrom g) r
      = seqOfExons chrom t.strand (pre ++ F :: ⟨v.ls, S.stop⟩ :: post) := by
  obtain ⟨rs, h, hr⟩ := a3Convert_mem hs hout hm hi
  exact axTx_down_short h hr he hw hg hc hF.symm hS.symm hF.symm (hF ▸ h1)
    (hS ▸ h2) (hS ▸ h3)

/-- A3SS on `-`, transcript `… L F …` uses the long site: the record moves the end of `L` to
`shortExonEnd` -/
theorem a3ss_spec_long_minus (chrom : List Char) (g : Gene) (txs : List Transcript) (v : AxSS)
    (minIjc minSjc : Nat) (out : List (Nat × ASRec)) (i : Nat) (r : ASRec) (t : Transcript)
    (pre post : List Iv) (L F : Iv) (hs : g.strand = .minus)
    (hout : a3Convert v g txs minIjc minSjc = .ok out) (hm : (i, r) ∈ out)
    (hi : txs[i]? = some t) (he : t.exons = pre ++ L :: F :: post)
    (hw : t.WF) (hg : t.Within g) (hc : g.loc.stop ≤ chrom.length)
    (hL : L.stop = v.le) (hF : F.start = v.fs) (h1 : L.start < v.se) (h2 : v.se < v.le) :
    applyAS g t.exons (seqOfExons chrom t.strand t.exons) (geneSeq chrom g) r
      = seqOfExons chrom t.strand (pre ++ ⟨L.start, v.se⟩ :: F :: post) := by
  obtain ⟨rs, h, hr⟩ := a3Convert_mem hs hout hm hi
  exact axTx_up_long h hr he hw hg hc hL.symm hF.symm hF.symm h1 (hL ▸ h2)

/-- A3SS on `-`, transcript `… S F …` uses the short site: the record moves the end of `S` to
`longExonEnd` -/
theorem a3ss_spec_short_minus (chrom : List Char) (g : Gene) (txs : List Transcript) (v : AxSS)
    (minIjc minSjc : Nat) (out : List (Nat × ASRec)) (i : Nat) (r : ASRec) (t : Transcript)
    (pre post : List Iv) (S F : Iv) (hs : g.strand = .minus)
    (hout : a3Convert v g txs minIjc minSjc = .ok out) (hm : (i, r) ∈ out)
    (hi : txs[i]? = some t) (he : t.exons = pre ++ S :: F :: post)
    (hw : t.WF) (hg : t.Within g) (hc : g.loc.stop ≤ chrom.length)
    (hS : S.stop = v.se) (hF : F.start = v.fs)
    (h1 : v.se < v.le) (h2 : v.le ≤ v.fs) (h3 : v.ls ≤ v.se) :
    applyAS g t.exons (seqOfExons chrom t.strand t.exons) (geneSeq chrom g) r
      = seqOfExons chrom t.strand (pre ++ ⟨S.start, v.le⟩ :: F :: post) := by
  obtain ⟨rs, h, hr⟩ := a3Convert_mem hs hout hm hi
  exact axTx_up_short h hr he hw hg hc hS.symm hF.symm hF.symm (hS ▸ h1)
    (hF ▸ h2) (hS ▸ h3)


/-- **Mutually exclusive exons, transcript has the first exon** (`… U F₁ D …`).  Every record
the loop body of `MXERecord.convert_to_variant_records` emits for that transcript gives the
isoform with the second exon in its place (`… U F₂ D …`): the junction `F₁ → D` joins adjacent
exons and emits nothing, `U → F₂` emits the Substitution of `F₁` by `F₂`. -/
theorem mxe_spec_first (chrom : List Char) (g : Gene) (v : MXE) (minIjc minSjc : Nat)
    (t : Transcript) (pre post : List Iv) (U F1 D : Iv) (rs : List ASRec) (r : ASRec)
    (he : t.exons = pre ++ U :: F1 :: D :: post) (hw : t.WF) (hg : t.Within g)
    (hc : g.loc.stop ≤ chrom.length)
    (hU : U.stop = v.ue) (hF : F1 = ⟨v.f1s, v.f1e⟩) (hD : D.start = v.ds)
    (h1 : v.f1e ≤ v.f2s) (h2 : v.f2s < v.f2e) (h3 : v.f2e ≤ v.ds)
    (h : mxeTx v g minIjc minSjc t = .ok rs) (hr : r ∈ rs) :
    applyAS g t.exons (seqOfExons chrom t.strand t.exons) (geneSeq chrom g) r
      = seqOfExons chrom t.strand (pre ++ U :: ⟨v.f2s, v.f2e⟩ :: D :: post) := by
  subst hF
  rcases mxeTx_mem h hr with ⟨_, rs', h', hr'⟩ | ⟨_, rs', h', hr'⟩
  · have he' := he.trans (List.append_cons ..)
    rw [alignConvert_adjacent (j := v.firstDownJ) he' (chain2_of_wf hw he') rfl hD.symm] at h'
    cases h'; cases hr'
  · rw [alignConvert_dn_subst (j := v.secondUpJ) he hw hg hc hU.symm h1
      (hD ▸ Nat.lt_of_lt_of_le h2 h3) h2 h' hr',
      Nat.min_eq_right (hD ▸ h3 : v.secondUpJ.de ≤ D.start)]
    rfl

/-- **Mutually exclusive exons, transcript has the second exon** (`… U F₂ D …`).  Every record
the loop body emits for that transcript gives the isoform with the first exon in its place:
`U → F₂` joins adjacent exons and emits nothing, `F₁ → D` emits the Substitution of `F₂` by
`F₁`. -/
theorem mxe_spec_second (chrom : List Char) (g : Gene) (v : MXE) (minIjc minSjc : Nat)
    (t : Transcript) (pre post : List Iv) (U F2 D : Iv) (rs : List ASRec) (r : ASRec)
    (he : t.exons = pre ++ U :: F2 :: D :: post) (hw : t.WF) (hg : t.Within g)
    (hc : g.loc.stop ≤ chrom.length)
    (hU : U.stop = v.ue) (hF : F2 = ⟨v.f2s, v.f2e⟩) (hD : D.start = v.ds)
    (h1 : v.ue ≤ v.f1s) (h2 : v.f1s < v.f1e) (h3 : v.f1e ≤ v.f2s)
    (h : mxeTx v g minIjc minSjc t = .ok rs) (hr : r ∈ rs) :
    applyAS g t.exons (seqOfExons chrom t.strand t.exons) (geneSeq chrom g) r
      = seqOfExons chrom t.strand (pre ++ U :: ⟨v.f1s, v.f1e⟩ :: D :: post) := by
  subst hF
  rcases mxeTx_mem h hr with ⟨_, rs', h', hr'⟩ | ⟨_, rs', h', hr'⟩
  · rw [alignConvert_un_subst (j := v.firstDownJ) he hw hg hc hD.symm
      (hU ▸ Nat.lt_of_le_of_lt h1 h2) h3 h2 h' hr',
      Nat.max_eq_right (hU ▸ h1 : U.stop ≤ v.firstDownJ.us)]
    rfl
  · rw [alignConvert_adjacent (j := v.secondUpJ) he (chain2_of_wf hw he) hU.symm rfl] at h'
    cases h'; cases hr'

/-- `mxe_spec_first` for a record of the whole `MXERecord.convert_to_variant_records` call (after
`list(set(variants))`: a surviving record carries the index of the first transcript that
produced it) -/
theorem mxe_spec_first_event (chrom : List Char) (g : Gene) (txs : List Transcript) (v : MXE)
    (minIjc minSjc : Nat) (out : List (Nat × ASRec)) (i : Nat) (r : ASRec) (t : Transcript)
    (pre post : List Iv) (U F1 D : Iv)
    (hout : mxeConvert v g txs minIjc minSjc = .ok out) (hm : (i, r) ∈ out)
    (hi : txs[i]? = some t) (he : t.exons = pre ++ U :: F1 :: D :: post)
    (hw : t.WF) (hg : t.Within g) (hc : g.loc.stop ≤ chrom.length)
    (hU : U.stop = v.ue) (hF : F1 = ⟨v.f1s, v.f1e⟩) (hD : D.start = v.ds)
    (h1 : v.f1e ≤ v.f2s) (h2 : v.f2s < v.f2e) (h3 : v.f2e ≤ v.ds) :
    applyAS g t.exons (seqOfExons chrom t.strand t.exons) (geneSeq chrom g) r
      = seqOfExons chrom t.strand (pre ++ U :: ⟨v.f2s, v.f2e⟩ :: D :: post) := by
  obtain ⟨rs, h, hr⟩ := mxeConvert_mem hout hm hi
  exact mxe_spec_first chrom g v minIjc minSjc t pre post U F1 D rs r he hw hg hc hU hF hD
    h1 h2 h3 h hr

/-- `mxe_spec_second` for a record of the whole `MXERecord.convert_to_variant_records` call -/
theorem mxe_spec_second_event (chrom : List Char) (g : Gene) (txs : List Transcript) (v : MXE)
    (minIjc minSjc : Nat) (out : List (Nat × ASRec)) (i : Nat) (r : ASRec) (t : Transcript)
    (pre post : List Iv) (U F2 D : Iv)
    (hout : mxeConvert v g txs minIjc minSjc = .ok out) (hm : (i, r) ∈ out)
    (hi : txs[i]? = some t) (he : t.exons = pre ++ U :: F2 :: D :: post)
    (hw : t.WF) (hg : t.Within g) (hc : g.loc.stop ≤ chrom.length)
    (hU : U.stop = v.ue) (hF : F2 = ⟨v.f2s, v.f2e⟩) (hD : D.start = v.ds)
    (h1 : v.ue ≤ v.f1s) (h2 : v.f1s < v.f1e) (h3 : v.f1e ≤ v.f2s) :
    applyAS g t.exons (seqOfExons chrom t.strand t.exons) (geneSeq chrom g) r
      = seqOfExons chrom t.strand (pre ++ U :: ⟨v.f1s, v.f1e⟩ :: D :: post) := by
  obtain ⟨rs, h, hr⟩ := mxeConvert_mem hout hm hi
  exact mxe_spec_second chrom g v minIjc minSjc t pre post U F2 D rs r he hw hg hc hU hF hD
    h1 h2 h3 h hr

/-! ## non-vacuity of the SE / A5SS / A3SS / MXE theorems

Concrete genes on both strands, transcripts satisfying `WF` / `Within`, events whose exons
coincide with the transcript's: the model emits exactly one record, and the theorem applies to it
(every hypothesis is discharged by `rfl` / `decide`). -/

def exPlusGene : Gene := { strand := .plus, loc := ⟨2, 60⟩ }
def exIncl : Transcript := { strand := .minus, exons := [⟨4, 9⟩, ⟨12, 20⟩, ⟨25, 31⟩, ⟨40, 52⟩] }
def exSkip : Transcript := { strand := .minus, exons := [⟨4, 9⟩, ⟨12, 20⟩, ⟨40, 52⟩] }
def exInclP : Transcript := { exIncl with strand := .plus }
def exSkipP : Transcript := { exSkip with strand := .plus }
def exSE : SE := { es := 25, ee := 31, us := 12, ue := 20, ds := 40, de := 52, ijc := 3, sjc := 2 }

example : exIncl.WF ∧ exIncl.Within exGene ∧ exSkip.WF ∧ exSkip.Within exGene ∧ exInclP.WF
    ∧ exInclP.Within exPlusGene ∧ exSkipP.WF ∧ exSkipP.Within exPlusGene := by decide +kernel

example : seTx exSE exGene 1 1 exIncl = .ok [⟨.deletion, 29, 35, 0, 0⟩] := by decide +kernel
example : seTx exSE exPlusGene 1 1 exInclP = .ok [⟨.deletion, 23, 29, 0, 0⟩] := by decide +kernel
example : seTx exSE exGene 1 1 exSkip = .ok [⟨.insertion, 19, 20, 29, 35⟩] := by decide +kernel
example : seTx exSE exPlusGene 1 1 exSkipP = .ok [⟨.insertion, 17, 18, 23, 29⟩] := by decide +kernel

example : applyAS exGene exIncl.exons (seqOfExons exChrom .minus exIncl.exons)
    (geneSeq exChrom exGene) ⟨.deletion, 29, 35, 0, 0⟩ = seqOfExons exChrom .minus exSkip.exons :=
  se_skip_spec exChrom exGene exSE 1 1 exIncl [⟨4, 9⟩] [] ⟨12, 20⟩ ⟨25, 31⟩ ⟨40, 52⟩
    [⟨.deletion, 29, 35, 0, 0⟩] _ rfl (by decide +kernel) (by decide +kernel) (by decide +kernel) rfl rfl rfl (by decide +kernel)
    List.mem_cons_self

example : applyAS exPlusGene exSkipP.exons (seqOfExons exChrom .plus exSkipP.exons)
    (geneSeq exChrom exPlusGene) ⟨.insertion, 17, 18, 23, 29⟩
      = seqOfExons exChrom .plus exInclP.exons :=
  se_include_spec exChrom exPlusGene exSE 1 1 exSkipP [⟨4, 9⟩] [] ⟨12, 20⟩ ⟨40, 52⟩
    [⟨.insertion, 17, 18, 23, 29⟩] _ rfl (by decide +kernel) (by decide +kernel) (by decide +kernel) rfl rfl (by decide +kernel)
    (by decide +kernel) (by decide +kernel) (by decide +kernel) List.mem_cons_self

/-- the minus-strand exception of `se_skip_exact`: the downstream exon is a 1-nt last exon, the
read support suffices, and the loop body emits nothing (on `+` the Deletion) -/
def exOneNt : Transcript := { strand := .minus, exons := [⟨4, 9⟩, ⟨12, 20⟩, ⟨25, 31⟩, ⟨40, 41⟩] }
example : exOneNt.WF ∧ exOneNt.Within exGene := by decide +kernel
example : seTx { exSE with de := 41 } exGene 1 1 exOneNt = .ok [] := by decide +kernel
example : seTx { exSE with de := 41 } exPlusGene 1 1 { exOneNt with strand := .plus }
    = .ok [⟨.deletion, 23, 29, 0, 0⟩] := by decide +kernel

/-- upstream side (A5SS on `+`, A3SS on `-`): long exon `[12, 24)`, short `[12, 20)`, flanking
`[40, 52)` -/
def exAxUp : AxSS := { ls := 12, le := 24, ss := 12, se := 20, fs := 40, fe := 52, ijc := 3, sjc := 2 }
def exLongP : Transcript := { strand := .plus, exons := [⟨4, 9⟩, ⟨12, 24⟩, ⟨40, 52⟩] }
def exLongM : Transcript := { exLongP with strand := .minus }
/-- downstream side (A3SS on `+`, A5SS on `-`): flanking `[4, 9)`, long `[12, 20)`, short
`[15, 20)` -/
def exAxDown : AxSS := { ls := 12, le := 20, ss := 15, se := 20, fs := 4, fe := 9, ijc := 3, sjc := 2 }
def exShortP : Transcript := { strand := .plus, exons := [⟨4, 9⟩, ⟨15, 20⟩, ⟨40, 52⟩] }
def exShortM : Transcript := { exShortP with strand := .minus }

example : exLongP.WF ∧ exLongP.Within exPlusGene ∧ exLongM.WF ∧ exLongM.Within exGene
    ∧ exShortP.WF ∧ exShortP.Within exPlusGene ∧ exShortM.WF ∧ exShortM.Within exGene := by
  decide +kernel

example : a5Convert exAxUp exPlusGene [exLongP] 1 1 = .ok [(0, ⟨.deletion, 18, 22, 0, 0⟩)] := by
  decide +kernel
example : a5Convert exAxUp exPlusGene [exSkipP] 1 1 = .ok [(0, ⟨.insertion, 17, 18, 18, 22⟩)] := by
  decide +kernel
example : a3Convert exAxUp exGene [exLongM] 1 1 = .ok [(0, ⟨.deletion, 36, 40, 0, 0⟩)] := by
  decide +kernel
example : a3Convert exAxUp exGene [exSkip] 1 1 = .ok [(0, ⟨.insertion, 19, 20, 36, 40⟩)] := by
  decide +kernel
example : a3Convert exAxDown exPlusGene [exSkipP] 1 1 = .ok [(0, ⟨.deletion, 10, 13, 0, 0⟩)] := by
  decide +kernel
example : a3Convert exAxDown exPlusGene [exShortP] 1 1 = .ok [(0, ⟨.insertion, 6, 7, 10, 13⟩)] := by
  decide +kernel
example : a5Convert exAxDown exGene [exSkip] 1 1 = .ok [(0, ⟨.deletion, 45, 48, 0, 0⟩)] := by
  decide +kernel
example : a5Convert exAxDown exGene [exShortM] 1 1 = .ok [(0, ⟨.insertion, 44, 45, 45, 48⟩)] := by
  decide +kernel

example : applyAS exPlusGene exLongP.exons (seqOfExons exChrom .plus exLongP.exons)
    (geneSeq exChrom exPlusGene) ⟨.deletion, 18, 22, 0, 0⟩
      = seqOfExons exChrom .plus exSkipP.exons :=
  a5ss_spec_long_plus exChrom exPlusGene [exLongP] exAxUp 1 1
    [(0, ⟨.deletion, 18, 22, 0, 0⟩)] 0 _ exLongP [⟨4, 9⟩] [] ⟨12, 24⟩ ⟨40, 52⟩ rfl (by decide +kernel)
    List.mem_cons_self rfl rfl (by decide +kernel) (by decide +kernel) (by decide +kernel) rfl rfl (by decide +kernel) (by decide +kernel)

example : applyAS exGene exSkip.exons (seqOfExons exChrom .minus exSkip.exons)
    (geneSeq exChrom exGene) ⟨.insertion, 19, 20, 36, 40⟩
      = seqOfExons exChrom .minus exLongM.exons :=
  a3ss_spec_short_minus exChrom exGene [exSkip] exAxUp 1 1
    [(0, ⟨.insertion, 19, 20, 36, 40⟩)] 0 _ exSkip [⟨4, 9⟩] [] ⟨12, 20⟩ ⟨40, 52⟩ rfl (by decide +kernel)
    List.mem_cons_self rfl rfl (by decide +kernel) (by decide +kernel) (by decide +kernel) rfl rfl (by decide +kernel) (by decide +kernel)
    (by decide +kernel)

example : applyAS exPlusGene exSkipP.exons (seqOfExons exChrom .plus exSkipP.exons)
    (geneSeq exChrom exPlusGene) ⟨.deletion, 10, 13, 0, 0⟩
      = seqOfExons exChrom .plus exShortP.exons :=
  a3ss_spec_long_plus exChrom exPlusGene [exSkipP] exAxDown 1 1
    [(0, ⟨.deletion, 10, 13, 0, 0⟩)] 0 _ exSkipP [] [⟨40, 52⟩] ⟨4, 9⟩ ⟨12, 20⟩ rfl (by decide +kernel)
    List.mem_cons_self rfl rfl (by decide +kernel) (by decide +kernel) (by decide +kernel) rfl rfl (by decide +kernel) (by decide +kernel)

example : applyAS exGene exShortM.exons (seqOfExons exChrom .minus exShortM.exons)
    (geneSeq exChrom exGene) ⟨.insertion, 44, 45, 45, 48⟩
      = seqOfExons exChrom .minus exSkip.exons :=
  a5ss_spec_short_minus exChrom exGene [exShortM] exAxDown 1 1
    [(0, ⟨.insertion, 44, 45, 45, 48⟩)] 0 _ exShortM [] [⟨40, 52⟩] ⟨4, 9⟩ ⟨15, 20⟩ rfl (by decide +kernel)
    List.mem_cons_self rfl rfl (by decide +kernel) (by decide +kernel) (by decide +kernel) rfl rfl (by decide +kernel) (by decide +kernel)
    (by decide +kernel)

def exMXE : MXE :=
  { f1s := 25, f1e := 31, f2s := 33, f2e := 36, us := 12, ue := 20, ds := 40, de := 52, ijc := 3,
    sjc := 2 }
def exSecond : Transcript := { strand := .minus, exons := [⟨4, 9⟩, ⟨12, 20⟩, ⟨33, 36⟩, ⟨40, 52⟩] }
def exSecondP : Transcript := { exSecond with strand := .plus }

example : exSecond.WF ∧ exSecond.Within exGene ∧ exSecondP.WF ∧ exSecondP.Within exPlusGene := by
  decide +kernel
example : mxeConvert exMXE exGene [exIncl] 1 1 = .ok [(0, ⟨.substitution, 29, 35, 24, 27⟩)] := by
  decide +kernel
example : mxeConvert exMXE exGene [exSecond] 1 1 = .ok [(0, ⟨.substitution, 24, 27, 29, 35⟩)] := by
  decide +kernel
example : mxeConvert exMXE exPlusGene [exInclP] 1 1
    = .ok [(0, ⟨.substitution, 23, 29, 31, 34⟩)] := by decide +kernel
example : mxeConvert exMXE exPlusGene [exSecondP] 1 1
    = .ok [(0, ⟨.substitution, 31, 34, 23, 29⟩)] := by decide +kernel

example : applyAS exGene exIncl.exons (seqOfExons exChrom .minus exIncl.exons)
    (geneSeq exChrom exGene) ⟨.substitution, 29, 35, 24, 27⟩
      = seqOfExons exChrom .minus exSecond.exons :=
  mxe_spec_first_event exChrom exGene [exIncl] exMXE 1 1
    [(0, ⟨.substitution, 29, 35, 24, 27⟩)] 0 _ exIncl [⟨4, 9⟩] [] ⟨12, 20⟩ ⟨25, 31⟩ ⟨40, 52⟩
    (by decide +kernel)
    List.mem_cons_self rfl rfl (by decide +kernel) (by decide +kernel) (by decide +kernel) rfl rfl rfl (by decide +kernel)
    (by decide +kernel) (by decide +kernel)

example : applyAS exPlusGene exSecondP.exons (seqOfExons exChrom .plus exSecondP.exons)
    (geneSeq exChrom exPlusGene) ⟨.substitution, 31, 34, 23, 29⟩
      = seqOfExons exChrom .plus exInclP.exons :=
  mxe_spec_second_event exChrom exPlusGene [exSecondP] exMXE 1 1
    [(0, ⟨.substitution, 31, 34, 23, 29⟩)] 0 _ exSecondP [⟨4, 9⟩] [] ⟨12, 20⟩ ⟨33, 36⟩ ⟨40, 52⟩
    (by decide +kernel)
    List.mem_cons_self rfl rfl (by decide +kernel) (by decide +kernel) (by decide +kernel) rfl rfl rfl (by decide +kernel)
    (by decide +kernel) (by decide +kernel)

end MoPepGen.Props.C16
