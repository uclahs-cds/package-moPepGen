import MoPepGen.Lemmas.Coord
import MoPepGen.Lemmas.Seq
import MoPepGen.Lemmas.Cache
import MoPepGen.Lemmas.Gtf
import MoPepGen.Lemmas.GtfClosed
/-!
# C11 — reference model: coordinates and sequences are mutually consistent

Property theorems, each family with small examples on which its hypotheses hold.  The functions
are the models of the Python in `Model/Coord.lean`, `Model/Cache.lean` and `Model/Gtf.lean` (tied
to /repo by the correspondence streams of `harness/c11.py`).  The coordinate and sequence
theorems hold for arbitrary exon lists, positions and both strands; their hypotheses are the
decidable `Transcript.WF` (for the sequences only `OnChrom`) and, per theorem, that the position
or feature asked about lies in the gene interval / in an exon.  The cache and the GTF codec have
their own (`CacheInv`; `Anno.wf`, `Anno.ordered`, `Anno.stable`), introduced in their sections.
-/
namespace MoPepGen.Props.C11
open MoPepGen

/-! ## well-formedness is inhabited (non-vacuity) -/

def exTx : Transcript := { strand := .minus, exons := [⟨10, 20⟩, ⟨25, 31⟩, ⟨40, 52⟩] }
def exGene : Gene := { strand := .minus, loc := ⟨5, 60⟩ }
example : exTx.WF := by decide +kernel
example : exGene.WF := by decide +kernel
example : exTx.Within exGene := by decide +kernel
example : exTx.Covers [⟨15, 20⟩, ⟨25, 31⟩, ⟨40, 47⟩] := by decide +kernel
example : txIndex exTx 51 = .ok 0 := by decide +kernel
example : txIndex exTx 30 = .ok 12 := by decide +kernel
example : txIndex exTx 10 = .ok 27 := by decide +kernel
example : txIndex exTx 31 = .error .intron := by decide +kernel
example : txIndex exTx 52 = .error .outOfRange := by decide +kernel
example : txToGenomic exTx 12 = .ok 30 := by decide +kernel
example : txToGenomic exTx 28 = .error .outOfRange := by decide +kernel

/-! ## gene ↔ genomic -/

/-- genomic → gene is defined on the gene interval, lands in `[0, len)`, and
`gene_to_genomic` maps the result back to the position (both strands). -/
theorem gene_genomic_inverse (g : Gene) (p : Nat) (h : g.loc.start ≤ p ∧ p < g.loc.stop) :
    ∃ i, genomicToGene g p = .ok i ∧ i < g.len ∧ geneToGenomic g i = (p : Int) := by
  obtain ⟨h1, h2⟩ := Strand.off_mem g.strand h.1 h.2
  exact ⟨_, by rw [genomicToGene_eq, if_pos h], h1, by rw [geneToGenomic_eq h1, h2]⟩

/-- positions outside the gene are rejected (`reject:out-of-range`), never mapped -/
theorem genomicToGene_rejects (g : Gene) (p : Nat) (h : ¬ (g.loc.start ≤ p ∧ p < g.loc.stop)) :
    genomicToGene g p = .error .outOfRange := by
  unfold genomicToGene; rw [if_neg h]

/-- gene → genomic lands inside the gene for `i < len` and `genomic_to_gene` maps it back -/
theorem genomic_gene_inverse (g : Gene) (i : Nat) (h : i < g.len) :
    ∃ p : Nat, geneToGenomic g i = (p : Int) ∧ g.loc.start ≤ p ∧ p < g.loc.stop ∧
      genomicToGene g p = .ok i := by
  obtain ⟨h1, h2, h3⟩ := Strand.pos_mem g.strand h
  exact ⟨_, geneToGenomic_eq h, h1, h2, by rw [genomicToGene_eq, if_pos ⟨h1, h2⟩, h3]⟩

/-- `coordinate_gene_to_genomic` performs no range check: for `i ≥ len` it returns an integer
outside the gene interval -/
theorem geneToGenomic_outside (g : Gene) (i : Nat) (h : g.len ≤ i) :
    ¬ ((g.loc.start : Int) ≤ geneToGenomic g i ∧ geneToGenomic g i < g.loc.stop) := by
  unfold Gene.len Iv.len at h
  unfold geneToGenomic
  cases g.strand <;> simp only <;> omega

/-! ## transcript ↔ genomic -/

/-- genomic → transcript → genomic: whenever `get_transcript_index` returns `k`, `k` is a
valid transcript index, `coordinate_transcript_to_genomic k` is the original position, and
the position is exonic. -/
theorem txToGenomic_txIndex (t : Transcript) (hw : t.WF) (p k : Nat)
    (h : txIndex t p = .ok k) :
    k < t.len ∧ txToGenomic t k = .ok p ∧ isExonic t p = true :=
  have h' := (txIndex_eq_ok_iff hw).mp h
  ⟨lt_len_of_txToGenomic h', h', isExonic_of_txToGenomic h'⟩

/-- transcript → genomic → transcript: every index `i < len` maps to an exonic position
whose transcript index is `i` again. -/
theorem txIndex_txToGenomic (t : Transcript) (hw : t.WF) (i : Nat) (h : i < t.len) :
    ∃ p, txToGenomic t i = .ok p ∧ isExonic t p = true ∧ txIndex t p = .ok i := by
  obtain ⟨p, hp⟩ := exists_txToGenomic_of_lt h
  exact ⟨p, hp, isExonic_of_txToGenomic hp, txIndex_of_txToGenomic hw hp⟩

/-- indices at or beyond the transcript length are rejected (no well-formedness needed) -/
theorem txToGenomic_rejects (t : Transcript) (i : Nat) (h : t.len ≤ i) :
    txToGenomic t i = .error .outOfRange :=
  txToGenomic_oor h

/-- every exonic position is mapped -/
theorem txIndex_exonic (t : Transcript) (hw : t.WF) (p : Nat) (hx : isExonic t p = true) :
    ∃ k, txIndex t p = .ok k := by
  obtain ⟨k, hk⟩ := exists_txToGenomic_of_exonic hx
  exact ⟨k, txIndex_of_txToGenomic hw hk⟩

/-- intronic positions (inside the transcript span, in no exon) are rejected with
`reject:intron` — never mapped -/
theorem txIndex_intron (t : Transcript) (hw : t.WF) (p : Nat)
    (hspan : t.spanStart ≤ p ∧ p < t.spanStop) (hx : isExonic t p = false) :
    txIndex t p = .error .intron :=
  txIndex_gap hw hspan hx

/-- positions outside the transcript span are rejected with `reject:out-of-range` -/
theorem txIndex_outOfRange (t : Transcript) (hw : t.WF) (p : Nat)
    (hspan : p < t.spanStart ∨ t.spanStop ≤ p) : txIndex t p = .error .outOfRange := by
  rw [txIndex_eq hw, if_pos hspan]

/-- `get_transcript_index` is defined exactly on the exonic positions -/
theorem txIndex_ok_iff_exonic (t : Transcript) (hw : t.WF) (p : Nat) :
    (∃ k, txIndex t p = .ok k) ↔ isExonic t p = true :=
  ⟨fun ⟨k, h⟩ => (txToGenomic_txIndex t hw p k h).2.2, txIndex_exonic t hw p⟩

/-! ## sequences -/

/-- The transcript sequence has length `transcript_len` and, at every transcript index `k`,
holds the strand-corrected chromosome base at the genomic position `k` maps to
(complemented on the minus strand).  No sortedness is needed — only that every exon lies
on the chromosome (Python slicing would silently truncate otherwise). -/
theorem txSeq_pointwise (chrom : List Char) (t : Transcript) (hne : t.exons ≠ [])
    (hc : OnChrom chrom.length t.exons) :
    ∃ s, txSeq chrom t = .ok s ∧ s.length = t.len ∧
      ∀ k p, txToGenomic t k = .ok p →
        ∃ c, chrom[p]? = some c ∧ s[k]? = some (strandBase t.strand c) := by
  refine ⟨_, Fusion.txSeq_eq_readBases hne hc,
    (List.length_map _).trans (Fusion.length_txPositions t), fun k p h => ?_⟩
  -- a mapped position is exonic, hence on the chromosome
  obtain ⟨e, he, _, hb⟩ := isExonic_iff.mp (isExonic_of_txToGenomic h)
  exact Fusion.readBases_getElem? _ (Fusion.txToGenomic_getElem? h) (Nat.lt_of_lt_of_le hb (hc e he))

/-- The gene sequence has the gene's length and at every gene index `i` holds the
strand-corrected chromosome base at `coordinate_gene_to_genomic i`. -/
theorem geneSeq_pointwise (chrom : List Char) (g : Gene) (hc : g.loc.stop ≤ chrom.length) :
    (geneSeq chrom g).length = g.len ∧
    ∀ i, i < g.len → ∃ p : Nat, geneToGenomic g i = (p : Int) ∧
      ∃ c, chrom[p]? = some c ∧ (geneSeq chrom g)[i]? = some (strandBase g.strand c) := by
  rw [Fusion.geneSeq_eq_readBases hc]
  refine ⟨(List.length_map _).trans ((Fusion.length_orient _ _).trans (Fusion.length_ascRange _)),
    fun i hi => ?_⟩
  obtain ⟨p, hp, hget⟩ := Fusion.genePositions_getElem? hi
  have hpl := (Fusion.mem_genePositions.mp (List.mem_of_getElem? hget)).2
  exact ⟨p, hp, Fusion.readBases_getElem? _ hget (Nat.lt_of_lt_of_le hpl hc)⟩

example : txSeq "AACCGGTTAC".toList { strand := .minus, exons := [⟨1, 3⟩, ⟨5, 8⟩] }
    = .ok "AACGT".toList := by
  repeat rw [String.toList_ofList]
  decide +kernel

/-! ## pointer-dictionary cache (`GenePointerDict` / `TranscriptPointerDict`)

`CacheInv` = deque without duplicates, deque = key set of the dict, length ≤ bound, every
cached value equals `load key`. -/

section Cache
variable {K V : Type} [DecidableEq K]

/-- For every access history consisting of loadable keys (any order, any repetitions, any
length — evictions included), from any state satisfying the invariant: every `__getitem__`
returns `load key` (no `KeyError` on eviction) and the invariant holds afterwards.  `run` uses
`CacheState.get`, the statement order of the code before commit 1ee503c (key on the deque, then
`load`). -/
theorem cache_get_returns_load (size : Nat) (hs : 1 ≤ size) (load : K → Option V)
    (c : CacheState K V) (hi : CacheInv size load c) (hist : List K)
    (hload : ∀ k ∈ hist, (load k).isSome = true) :
    (CacheState.run size load c hist).2 = hist.map (cacheExpected load) ∧
      CacheInv size load (CacheState.run size load c hist).1 := by
  induction hist generalizing c with
  | nil => exact ⟨rfl, hi⟩
  | cons k ks ih =>
    obtain ⟨v, hv⟩ := Option.isSome_iff_exists.mp (hload k List.mem_cons_self)
    obtain ⟨hr, hi'⟩ := hi.get_ok hs hv
    obtain ⟨hrs, hi''⟩ := ih _ hi' (fun x hx => hload x (List.mem_cons_of_mem _ hx))
    simp only [CacheState.run, List.map_cons]
    exact ⟨by rw [hrs, hr, cacheExpected, hv], hi''⟩

theorem cache_get_returns_load_from_empty (size : Nat) (hs : 1 ≤ size) (load : K → Option V)
    (hist : List K) (hload : ∀ k ∈ hist, (load k).isSome = true) :
    (CacheState.run size load CacheState.empty hist).2 = hist.map (cacheExpected load) :=
  (cache_get_returns_load size hs load _ (CacheInv.empty size load) hist hload).1

/-- Full-strength statement for the repaired access order (`load` before `appendleft`, /repo
since commit 1ee503c): for EVERY history, including unknown keys and failing loads, every access
returns `load key` (or the load's own error) and the invariant is preserved. -/
theorem cacheFixed_get_returns_load (size : Nat) (hs : 1 ≤ size) (load : K → Option V)
    (c : CacheState K V) (hi : CacheInv size load c) (hist : List K) :
    (CacheState.runFixed size load c hist).2 = hist.map (cacheExpected load) ∧
      CacheInv size load (CacheState.runFixed size load c hist).1 := by
  induction hist generalizing c with
  | nil => exact ⟨rfl, hi⟩
  | cons k ks ih =>
    obtain ⟨hr, hi'⟩ := hi.getFixed_spec hs k
    obtain ⟨hrs, hi''⟩ := ih _ hi'
    simp only [CacheState.runFixed, List.map_cons]
    exact ⟨by rw [hrs, hr], hi''⟩

end Cache

/-- The code before commit 1ee503c (`CacheState.get`) does NOT have the property for histories
that contain a failing lookup: the key is pushed on the deque before the load, so a later eviction
raises `KeyError` on an access to a perfectly valid key (bound 2, keys `< 10` loadable). -/
example : (CacheState.run 2 (fun k : Nat => if k < 10 then some k else none)
    CacheState.empty [99, 0, 1, 1, 2, 3]).2
    = [.loadError, .ok 0, .evictKeyError, .ok 1, .ok 2, .evictKeyError] := by decide +kernel
example : (CacheState.runFixed 2 (fun k : Nat => if k < 10 then some k else none)
    CacheState.empty [99, 0, 1, 1, 2, 3]).2
    = [.loadError, .ok 0, .ok 1, .ok 1, .ok 2, .ok 3] := by decide +kernel

/-! ## ORF start / end and selenocysteine positions -/

/-- plus strand: `get_cds_start_index` = transcript index of the first base of the first CDS
record + its frame -/
theorem cds_start_spec_plus (t : Transcript) (hw : t.WF) (hs : t.strand = .plus)
    (c0 : Cds) (rest : List Cds) (f : Nat) (hf : c0.frame = some f)
    (hx : isExonic t c0.iv.start = true) :
    ∃ k, txIndex t c0.iv.start = .ok k ∧ cdsStartIndex t (c0 :: rest) = .ok (k + f) := by
  obtain ⟨k, hk⟩ := exists_txToGenomic_of_exonic hx
  refine ⟨k, txIndex_of_txToGenomic hw hk, ?_⟩
  obtain ⟨pre, e, post, hwk, h1, h2, rfl⟩ := txToGenomic_eq_ok_iff.mp hk
  have hwf := hw.walk
  obtain ⟨s, es⟩ := t
  cases hs
  have hwk : es = pre ++ e :: post := hwk
  subst hwk
  simp only [cdsStartIndex, List.head?_cons, hf]
  rw [cdsStartPlus_split hwf h1 h2, Nat.zero_add]; rfl

/-- minus strand: `get_cds_start_index` = transcript index of the last genomic base of the
last (genomic order) CDS record — the first coding base — + (`frame or 0`) -/
theorem cds_start_spec_minus (t : Transcript) (hw : t.WF) (hs : t.strand = .minus)
    (cds : List Cds) (cl : Cds) (hl : cds.getLast? = some cl) (hne : cl.iv.start < cl.iv.stop)
    (hx : isExonic t (cl.iv.stop - 1) = true) :
    ∃ k, txIndex t (cl.iv.stop - 1) = .ok k ∧
      cdsStartIndex t cds = .ok (k + cl.frame.getD 0) := by
  obtain ⟨k, hk⟩ := exists_txToGenomic_of_exonic hx
  refine ⟨k, txIndex_of_txToGenomic hw hk, ?_⟩
  obtain ⟨pre, e, post, hwk, h1, h2, rfl⟩ := txToGenomic_eq_ok_iff.mp hk
  have hwf := hw.walk
  obtain ⟨s, es⟩ := t
  cases hs
  have hwk : es.reverse = pre ++ e :: post := hwk
  simp only [cdsStartIndex, hl]
  -- the loop is given the end `c` of the last CDS record, the first coding base is `c - 1`
  have hc : 1 ≤ cl.iv.stop := Nat.succ_le_of_lt (Nat.zero_lt_of_lt hne)
  rw [hwk, cdsStartMinus_split (hwk ▸ hwf) (Nat.lt_of_le_of_lt h1 (Nat.sub_one_lt_of_lt hne))
    (Nat.le_of_pred_lt h2), Nat.zero_add]
  show Except.ok (exonsLen pre + (e.stop - cl.iv.stop) + _) =
    Except.ok (exonsLen pre + (e.stop - 1 - (cl.iv.stop - 1)) + _)
  rw [Nat.sub_sub_sub_cancel_right hc]

/-- `end - (end - start) % 3`: the largest index ≤ `end` in the reading frame of `start` -/
theorem alignEnd_spec (e s : Int) :
    (alignEnd e s - s) % 3 = 0 ∧ alignEnd e s ≤ e ∧ e < alignEnd e s + 3 := by
  unfold alignEnd; omega

/-- `get_cds_end_index`: the boundary is the transcript index of the first 3'UTR base in
transcript order (plus: start of the first `three_utr` record, minus: last base of the last
one) when there is a 3'UTR, the sequence length otherwise; the result is that boundary
aligned down to the frame of `start` (see `alignEnd_spec`). -/
theorem cds_end_spec (t : Transcript) (threeUtr : List Iv) (seqLen start : Nat) :
    (threeUtr = [] → cdsEndIndex t threeUtr seqLen start = .ok (alignEnd seqLen start)) ∧
    (∀ u rest, t.strand = .plus → threeUtr = u :: rest → ∀ k, txIndex t u.start = .ok k →
        cdsEndIndex t threeUtr seqLen start = .ok (alignEnd k start)) ∧
    (∀ u, t.strand = .minus → threeUtr.getLast? = some u → ∀ k,
        txIndex t (u.stop - 1) = .ok k →
        cdsEndIndex t threeUtr seqLen start = .ok (alignEnd k start)) := by
  refine ⟨?_, ?_, ?_⟩
  · intro h; subst h; unfold cdsEndIndex; cases t.strand <;> rfl
  · intro u rest hs h k hk; subst h; unfold cdsEndIndex; rw [hs]; simp [hk]
  · intro u hs h k hk; unfold cdsEndIndex; rw [hs]; simp [h, hk]

/-- A selenocysteine feature lying inside one exon maps to a transcript interval of the same
length whose first index is the transcript index of its 5'-most base (so that
`coordinate_transcript_to_genomic` of the start gives that base back). -/
theorem sec_spec (t : Transcript) (hw : t.WF) (sec : Iv) (hne : sec.start < sec.stop)
    (hcov : ∃ e ∈ t.exons, e.isSuperset sec = true) :
    ∃ a, secLoc t sec = .ok (a, a + sec.len) ∧
      txToGenomic t a = .ok (match t.strand with | .plus => sec.start | .minus => sec.stop - 1) := by
  obtain ⟨e, he, hsup⟩ := hcov
  simp only [Iv.isSuperset, Bool.and_eq_true, decide_eq_true_eq] at hsup
  obtain ⟨pre, post, hwk⟩ := List.append_of_mem (Transcript.mem_walk.mpr he)
  -- every position of `e` is mapped, with the same exons read before it
  have key : ∀ q, e.start ≤ q → q < e.stop →
      txToGenomic t (exonsLen pre + t.strand.off e q) = .ok q ∧
        txIndex t q = .ok (exonsLen pre + t.strand.off e q) := fun q h1 h2 =>
    have h := txToGenomic_eq_ok_iff.mpr ⟨pre, e, post, hwk, h1, h2, rfl⟩
    ⟨h, txIndex_of_txToGenomic hw h⟩
  obtain ⟨g1, i1⟩ := key sec.start hsup.1 (Nat.lt_of_lt_of_le hne hsup.2)
  obtain ⟨g2, i2⟩ := key (sec.stop - 1) (Nat.le_sub_one_of_lt (Nat.lt_of_le_of_lt hsup.1 hne))
    (Nat.lt_of_lt_of_le (Nat.sub_one_lt (Nat.ne_zero_of_lt hne)) hsup.2)
  obtain ⟨s, es⟩ := t
  cases s
  · have h : Strand.plus.off e (sec.stop - 1) + 1 = Strand.plus.off e sec.start + sec.len :=
      Strand.off_stretch .plus hsup.1 hne hsup.2
    refine ⟨_, ?_, g1⟩
    simp only [secLoc, i1, i2]
    rw [Nat.add_assoc, h, Nat.add_assoc]
  · have h : Strand.minus.off e sec.start + 1 = Strand.minus.off e (sec.stop - 1) + sec.len :=
      Strand.off_stretch .minus hsup.1 hne hsup.2
    refine ⟨_, ?_, g2⟩
    simp only [secLoc, i1, i2]
    rw [Nat.add_assoc, h, Nat.add_assoc]

example : txOrf { strand := .plus, exons := [⟨0, 10⟩, ⟨20, 30⟩] }
    [⟨⟨2, 10⟩, some 0⟩, ⟨⟨20, 25⟩, some 1⟩] [⟨25, 30⟩] = .ok (some (2, 14)) := by decide +kernel
example : secLoc exTx ⟨26, 29⟩ = .ok (14, 17) := by decide +kernel

/-! ## exon look-up -/

/-- plus-strand loop of `find_exon_index`: returns `i + j` exactly when the `j`-th exon equals
the feature (start and end; same strand) -/
theorem findExonPlus_spec {es : List Iv} (hw : AscWF es) (f : Iv) (i k : Nat) :
    findExonPlus f es i = .ok k ↔ ∃ j, es[j]? = some f ∧ k = i + j := by
  refine findExon_spec (stop := fun e => e.gt f) (fun _ => rfl) (fun _ _ _ => rfl) ?_ i k
  refine hw.2.imp_of_mem fun {a b} ha hb hab h hbf => ?_
  subst hbf
  have := hw.1 a ha
  rcases h with rfl | h
  · omega
  · simp only [Iv.gt, Bool.or_eq_true, Bool.and_eq_true, decide_eq_true_eq] at h; omega

/-- minus-strand loop of `find_exon_index` over `reversed(exons)` -/
theorem findExonMinus_spec {es : List Iv} (hw : DescWF es) (f : Iv) (i k : Nat) :
    findExonMinus f es i = .ok k ↔ ∃ j, es[j]? = some f ∧ k = i + j := by
  refine findExon_spec (stop := fun e => e.lt f) (fun _ => rfl) (fun _ _ _ => rfl) ?_ i k
  refine hw.2.imp_of_mem fun {a b} ha hb hab h hbf => ?_
  subst hbf
  have := hw.1 a ha
  have := hw.1 b hb
  rcases h with rfl | h
  · omega
  · simp only [Iv.lt, Iv.gt, Bool.not_eq_true', Bool.or_eq_false_iff, Bool.and_eq_false_iff,
      decide_eq_false_iff_not] at h
    omega

/-- exons in transcript (5'→3') order -/
def txOrderExons (t : Transcript) : List Iv :=
  match t.strand with
  | .plus => t.exons
  | .minus => t.exons.reverse

/-- `find_exon_index` (genomic coordinates, feature on the transcript's strand) returns `k`
iff the `k`-th exon in transcript order equals the feature.  (That every failure is
`ExonNotFoundError` is `findExonIndex_error`.) -/
theorem exon_lookup_spec (t : Transcript) (hw : t.WF) (f : Iv) (k : Nat) :
    findExonIndex t f = .ok k ↔ (txOrderExons t)[k]? = some f := by
  have key : ∀ es : List Iv, (∃ j, es[j]? = some f ∧ k = 0 + j) ↔ es[k]? = some f := fun es =>
    ⟨fun ⟨j, hj, hk⟩ => by rw [hk, Nat.zero_add]; exact hj, fun h => ⟨k, h, (Nat.zero_add k).symm⟩⟩
  have hasc : AscWF t.exons := hw.2
  unfold findExonIndex txOrderExons
  cases t.strand
  · exact (findExonPlus_spec hasc f 0 k).trans (key _)
  · exact (findExonMinus_spec hasc.reverse f 0 k).trans (key _)

/-! ## GTF codec: writing an annotation and parsing it back preserves all models

`Model/Gtf.lean` models `GtfIO.write` / `to_gtf_record` and `GenomicAnnotation.dump_gtf` /
`line_to_seq_feature` / `add_gene_record` / `add_transcript_record` / `add_record` /
`sort_records` (`split_utr`) on abstract lines.

**What is compared.**  `Anno.erase` keeps both dicts with keys and order; the gene records and
the `transcript` records with their whole attribute dicts (ids, names, biotypes, all tags — hence
`cds_start_NF` / `mRNA_end_NF`); the transcript ids listed by each gene; the coding flag; the four
ids of the model (`transcript_id`, `gene_id`, `protein_id`, `gene_name`); and the eight record
lists `cds`, `exon`, `start_codon`, `stop_codon`, `utr`, `five_utr`, `three_utr`,
`selenocysteine` with chromosome, type, interval, strand and frame of every record, in order.  It
drops only the attribute dicts of the records *inside* the eight lists: `add_record` overwrites
the ids of every record with those of the model, so these dicts depend on the order of the records
in the file and change on the first round trip of a freshly loaded ENSEMBL file (`protein_id`
spreads from the CDS records to the records written after them); `gtf_roundtrip_exact` covers
them for `Anno.stable` annotations.
`Anno.canon` re-lists the transcripts dict gene by gene (the order `write` emits); it is the
identity on annotations loaded from a file that lists every gene's transcripts before the next
gene (`Anno.ordered`), and never changes a look-up (`gtf_roundtrip_lookup`).

Not modelled: the inferred `source` (GENCODE / ENSEMBL) of a record (a function of the chromosome
names; it selects which of the two compared attributes `biotype` reads; the harness compares it
on the real objects); tab splitting and decimal integers (done by the driver). -/

section GtfCodec
open MoPepGen.Gtf
open MoPepGen.Gvf (Str AttrVal dictGet)

/-! The example `gtfEx`: a small ENSEMBL-style annotation on the minus strand (with the records
commit deb9e01 made `write` emit: `five_prime_utr`, `three_prime_utr`, `start_codon`,
`stop_codon`). -/
def S (s : String) : Str := s.toList
def gtfExAttrs (extra : List (Str × AttrVal)) : List (Str × AttrVal) :=
  [(kGeneId, .str (S "G1")), (kTranscriptId, .str (S "T1")),
   (kGeneBiotype, .str (S "protein_coding"))] ++ extra
def gtfExRec (ty : String) (a b : Nat) (fr : Option Nat) (extra : List (Str × AttrVal)) : Rec :=
  { chrom := S "17", type := S ty, iv := ⟨a, b⟩, strand := .minus, frame := fr,
    attrs := gtfExAttrs extra }
def gtfExPid : List (Str × AttrVal) := [(kProteinId, .str (S "P1"))]
def gtfExT : Rec :=
  gtfExRec "transcript" 10 60 none [(kTag, .list [S "basic", S "cds_start_NF"])]
/-- exons [10,30) [40,60); CDS [20,30) [40,50); 5'UTR [50,60); stop codon [17,20); 3'UTR [10,17);
as loaded from a file in which the first exon precedes the first CDS record (it carries no
`protein_id`) -/
def gtfExTx : TxModel :=
  { transcript := some gtfExT,
    cds := [gtfExRec "CDS" 20 30 (some 2) gtfExPid, gtfExRec "CDS" 40 50 (some 0) gtfExPid],
    exon := [gtfExRec "exon" 10 30 none [], gtfExRec "exon" 40 60 none gtfExPid],
    startCodon := [gtfExRec "start_codon" 47 50 (some 0) gtfExPid],
    stopCodon := [gtfExRec "stop_codon" 17 20 (some 0) gtfExPid],
    fiveUtr := [gtfExRec "five_prime_utr" 50 60 none gtfExPid],
    threeUtr := [gtfExRec "three_prime_utr" 10 17 none gtfExPid],
    sec := [gtfExRec "Selenocysteine" 41 44 none gtfExPid],
    isProteinCoding := some true,
    transcriptId := some (S "T1"), geneId := some (S "G1"), proteinId := some (S "P1") }
def gtfExGene : Rec :=
  { chrom := S "17", type := S "gene", iv := ⟨5, 70⟩, strand := GStrand.minus, frame := none,
    attrs := [(kGeneId, .str (S "G1")), (kGeneName, .str (S "N"))] }
def gtfEx : Anno := { genes := [(S "G1", ⟨gtfExGene, [S "T1"]⟩)], txs := [(S "T1", gtfExTx)] }

/-! `gtfEx` spelled with character lists.  The kernel decodes a string literal through its UTF-8
byte array, which is far slower than anything else the examples below evaluate; `gtfEx_eq` turns
the literals into character lists once (`String.toList_ofList`) and the examples start from it. -/
private def cG1 : Str := ['G','1']
private def cT1 : Str := ['T','1']
private def cP1 : Str := ['P','1']
private def cRec (ty : Str) (a b : Nat) (fr : Option Nat) (extra : List (Str × AttrVal)) : Rec :=
  { chrom := ['1','7'], type := ty, iv := ⟨a, b⟩, strand := .minus, frame := fr,
    attrs := [(kGeneId, .str cG1), (kTranscriptId, .str cT1),
      (kGeneBiotype, .str ['p','r','o','t','e','i','n','_','c','o','d','i','n','g'])] ++ extra }
private def cPid : List (Str × AttrVal) := [(kProteinId, .str cP1)]
private def cCds : Str := ['C','D','S']
private def cExon : Str := ['e','x','o','n']
private def cGene : Rec :=
  { chrom := ['1','7'], type := fGene, iv := ⟨5, 70⟩, strand := .minus, frame := none,
    attrs := [(kGeneId, .str cG1), (kGeneName, .str ['N'])] }
private def gtfExChars : Anno :=
  { genes := [(cG1, ⟨cGene, [cT1]⟩)],
    txs := [(cT1,
      { transcript := some (cRec ['t','r','a','n','s','c','r','i','p','t'] 10 60 none
          [(kTag, .list [['b','a','s','i','c'], ['c','d','s','_','s','t','a','r','t','_','N','F']])]),
        cds := [cRec cCds 20 30 (some 2) cPid, cRec cCds 40 50 (some 0) cPid],
        exon := [cRec cExon 10 30 none [], cRec cExon 40 60 none cPid],
        startCodon := [cRec ['s','t','a','r','t','_','c','o','d','o','n'] 47 50 (some 0) cPid],
        stopCodon := [cRec ['s','t','o','p','_','c','o','d','o','n'] 17 20 (some 0) cPid],
        fiveUtr := [cRec ['f','i','v','e','_','p','r','i','m','e','_','u','t','r'] 50 60 none cPid],
        threeUtr := [cRec ['t','h','r','e','e','_','p','r','i','m','e','_','u','t','r'] 10 17 none cPid],
        sec := [cRec ['S','e','l','e','n','o','c','y','s','t','e','i','n','e'] 41 44 none cPid],
        isProteinCoding := some true,
        transcriptId := some cT1, geneId := some cG1, proteinId := some cP1 })] }
private theorem gtfEx_eq : gtfEx = gtfExChars := by
  unfold gtfEx gtfExGene gtfExTx gtfExT gtfExPid
  unfold gtfExRec gtfExAttrs S
  repeat rw [String.toList_ofList]
  rfl

set_option maxRecDepth 100000 in
example : gtfEx.wf = true := by
  rw [gtfEx_eq]
  decide +kernel
set_option maxRecDepth 100000 in
example : gtfEx.ordered = true := by
  rw [gtfEx_eq]
  decide +kernel
set_option maxRecDepth 100000 in
example : gtfEx.textOK = true := by
  rw [gtfEx_eq]
  decide +kernel
/-- the attribute dicts of the records are not yet in their fixed point … -/
example : gtfEx.stable = false := by
  rw [gtfEx_eq]
  decide +kernel
set_option maxRecDepth 100000 in
/-- … but the normal form is reproduced (the statement of `gtf_roundtrip` on the example) -/
example : (match writeGtf gtfEx with
    | .ok ls => (parseGtf ls).map Anno.erase
    | .error e => .error e) = .ok gtfEx.erase := by
  rw [gtfEx_eq]
  decide +kernel
example : colParse (colText [(kGeneId, S "G1"), (kTag, S "basic"), (kGeneName, S "a b")])
    = .ok [(kGeneId, S "G1"), (kTag, S "basic"), (kGeneName, S "a b")] := by decide +kernel

/-- The writer as it was before commit deb9e01 (`records = sec + sorted(cds + exon) + utr`)
loses the ENSEMBL UTR and codon records: on the example the reloaded model has no 3'UTR, so
`get_cds_end_index` falls back to the sequence end. -/
def txRecordsOld (m : TxModel) : List Rec := m.sec ++ (sortRecs (m.cds ++ m.exon) ++ m.utr)
set_option maxRecDepth 100000 in
example : (sortRecords (foldTx {} (txPlus gtfExT (some true) :: txRecordsOld gtfExTx))).map
    (fun m => (m.threeUtrIvs, m.fiveUtr.length, m.stopCodon.length)) = .ok ([], 0, 0) := by decide +kernel
example : gtfExTx.threeUtrIvs = [⟨10, 17⟩] := by decide +kernel

/-- **Attribute column codec.**  `colParse` (`rstrip(';')`, `split(';')`, `strip()`,
`split(' ', 1)`) reads back exactly the `(key, value)` list `colText` (`f" {key} {val};"`)
wrote, for every non-empty list whose keys are non-empty and contain neither white space nor
`;`, and whose values are non-empty, contain no `;` and neither start nor end with white space. -/
theorem gtf_attr_column_roundtrip (kvs : List (Str × Str)) (hne : kvs ≠ [])
    (h : ∀ kv ∈ kvs, keyTextOK kv.1 = true ∧ valTextOK kv.2 = true) :
    colParse (colText kvs) = .ok kvs :=
  colParse_colText hne h

/-- **The column text of a written line.**  If the attribute dict of `r` is text-clean
(`Rec.textOK`: something is written; keys non-empty without white space or `;`; values non-empty,
without `;`, not starting or ending with white space) then the column-9 text of
`to_gtf_record r flag` is read back to exactly the `(key, value)` list of the abstract line.  Every
line `write` emits is such a line; this is the link between the theorems below, stated on abstract
lines, and the written text. -/
theorem gtf_line_text_roundtrip (r : Rec) (h : r.textOK = true) (ipc : Option Bool) :
    colParse (colText (recToLine r ipc).attrs) = .ok (recToLine r ipc).attrs :=
  colParse_recToLine h ipc

/-- **Record codec.**  `line_to_seq_feature (to_gtf_record r) = r` for every record with
`start ≤ end`, strand `+`/`-`/none, and an attribute dict with distinct kept keys in which
`tag` (only) holds a non-empty list and no value starts or ends with `"`: 0-based half-open
interval ↔ 1-based inclusive columns, strand, frame, attribute dict with its order. -/
theorem gtf_record_roundtrip (r : Rec) (h : r.ok = true) :
    lineToRec (recToLine r none) = .ok r :=
  lineToRec_recToLine h

/-- the `transcript` record written with the coding flag comes back with the flag as its last
attribute (`add_record` then pops it into `is_protein_coding`) -/
theorem gtf_transcript_record_roundtrip (r : Rec) (h : r.ok = true)
    (hk : dictGet r.attrs kIpc = none) (ipc : Option Bool) :
    lineToRec (recToLine r ipc) = .ok { r with attrs := withIpc r.attrs ipc } :=
  lineToRec_recToLine_ipc h (dictGet_eq_none_iff.mp hk) ipc

/-- **Round trip, normal form.**  For EVERY well-formed annotation (`Anno.wf`: any number of
genes and transcripts, any strand mix, GENCODE `UTR` records and/or ENSEMBL
`five_prime_utr`/`three_prime_utr`, start/stop codons, Sec, tags, coding flag set or not)
`GtfIO.write` succeeds and `dump_gtf` of the written lines succeeds and returns an annotation
equal to the original in every compared field (see the section header), the transcripts dict
listed gene by gene. -/
theorem gtf_roundtrip (a : Anno) (h : a.wf = true) :
    ∃ ls a', writeGtf a = .ok ls ∧ parseGtf ls = .ok a' ∧ a'.erase = a.canon.erase := by
  obtain ⟨ls, hw, hp⟩ := parse_write h
  exact ⟨ls, _, hw, hp, reloaded_erase h⟩

/-- on an annotation whose transcripts dict is already listed gene by gene the result is the
original itself (in the normal form) -/
theorem gtf_roundtrip_ordered (a : Anno) (h : a.wf = true) (ho : a.ordered = true) :
    ∃ ls a', writeGtf a = .ok ls ∧ parseGtf ls = .ok a' ∧ a'.erase = a.erase := by
  obtain ⟨ls, a', h1, h2, h3⟩ := gtf_roundtrip a h
  exact ⟨ls, a', h1, h2, by rw [h3, of_decide_eq_true ho]⟩

/-- **Round trip, exact.**  If moreover the key loop of `add_record` changes no attribute dict
(`Anno.stable`; observed on everything that went through one write → parse in the real code,
stream `gtfwf1`, proved only from a stable input, see "Closure" below), the parsed annotation is
the original with ALL attribute dicts, transcripts listed gene by gene. -/
theorem gtf_roundtrip_exact (a : Anno) (h : a.wf = true) (hs : a.stable = true) :
    ∃ ls, writeGtf a = .ok ls ∧ parseGtf ls = .ok a.canon := by
  obtain ⟨ls, hw, hp⟩ := parse_write h
  exact ⟨ls, hw, reloaded_of_stable h hs ▸ hp⟩

/-- **Look-ups are preserved.**  After the round trip every transcript listed by a gene is
found under its id, and its model equals the original's in the normal form: the order of the
transcripts dict is the only thing `canon` changes. -/
theorem gtf_roundtrip_lookup (a : Anno) (h : a.wf = true) :
    ∃ ls a', writeGtf a = .ok ls ∧ parseGtf ls = .ok a' ∧ a'.genes = a.genes ∧
      ∀ g ∈ a.genes, ∀ tid ∈ g.2.transcripts, ∃ m m', dictGet a.txs tid = some m ∧
        dictGet a'.txs tid = some m' ∧ m'.erase = m.erase := by
  obtain ⟨ls, hw, hp⟩ := parse_write h
  refine ⟨ls, _, hw, hp, rfl, fun g hg tid ht => ?_⟩
  obtain ⟨m, hm, hwf, hr⟩ := dictGet_reloaded h hg ht
  exact ⟨m, _, hm, hr, reloadTx_erase hwf⟩

/-- the ORF start / end that `get_transcript_sequence` attaches, as a function of the model
(`txOrf` of `Model/Coord.lean`, the subject of `cds_start_spec_*`, `cds_end_spec`) -/
def TxModel.orf (m : TxModel) : Option (Except CoordErr (Option (Nat × Int))) :=
  m.toTranscript.map fun t => txOrf t m.cdsList m.threeUtrIvs

/-- the selenocysteine positions `get_transcript_sequence` attaches (`secLocs`, `sec_spec`) -/
def TxModel.secPositions (m : TxModel) : Option (Except CoordErr (List (Nat × Nat))) :=
  m.toTranscript.map fun t => secLocs t m.secIvs

/-- **Consequences for the coordinate theorems.**  Two transcript models that agree in the
normal form give the coordinate functions the same input: strand and exon intervals (hence
every coordinate map and the transcript sequence), CDS intervals with frames, 3'UTR and Sec
intervals; the same ORF start / end and Sec positions; the same coding flag, tags
(`cds_start_NF`, `mRNA_end_NF`, …) and ids. -/
theorem gtf_normal_form_determines_coordinates (m m' : TxModel) (h : m'.erase = m.erase) :
    m'.toTranscript = m.toTranscript ∧ m'.cdsList = m.cdsList ∧
      m'.threeUtrIvs = m.threeUtrIvs ∧ m'.secIvs = m.secIvs ∧
      TxModel.orf m' = TxModel.orf m ∧ TxModel.secPositions m' = TxModel.secPositions m ∧
      m'.isProteinCoding = m.isProteinCoding ∧ (∀ tag, m'.hasTag tag = m.hasTag tag) ∧
      m'.ids = m.ids := by
  obtain ⟨h1, h2, h3, h4, h5, h6, h7⟩ := erase_eq_coord h
  refine ⟨h1, h2, h3, h4, ?_, ?_, h5, h6, h7⟩
  · simp only [TxModel.orf, h1, h2, h3]
  · simp only [TxModel.secPositions, h1, h4]

/-- **ORF and Sec positions survive the round trip**: for every transcript listed by a gene of
a well-formed annotation, the model found under the same id after write → parse has the same
ORF start / end and selenocysteine positions (and coding flag, tags, exons, strand). -/
theorem gtf_roundtrip_preserves_orf_sec (a : Anno) (h : a.wf = true) :
    ∃ ls a', writeGtf a = .ok ls ∧ parseGtf ls = .ok a' ∧
      ∀ g ∈ a.genes, ∀ tid ∈ g.2.transcripts, ∃ m m', dictGet a.txs tid = some m ∧
        dictGet a'.txs tid = some m' ∧ m'.toTranscript = m.toTranscript ∧
        TxModel.orf m' = TxModel.orf m ∧ TxModel.secPositions m' = TxModel.secPositions m ∧
        m'.isProteinCoding = m.isProteinCoding ∧ ∀ tag, m'.hasTag tag = m.hasTag tag := by
  obtain ⟨ls, a', h1, h2, _, h4⟩ := gtf_roundtrip_lookup a h
  refine ⟨ls, a', h1, h2, fun g hg tid ht => ?_⟩
  obtain ⟨m, m', hm, hm', he⟩ := h4 g hg tid ht
  obtain ⟨c1, _, _, _, c5, c6, c7, c8, _⟩ := gtf_normal_form_determines_coordinates m m' he
  exact ⟨m, m', hm, hm', c1, c5, c6, c7, c8⟩

/-! ### Closure of the round trip

`reload a` = `dump_gtf (write a)` as one function (`Model/Gtf.lean`).  For a well-formed `a` it
is `reloaded a`: genes unchanged, transcripts dict re-listed gene by gene, every transcript
model rebuilt by `add_record` / `sort_records` from its own block (`reload_eq`).

**Full statement (NOT proved in full; no theorem of this file states it):**
`∀ a, a.wf → ∃ r, reload a = .ok r ∧ r.wf ∧ r.ordered ∧ r.stable`.
Proved below:
* `r.ordered` and `r.genes = a.genes` for every `a.wf` (`gtf_roundtrip_closed_ordered`);
* the whole statement for every `a.wf` with `a.stable` (`gtf_roundtrip_closed_partial`; then
  `r = a.canon`);
* the whole statement for every `a.wf`, given the per-transcript fact that the block of a
  well-formed transcript model reloads to a well-formed, stable model
  (`gtf_roundtrip_closed_of_tx`).
Missing: that per-transcript fact for models that are not yet stable (a freshly loaded ENSEMBL
file, whose `protein_id` spreads from the CDS records to the records written after them on the
first round trip).  It needs (i) the key loop of `add_record` is idempotent on its own output,
(ii) `write` lists the rebuilt model's records in the order they were read (`sorted(cds + exon)`
of the two filtered halves of a stably sorted list is that list).  It is compared per input by
the stream `gtfclosed` (the driver decides the three predicates on the model's reload of every
generated annotation; they are evaluated on the real reloaded objects). -/

set_option maxRecDepth 100000 in
/-- non-vacuity: the example (well-formed, ordered, NOT stable) reloads to a closed annotation -/
example : (reload gtfEx).map Anno.closed = .ok true := by
  rw [gtfEx_eq]
  decide +kernel

/-- **Closure, order part.**  For every well-formed annotation the round trip succeeds, keeps
the gene dict, lists the transcripts dict gene by gene (`ordered`), and is the original in the
normal form. -/
theorem gtf_roundtrip_closed_ordered (a : Anno) (h : a.wf = true) :
    ∃ r, reload a = .ok r ∧ r.ordered = true ∧ r.genes = a.genes ∧
      r.erase = a.canon.erase :=
  ⟨reloaded a, reload_eq h, reloaded_ordered h, rfl, reloaded_erase h⟩

/-- **Closure, reduced to one transcript.**  For every well-formed annotation: if the block of
every well-formed transcript model reloads (`reloadTx`: `write` of the block, `add_record`,
`sort_records`) to a well-formed and stable model, then the reloaded annotation satisfies all
three hypotheses again. -/
theorem gtf_roundtrip_closed_of_tx (a : Anno) (h : a.wf = true)
    (H : ∀ gid tid m, TxModel.wf gid tid m = true →
      (reloadTx m).wf gid tid = true ∧ (reloadTx m).stable = true) :
    ∃ r, reload a = .ok r ∧ r.wf = true ∧ r.ordered = true ∧ r.stable = true :=
  ⟨reloaded a, reload_eq h, reloaded_closed h fun gid tid m _ hw => H gid tid m hw⟩

/-- **Closure for stable annotations** (everything that went through one round trip in the
real code, see the stream `gtfwf1`): for every well-formed and stable annotation the reloaded
annotation is again well-formed, ordered and stable.  (`_partial`: the full statement drops
`a.stable`, see the section header.) -/
theorem gtf_roundtrip_closed_partial (a : Anno) (h : a.wf = true) (hs : a.stable = true) :
    ∃ r, reload a = .ok r ∧ r.wf = true ∧ r.ordered = true ∧ r.stable = true := by
  have hst : ∀ kv ∈ a.txs, kv.2.stable = true := List.all_eq_true.mp hs
  refine ⟨reloaded a, reload_eq h, reloaded_closed h fun gid tid m hm hw => ?_⟩
  have hm' := hst _ hm
  rw [reloadTx_of_stable hw hm']
  exact ⟨hw, hm'⟩

/-- **A closed annotation is a fixed point of the round trip**: for every annotation that is
well-formed, ordered and stable, `dump_gtf (write r)` is `r` itself, all attribute dicts and the
order of both dicts included. -/
theorem gtf_roundtrip_fixed_point (r : Anno) (h : r.wf = true) (ho : r.ordered = true)
    (hs : r.stable = true) : reload r = .ok r := by
  obtain ⟨ls, hw, hp⟩ := gtf_roundtrip_exact r h hs
  simp only [reload, hw, hp, of_decide_eq_true ho]

/-- **Idempotence, for stable annotations.**  For every well-formed and STABLE `a` the reload
`r` is a fixed point of `reload` (write∘parse∘write∘parse = write∘parse) and is written as the
same text as `a`.  The full statement, `∀ a, a.wf → ∃ r, reload a = .ok r ∧ reload r = .ok r`, is
NOT proved: it follows from the full closure statement by `gtf_roundtrip_fixed_point`
(`gtf_roundtrip_idempotent_of_closed`).  Without `a.stable`, `writeGtf r = writeGtf a` does not
hold in general: the texts differ in the attribute columns of the sub-records (the ids
`add_record` copied; example `gtfEx` below). -/
theorem gtf_roundtrip_idempotent_partial (a : Anno) (h : a.wf = true) (hs : a.stable = true) :
    ∃ r, reload a = .ok r ∧ reload r = .ok r ∧ writeGtf r = writeGtf a := by
  obtain ⟨r, hr, c1, c2, c3⟩ := gtf_roundtrip_closed_partial a h hs
  refine ⟨r, hr, gtf_roundtrip_fixed_point r c1 c2 c3, ?_⟩
  obtain ⟨ls, hw, hp⟩ := gtf_roundtrip_exact a h hs
  simp only [reload, hw, hp, Except.ok.injEq] at hr
  rw [← hr]; exact writeGtf_canon h

/-- idempotence from closure, for every well-formed annotation whose reload is closed (the
conclusion of the full closure statement as a decidable hypothesis `Anno.closed`) -/
theorem gtf_roundtrip_idempotent_of_closed (a r : Anno) (hr : reload a = .ok r)
    (hc : r.closed = true) : reload r = .ok r ∧ ∀ r', reload r = .ok r' → writeGtf r' = writeGtf r := by
  simp only [Anno.closed, Bool.and_eq_true] at hc
  have := gtf_roundtrip_fixed_point r hc.1.1 hc.1.2 hc.2
  refine ⟨this, fun r' h' => ?_⟩
  rw [this] at h'; cases h'; rfl

set_option maxRecDepth 100000 in
/-- on the (unstable) example the first written text is NOT a fixed point, the second is -/
example : (match reload gtfEx with
    | .ok r => (decide (writeGtf r = writeGtf gtfEx), decide (reload r = .ok r))
    | .error _ => (false, false)) = (false, true) := by
  rw [gtfEx_eq]
  decide +kernel

end GtfCodec

end MoPepGen.Props.C11
