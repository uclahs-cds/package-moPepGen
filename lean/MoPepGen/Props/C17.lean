import MoPepGen.Lemmas.Circ
import MoPepGen.Props.C11
/-!
# C17 — parseCIRCexplorer records denote the reported circular RNA

Property theorems and the predicates they are stated with.  Layer M is `Model/Circ.lean`
(`convertToCircRna`, `circSeq`, `processRecord`, `parseCircexplorer`, tied to /repo by the streams
of `harness/c17.py`) on top of the coordinate model of C11 (`Model/Coord.lean`); Layer S is
`geneIv`, `InGene` (`Lemmas/GeneIv.lean`), `circSeqSpec`, `AscBlocks` (`Lemmas/Circ.lean`) and the
intron predicates below.  All theorems hold for every gene, transcript, strand, record and option
value; hypotheses are the decidable predicates `t.strand = g.strand`, `Transcript.WF`, `AscBlocks`,
`Tiles`, `RowWF`, `g.loc.stop ≤ chrom.length`.
-/
namespace MoPepGen.Props.C17
open MoPepGen MoPepGen.Props.C11

/-! ## non-vacuity -/

def exGene : Gene := { strand := .minus, loc := ⟨5, 60⟩ }
def exTx : Transcript := { strand := .minus, exons := [⟨10, 20⟩, ⟨25, 31⟩, ⟨40, 52⟩] }
/-- the first two exons (genomic order) of `exTx` as a circRNA row -/
def exRec : CxRecord :=
  { start := 10, stop := 31, sizes := [10, 6], offsets := [0, 15], reads := 3, ctype := .circ }
/-- the second intron in transcript order, starting 1 base inside the upstream exon and ending
3 bases before the downstream exon, as a ciRNA row -/
def exCi : CxRecord :=
  { start := 23, stop := 26, sizes := [3], offsets := [0], reads := 1, ctype := .ci }

/-- the record tiles its span: `start ≤ end`, blocks ascending and disjoint, the first block
starts at `start`, the last one ends at `end` (what CIRCexplorer writes) -/
def Tiles (r : CxRecord) : Prop :=
  r.start ≤ r.stop ∧ AscBlocks r.blocks ∧
  r.blocks.head?.map (·.start) = some r.start ∧ r.blocks.getLast?.map (·.stop) = some r.stop
instance (r : CxRecord) : Decidable (Tiles r) := by unfold Tiles; infer_instance

example : exTx.WF := by decide +kernel
example : exTx.strand = exGene.strand := by decide +kernel
example : Tiles exRec := by decide +kernel
example : Tiles exCi := by decide +kernel
example : exRec.blocks = [⟨10, 20⟩, ⟨25, 31⟩] := by decide +kernel
example : convertToCircRna exGene exTx (0, 0) (0, 0) exRec =
    .ok ⟨[⟨40, 50⟩, ⟨29, 35⟩], [], 29, 50, 10, 31, [2, 1]⟩ := by decide +kernel
example : convertToCircRna exGene exTx (-2, 0) (-100, 5) exCi =
    .ok ⟨[⟨34, 37⟩], [0], 34, 37, 23, 26, [1]⟩ := by decide +kernel
example : convertToCircRna exGene exTx (0, 0) (0, 0) exCi = .error (.coord .intronNotFound) := by
  decide +kernel
example : convertToCircRna exGene exTx (0, 0) (0, 0) { exRec with sizes := [9, 6] } =
    .error (.coord .exonNotFound) := by decide +kernel

/-! ## fragments = strand-corrected blocks -/

/-- Whenever `convert_to_circ_rna` returns a record (circRNA or
ciRNA, any tolerance), it has exactly one fragment per reported block, in block order, fragment
`i` is the strand-corrected gene-coordinate interval of block `i`, and every block lies inside
the gene. -/
theorem circ_fragments_eq_blocks (g : Gene) (t : Transcript) (hst : t.strand = g.strand)
    (rs re : Int × Int) (r : CxRecord) (c : CircOut)
    (h : convertToCircRna g t rs re r = .ok c) :
    r.blocks.length = r.sizes.length ∧
    c.fragments = r.blocks.map (geneIv g) ∧
    ∀ b ∈ r.blocks, InGene g b := by
  obtain ⟨l1, l2, l3, _⟩ := convertToCircRna_ok hst h
  exact ⟨l1, l2, l3⟩

/-- what "strand-corrected" means, position by position: the fragment has the length of the
block and its `j`-th gene position maps (by `coordinate_gene_to_genomic`) to the `j`-th base of
the block counted in transcript direction. -/
theorem geneIv_denotes (g : Gene) (b : Iv) (hin : InGene g b) :
    (geneIv g b).len = b.len ∧
    ∀ j, j < b.len → geneToGenomic g ((geneIv g b).start + j) =
      match g.strand with
      | .plus => ((b.start + j : Nat) : Int)
      | .minus => ((b.stop - 1 - j : Nat) : Int) := by
  refine ⟨geneIv_len g hin, ?_⟩
  obtain ⟨h1, h2, h3⟩ := hin
  intro j hj
  unfold Iv.len at hj
  unfold geneToGenomic geneIv
  cases g.strand
  · dsimp only
    rw [← Int.natCast_add, ← Nat.add_assoc, Nat.add_sub_cancel' h1]
  · have hj' : j + 1 ≤ b.stop := Nat.succ_le_of_lt (Nat.lt_of_lt_of_le hj (Nat.sub_le _ _))
    dsimp only
    rw [Int.natCast_add, Int.natCast_sub h3, Nat.sub_sub, Nat.add_comm 1 j, Int.natCast_sub hj']
    omega

/-! ## sequence = blocks -/

/-- For a record whose blocks are ascending and disjoint, the sequence
that `get_circ_rna_sequence` assembles from the gene sequence equals the concatenation of the
reported genomic blocks read from the chromosome in transcript orientation. -/
theorem circ_seq_eq_blocks (chrom : List Char) (g : Gene) (t : Transcript)
    (hst : t.strand = g.strand) (hc : g.loc.stop ≤ chrom.length)
    (rs re : Int × Int) (r : CxRecord) (hasc : AscBlocks r.blocks) (c : CircOut)
    (h : convertToCircRna g t rs re r = .ok c) :
    circSeq (geneSeq chrom g) c.fragments = circSeqSpec chrom g.strand r.blocks := by
  obtain ⟨_, hf, hin⟩ := circ_fragments_eq_blocks g t hst rs re r c h
  unfold circSeq circSeqSpec
  rw [hf, sortFragments_geneIv hin hasc]
  cases hs : g.strand
  · dsimp only
    rw [exonConcat_geneSeq hc hin, hs]
  · dsimp only
    rw [exonConcat_geneSeq hc (fun b hb => hin b (List.mem_reverse.mp hb)), hs,
      revComp_exonConcat]

example : AscBlocks exRec.blocks := by decide +kernel
-- `String.toList_ofList` turns the literals into character lists before the kernel evaluates
example : circSeqSpec "AACCGGTTACGTAAC".toList .minus [⟨3, 6⟩, ⟨9, 12⟩] = "ACGCCG".toList := by
  rw [String.toList_ofList, String.toList_ofList]
  decide +kernel
example : circSeqSpec "AACCGGTTACGTAAC".toList .plus [⟨3, 6⟩, ⟨9, 12⟩] = "CGGCGT".toList := by
  rw [String.toList_ofList, String.toList_ofList]
  decide +kernel

/-! ## the ID encodes the back-splice coordinates -/

/-- The two numbers in `CIRC-<tx>-<a>:<b>` are the strand-corrected gene
interval of the reported span `[start, end)`, the genomic position attribute is the span itself;
for a record that tiles its span, `a` is the first base of the first fragment and `b` the end of
the last fragment in transcript order — the back-splice junction joins gene position `b - 1`
to gene position `a`. -/
theorem circ_id_encodes (g : Gene) (t : Transcript) (hst : t.strand = g.strand)
    (rs re : Int × Int) (r : CxRecord) (c : CircOut)
    (h : convertToCircRna g t rs re r = .ok c) (htile : Tiles r) :
    (⟨c.idStart, c.idStop⟩ : Iv) = geneIv g ⟨r.start, r.stop⟩ ∧
    c.genomicStart = r.start ∧ c.genomicStop = r.stop ∧
    (sortFragments c.fragments).head?.map (·.start) = some c.idStart ∧
    (sortFragments c.fragments).getLast?.map (·.stop) = some c.idStop := by
  obtain ⟨_, hf, hin, _, _, hbs, hg1, hg2⟩ := convertToCircRna_ok hst h
  obtain ⟨hle, hasc, hhead, hlast⟩ := htile
  obtain ⟨a, ha, ha'⟩ := Option.map_eq_some_iff.mp hhead
  obtain ⟨b, hb, hb'⟩ := Option.map_eq_some_iff.mp hlast
  have hid := (spanToGene_ok hbs hle).1
  refine ⟨hid, hg1, hg2, ?_⟩
  -- the span runs from the start of the first block `a` to the end of the last block `b`; in
  -- transcript order the first fragment is that of `a` (plus) or of `b` (minus)
  rw [hf, sortFragments_geneIv hin hasc, (Iv.mk.inj hid).1, (Iv.mk.inj hid).2, ← ha', ← hb']
  cases hs : g.strand
  · simp only [List.head?_map, List.getLast?_map, ha, hb, Option.map_some, geneIv_plus hs,
      and_self]
  · simp only [List.head?_map, List.getLast?_map, List.head?_reverse, List.getLast?_reverse, ha, hb,
      Option.map_some, geneIv_minus hs, and_self]

/-! ## exon / intron look-up of the blocks -/

/-- the 5' end of intron candidate: the feature start (in transcript direction) relative to the
end of the upstream exon `up`, within the start range -/
def StartHit (s : Strand) (f : Iv) (rs : Int × Int) (up : Iv) : Bool :=
  match s with
  | .plus => inRange ((f.start : Int) - up.stop) rs
  | .minus => inRange ((up.start : Int) - f.stop) rs

/-- the 3' end: within the end range of the start of the downstream exon `dn`, or before it -/
def EndOk (s : Strand) (f : Iv) (re : Int × Int) (dn : Iv) : Prop :=
  match s with
  | .plus => inRange ((f.stop : Int) - dn.start) re = true ∨ dn.start ≥ f.stop
  | .minus => inRange ((dn.stop : Int) - f.start) re = true ∨ dn.stop ≤ f.start

/-- an exon that lies wholly behind the feature (in transcript direction) stops the search -/
def Beyond (s : Strand) (f : Iv) (e : Iv) : Prop :=
  match s with
  | .plus => e.start > f.stop
  | .minus => e.stop < f.start

/-- For every exon list, feature, strand and
pair of tolerance ranges: `find_intron_index` returns `k` iff, with the exons in
transcript order, there is a position `j` such that exon `j` is the first exon whose 3' end is
within the start range of the feature's 5' end, no earlier exon lies wholly behind the feature,
exon `j + 1` exists and the feature's 3' end is within the end range of its start or before it;
`k` is then `j` on the plus strand and the genomic-order index `n - 1 - j` of the upstream exon on
the minus strand.  Every other outcome is `IntronNotFoundError`.  (C11 has `exon_lookup_spec`
but no theorem about `find_intron_index`.) -/
theorem intron_lookup_spec (t : Transcript) (f : Iv) (rs re : Int × Int) (k : Nat) :
    (findIntronIndex t f rs re = .ok k ↔
      ∃ (j : Nat) (up dn : Iv), (txOrderExons t)[j]? = some up ∧ (txOrderExons t)[j + 1]? = some dn ∧
        StartHit t.strand f rs up = true ∧ EndOk t.strand f re dn ∧
        (∀ (j' : Nat) (e' : Iv), j' < j → (txOrderExons t)[j']? = some e' →
          StartHit t.strand f rs e' = false ∧ ¬ Beyond t.strand f e') ∧
        k = (match t.strand with | .plus => j | .minus => t.exons.length - 1 - j)) ∧
    (∀ x, findIntronIndex t f rs re = .error x → x = .intronNotFound) := by
  refine ⟨?_, fun x h => findIntronIndex_error h⟩
  unfold findIntronIndex txOrderExons StartHit EndOk Beyond
  cases t.strand
  · dsimp only
    rw [findIntronPlus_eq_loop, findIntronLoop_ok_iff]
    exact Iff.rfl
  · dsimp only
    rw [show findIntronMinus f rs re t.exons.reverse (t.exons.length - 1) = _ from
        findIntronMinus_eq_loop f rs re (t.exons.length - 1) t.exons.reverse 0,
      findIntronLoop_ok_iff]
    exact Iff.rfl

theorem inRange_zero (a b : Nat) : inRange ((a : Int) - b) (0, 0) = true ↔ a = b := by
  unfold inRange; simp only [Bool.and_eq_true, decide_eq_true_eq]; omega

/-- With zero tolerance on a well-formed transcript the look-up
succeeds iff the feature starts exactly at the 5' end of an intron and ends inside it (at or
before the next exon) — the returned index is the one of `intron_lookup_spec`. -/
theorem intron_lookup_exact (t : Transcript) (hw : t.WF) (f : Iv) (hf : f.start ≤ f.stop)
    (k : Nat) :
    findIntronIndex t f (0, 0) (0, 0) = .ok k ↔
      ∃ (j : Nat) (up dn : Iv), (txOrderExons t)[j]? = some up ∧ (txOrderExons t)[j + 1]? = some dn ∧
        (match t.strand with
          | .plus => f.start = up.stop ∧ f.stop ≤ dn.start
          | .minus => f.stop = up.start ∧ dn.stop ≤ f.start) ∧
        k = (match t.strand with | .plus => j | .minus => t.exons.length - 1 - j) := by
  rw [(intron_lookup_spec t f (0, 0) (0, 0) k).1]
  have hsorted : t.strand.WalkWF (txOrderExons t) := hw.walk
  refine exists_congr fun j => exists_congr fun up => exists_congr fun dn =>
    and_congr_right fun a1 => and_congr_right fun _ => ?_
  -- an exon `e'` before `up` ends before `up` begins, so it neither hits nor lies beyond `f`
  unfold StartHit EndOk Beyond
  cases hs : t.strand <;> rw [hs] at hsorted <;> dsimp only
  · rw [inRange_zero, inRange_zero]
    constructor
    · rintro ⟨b1, b2, _, hk⟩
      exact ⟨⟨b1, b2.elim Nat.le_of_eq id⟩, hk⟩
    · rintro ⟨⟨b1, b2⟩, hk⟩
      refine ⟨b1, Or.inr b2, fun j' e' hj' he => ?_, hk⟩
      have h : e'.stop < f.start := b1 ▸ Nat.lt_trans (pairwise_getElem? hsorted.2 hj' he a1)
        (hsorted.1 up (List.mem_of_getElem? a1))
      rw [Bool.eq_false_iff, Ne, inRange_zero]
      exact ⟨Nat.ne_of_gt h, Nat.not_lt.mpr (Nat.le_of_lt (Nat.lt_of_lt_of_le
        (Nat.lt_trans (hsorted.1 e' (List.mem_of_getElem? he)) h) hf))⟩
  · rw [inRange_zero, inRange_zero]
    constructor
    · rintro ⟨b1, b2, _, hk⟩
      exact ⟨⟨b1.symm, b2.elim Nat.le_of_eq id⟩, hk⟩
    · rintro ⟨⟨b1, b2⟩, hk⟩
      refine ⟨b1.symm, Or.inr b2, fun j' e' hj' he => ?_, hk⟩
      have h : f.stop < e'.start := b1 ▸ Nat.lt_trans (hsorted.1 up (List.mem_of_getElem? a1))
        (pairwise_getElem? hsorted.2 hj' he a1)
      rw [Bool.eq_false_iff, Ne, inRange_zero]
      exact ⟨Nat.ne_of_gt h, Nat.not_lt.mpr (Nat.le_of_lt (Nat.lt_of_le_of_lt hf
        (Nat.lt_trans h (hsorted.1 e' (List.mem_of_getElem? he)))))⟩

example : findIntronIndex exTx ⟨33, 40⟩ (0, 0) (0, 0) = .ok 2 := by decide +kernel
example : findIntronIndex exTx ⟨31, 40⟩ (0, 0) (0, 0) = .ok 2 := by decide +kernel
example : findIntronIndex exTx ⟨30, 40⟩ (0, 0) (0, 0) = .error .intronNotFound := by decide +kernel
example : findIntronIndex exTx ⟨31, 39⟩ (0, 0) (0, 0) = .error .intronNotFound := by decide +kernel
example : findIntronIndex exTx ⟨23, 26⟩ (-2, 0) (-100, 5) = .ok 1 := by decide +kernel

/-- `fragment_ids` (the exon / intron index the code computes for every block, sorts and then
drops; it is not part of the ID): for a circRNA, `ids[j] = k` means block `j` IS exon `k` of the
transcript in transcript order (0-based); for a ciRNA it is the intron index of
`intron_lookup_spec`; there is one index per block. -/
theorem circ_fragment_ids (g : Gene) (t : Transcript) (hw : t.WF) (hst : t.strand = g.strand)
    (rs re : Int × Int) (r : CxRecord) (c : CircOut)
    (h : convertToCircRna g t rs re r = .ok c) :
    c.ids.length = r.blocks.length ∧
    ∀ (j : Nat) (b : Iv) (k : Nat), r.blocks[j]? = some b → c.ids[j]? = some k →
      (r.ctype = .circ → (txOrderExons t)[k]? = some b) ∧
      (r.ctype = .ci → findIntronIndex t b rs re = .ok k) := by
  obtain ⟨_, _, _, l4, _⟩ := convertToCircRna_ok hst h
  refine ⟨by simpa only [List.length_map] using congrArg List.length l4, ?_⟩
  intro j b k hb hk
  -- entry `j` of `ids` is the look-up of block `j`
  have hlk : blockLookup t (decide (r.ctype = .ci)) rs re b = .ok k := by
    have := congrArg (·[j]?) l4
    rw [List.getElem?_map, List.getElem?_map, hk, hb] at this
    exact (Option.some.inj this).symm
  unfold blockLookup at hlk
  constructor
  · intro hc
    rw [hc] at hlk
    exact (exon_lookup_spec t hw b k).mp hlk
  · intro hc
    rw [hc] at hlk
    exact hlk

/-- the `INTRON` attribute the parser writes: empty for a circRNA, the 0-based block indices
`0 … n-1` for a ciRNA (`intron.append(i)`).  The GVF reader tests `j + 1 ∈ INTRON`
(`readerIsIntron`), so for the usual one-block ciRNA the reader does NOT see an intron where the
parser recorded one (open finding `cirna-intron-index-0-based-vs-reader-1-based`). -/
theorem circ_intron_attr (g : Gene) (t : Transcript) (hst : t.strand = g.strand)
    (rs re : Int × Int) (r : CxRecord) (c : CircOut)
    (h : convertToCircRna g t rs re r = .ok c) :
    c.intron = (if r.ctype = .ci then List.range r.sizes.length else []) := by
  obtain ⟨_, _, _, _, l5, _⟩ := convertToCircRna_ok hst h
  rw [l5, List.range_eq_range']
  by_cases hc : r.ctype = .ci
  · rw [if_pos hc, if_pos (decide_eq_true hc)]
  · rw [if_neg hc, if_neg (by rw [decide_eq_false hc]; exact Bool.false_ne_true)]

/-- … hence the one-block ciRNA: parser says intron, reader says exon -/
theorem cirna_reader_disagrees (intron : List Nat) (h : intron = List.range 1) :
    writerIsIntron intron 0 = true ∧ readerIsIntron intron 0 = false := by
  subst h; decide

/-! ## skipped records are skipped and counted -/

/-- the row is well formed with respect to the gene of its isoform: positive block sizes, one
offset per size, every block and the reported span inside the gene -/
def RowWF (g : Gene) (r : CxRecord) : Prop :=
  (∀ s ∈ r.sizes, 0 < s) ∧ r.sizes.length ≤ r.offsets.length ∧ (∀ b ∈ r.blocks, InGene g b) ∧
  r.start < r.stop ∧ InGene g ⟨r.start, r.stop⟩
instance (g : Gene) (r : CxRecord) : Decidable (RowWF g r) := by unfold RowWF; infer_instance

example : RowWF exGene exRec := by decide +kernel
example : RowWF exGene exCi := by decide +kernel

/-- the threshold test, declaratively: enough junction reads and, for CIRCexplorer3 with a
non-zero threshold given, `fpb_circ` / `circ_score` not below it (a threshold of `0` or `None`
switches the test off — Python truthiness) -/
theorem isValid_spec (o : CxOptions) (r : CxRecord) :
    isValid o r = true ↔
      o.minReads ≤ r.reads ∧
      (o.ce3 = true →
        (∀ m, o.minFpb = some m → m ≠ 0 → m ≤ r.fpb) ∧
        (∀ m, o.minScore = some m → m ≠ 0 → m ≤ r.score)) := by
  unfold isValid
  cases o.ce3
  · simp only [Bool.false_eq_true, if_false, isValid2, decide_eq_true_eq, ge_iff_le, false_implies,
      and_true]
  · simp only [if_true, isValid3_iff, true_implies]

/-- `circ_skip_counted` per record.  (1) a record that fails the threshold test is skipped as
"insufficient evidence", whatever else it contains; (2) a circRNA row inside the gene with a
block that is not an exon of the transcript, (3) a ciRNA row whose block is not accepted by
`find_intron_index`, are skipped as "invalid record"; (4) a valid row all of whose blocks are
accepted is emitted, with the rank of its gene. -/
theorem record_outcome (o : CxOptions) (x : CxInput) :
    (isValid o x.record = false → processRecord o x = .insufficient) ∧
    (∀ rank g t, isValid o x.record = true → x.ref = some (rank, g, t) → t.WF →
      t.strand = g.strand → RowWF g x.record → x.record.ctype ≠ .other →
      ((∃ b ∈ x.record.blocks,
          ∀ k, blockLookup t (decide (x.record.ctype = .ci)) o.rs o.re b ≠ .ok k) →
        processRecord o x = .invalid) ∧
      ((∀ b ∈ x.record.blocks,
          ∃ k, blockLookup t (decide (x.record.ctype = .ci)) o.rs o.re b = .ok k) →
        ∃ c, processRecord o x = .emitted rank c)) := by
  constructor
  · intro h; unfold processRecord; rw [h]; rfl
  · intro rank g t hv href hw hst hrow hct
    obtain ⟨h1, h2, h3, h4, h5⟩ := hrow
    have hc := convertBlocks_cases (g := g) (t := t) hst
      (isCi := decide (x.record.ctype = .ci)) (rs := o.rs) (re := o.re)
      (start := x.record.start) (offsets := x.record.offsets) (sizes := x.record.sizes) (i := 0)
      h1 (by rw [Nat.zero_add]; exact h2) h3
    unfold processRecord
    simp only [hv, href, Bool.not_true, Bool.false_eq_true, if_false, convertToCircRna_eq hct]
    constructor
    · intro hbad
      rw [hc.2 hbad]
      cases decide (x.record.ctype = .ci) <;> rfl
    · intro hall
      obtain ⟨acc, hacc⟩ := hc.1 hall
      rw [hacc, hst, spanToGene_of_inGene h4 h5]
      exact ⟨_, rfl⟩

/-- circRNA reading of `record_outcome`: a block is accepted iff it IS an exon of the transcript -/
theorem exon_block_accepted (t : Transcript) (hw : t.WF) (rs re : Int × Int) (b : Iv) :
    (∃ k, blockLookup t false rs re b = .ok k) ↔ b ∈ t.exons := by
  have hmem : b ∈ txOrderExons t ↔ b ∈ t.exons := Transcript.mem_walk
  constructor
  · rintro ⟨k, hk⟩
    exact hmem.mp (List.mem_of_getElem? ((exon_lookup_spec t hw b k).mp hk))
  · intro hb
    obtain ⟨k, hk⟩ := List.getElem?_of_mem (hmem.mpr hb)
    exact ⟨k, (exon_lookup_spec t hw b k).mpr hk⟩

theorem insufficient_iff (o : CxOptions) (x : CxInput) :
    processRecord o x = .insufficient ↔ isValid o x.record = false := by
  unfold processRecord
  cases hv : isValid o x.record
  · simp
  · simp only [Bool.not_true, Bool.false_eq_true, if_false, reduceCtorEq, iff_false]
    cases x.ref with
    | none => simp
    | some p =>
      obtain ⟨rank, g, t⟩ := p
      simp only
      split <;> simp

/-- the record the loop emits for `x`, if any -/
def emittedOf (o : CxOptions) (x : CxInput) : Option (Nat × CircOut) :=
  match processRecord o x with
  | .emitted rank c => some (rank, c)
  | _ => none

theorem runLoop_spec (o : CxOptions) :
    ∀ (xs : List CxInput) (t0 : Tally) (acc : List (Nat × CircOut)) (t : Tally)
      (l : List (Nat × CircOut)), runLoop o xs t0 acc = .ok (t, l) →
    (∀ x ∈ xs, ∀ e, processRecord o x ≠ .abort e) ∧
    t.total = t0.total + xs.length ∧
    t.insufficient = t0.insufficient +
      xs.countP (fun x => decide (processRecord o x = .insufficient)) ∧
    t.invalid = t0.invalid + xs.countP (fun x => decide (processRecord o x = .invalid)) ∧
    t.skipped = t0.skipped + xs.countP (fun x => decide (processRecord o x = .insufficient)) +
      xs.countP (fun x => decide (processRecord o x = .invalid)) ∧
    l = acc.reverse ++ xs.filterMap (emittedOf o) ∧
    (xs.filterMap (emittedOf o)).length +
      xs.countP (fun x => decide (processRecord o x = .insufficient)) +
      xs.countP (fun x => decide (processRecord o x = .invalid)) = xs.length := by
  intro xs
  induction xs with
  | nil =>
    intro t0 acc t l h
    cases h
    exact ⟨fun _ hx => absurd hx List.not_mem_nil, rfl, rfl, rfl, rfl, (List.append_nil _).symm,
      rfl⟩
  | cons x xs ih =>
    intro t0 acc t l h
    unfold runLoop at h
    -- the step adds 1 to the starting tally, `countP_cons` / `length_cons` add it at the end
    have step : ∀ a b : Nat, a + 1 + b = a + (b + 1) := fun a b => Nat.add_right_comm a 1 b
    have step2 : ∀ a b c : Nat, a + 1 + b + c = a + b + (c + 1) :=
      fun a b c => (congrArg (· + c) (step a b)).trans (step (a + b) c)
    simp only [List.countP_cons, List.filterMap_cons, List.length_cons, emittedOf]
    cases hp : processRecord o x <;> rw [hp] at h
    case abort => cases h
    -- common to the three outcomes that continue: no abort at the head, one more record read
    all_goals
      obtain ⟨a0, a1, a2, a3, a4, a5, a6⟩ := ih _ _ _ _ h
      refine ⟨List.forall_mem_cons.mpr ⟨fun e he => Outcome.noConfusion (hp.symm.trans he), a0⟩,
        a1.trans (step _ _), ?_⟩
    · exact ⟨a2.trans (step _ _), a3, a4.trans (congrArg (· + _) (step _ _)), a5,
        (step _ _).trans (congrArg (· + 1) a6)⟩
    · exact ⟨a2, a3.trans (step _ _), a4.trans (step2 _ _ _), a5, congrArg (· + 1) a6⟩
    · exact ⟨a2, a3, a4, a5.trans (by rw [List.reverse_cons, List.append_assoc]; rfl),
        (step2 _ _ _).trans (congrArg (· + 1) a6)⟩

/-- Whenever `parse_circexplorer` completes: every record read is counted; the "insufficient
evidence" tally is exactly the number of records failing the threshold test (`insufficient_iff`,
`isValid_spec`), the "invalid record" tally the number of records with an unknown exon / intron
(`record_outcome`); skipped = insufficient + invalid; written + skipped = read; the written
records are a permutation of the emitted ones, ascending in gene rank (that the input order is
kept within a gene is not stated), so no skipped record is written and no accepted record is
lost. -/
theorem circ_skip_counted (o : CxOptions) (xs : List CxInput) (t : Tally)
    (l : List (Nat × CircOut)) (h : parseCircexplorer o xs = .ok (t, l)) :
    t.total = xs.length ∧
    t.insufficient = xs.countP (fun x => decide (processRecord o x = .insufficient)) ∧
    t.invalid = xs.countP (fun x => decide (processRecord o x = .invalid)) ∧
    t.skipped = t.insufficient + t.invalid ∧
    l.Perm (xs.filterMap (emittedOf o)) ∧
    l.length + t.skipped = t.total ∧
    l.Pairwise (fun a b => a.1 ≤ b.1) := by
  unfold parseCircexplorer at h
  cases hr : runLoop o xs {} [] with
  | error e => rw [hr] at h; cases h
  | ok p =>
    obtain ⟨t', l'⟩ := p
    rw [hr] at h
    cases h
    obtain ⟨_, a1, a2, a3, a4, a5, a6⟩ := runLoop_spec o xs {} [] _ _ hr
    have a1 := a1.trans (Nat.zero_add _)
    have a2 := a2.trans (Nat.zero_add _)
    have a3 := a3.trans (Nat.zero_add _)
    rw [show ({} : Tally).skipped = 0 from rfl, Nat.zero_add, ← a2, ← a3] at a4
    rw [List.reverse_nil, List.nil_append] at a5
    have hperm : (emitOrder l').Perm l' := List.mergeSort_perm _ _
    refine ⟨a1, a2, a3, a4, a5 ▸ hperm, ?_, ?_⟩
    · rw [hperm.length_eq, a5, a4, a2, a3, a1, ← Nat.add_assoc]; exact a6
    · have := List.pairwise_mergeSort (le := fun (a b : Nat × CircOut) => decide (a.1 ≤ b.1))
        (fun a b c => by simpa only [decide_eq_true_eq] using Nat.le_trans)
        (fun a b => by simpa only [Bool.or_eq_true, decide_eq_true_eq] using Nat.le_total a.1 b.1)
        l'
      exact this.imp of_decide_eq_true

/-- any exception other than the two look-up errors aborts the whole command: nothing is
written (the behaviour behind the known findings `unknown-isoform-aborts-run` and
`block-outside-gene-aborts-run`) -/
theorem run_aborts (o : CxOptions) (xs : List CxInput) (x : CxInput) (e : CircErr)
    (hx : x ∈ xs) (ha : processRecord o x = .abort e) :
    ∃ e', parseCircexplorer o xs = .error e' := by
  unfold parseCircexplorer
  cases hr : runLoop o xs {} [] with
  | error e' => exact ⟨e', rfl⟩
  | ok p => exact absurd ha ((runLoop_spec o xs {} [] p.1 p.2 hr).1 x hx e)

/-- an isoform that is not in the annotation, and a block outside the gene (first example below),
are aborts, not skips -/
theorem unknown_isoform_aborts (o : CxOptions) (r : CxRecord) (hv : isValid o r = true) :
    processRecord o ⟨r, none⟩ = .abort .noTx := by
  unfold processRecord; simp [hv]

example : processRecord { ce3 := false, minReads := 1, rs := (0, 0), re := (0, 0) }
    ⟨{ exRec with start := 56, stop := 62, sizes := [6], offsets := [0] }, some (0, exGene, exTx)⟩
    = .abort (.coord .outOfRange) := by decide +kernel
example : processRecord { ce3 := false, minReads := 4, rs := (0, 0), re := (0, 0) }
    ⟨exRec, some (0, exGene, exTx)⟩ = .insufficient := by decide +kernel
example : processRecord { ce3 := false, minReads := 3, rs := (0, 0), re := (0, 0) }
    ⟨{ exRec with sizes := [9, 6] }, some (0, exGene, exTx)⟩ = .invalid := by decide +kernel

end MoPepGen.Props.C17
