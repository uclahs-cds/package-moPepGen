import MoPepGen.Lemmas.Decoy
import MoPepGen.Props.C10
/-!
# C20 — decoyFasta: one faithful, reproducible decoy per target

`fixedIndices`, `reverseSeq`, `shuffleSeq`, `retry`, `genAll`, `sortRecs`, `arrange`, `run`
(Model/Decoy.lean) are the models of `moPepGen/cli/decoy_fasta.py`, tied to /repo by the
correspondence streams `fixed`, `reverse`, `shuffle`, `run` of harness/c20.py.  `MustKeep`,
`movSub`, `IsDecoyOf`, `Paired` and the right-hand sides below are the definitions the
property text speaks about.

The value returned by `random.sample` is a universally quantified parameter (`π`, `perms`).
Reproducibility for a seed is therefore the statement that `run` is a function of
(options, targets, draws); that the same seed gives the same draws is checked at run time.
-/
namespace MoPepGen.Props.C20
open MoPepGen MoPepGen.Decoy

/-- Well-formedness of a `random.sample` result: a rearrangement of the movable indices. -/
def ValidSample (seq : Pep) (fixed π : List Nat) : Prop := π.Perm (movable seq.length fixed)

instance (seq : Pep) (fixed π : List Nat) : Decidable (ValidSample seq fixed π) :=
  decidable_of_iff _ List.isPerm_iff

/-- For every sequence, every list of fixed indices (duplicates and out-of-range values
included) and every rearrangement `π` of the movable indices, the `while` loop with `offset`
and the trailing slice does not raise, and its result has the residues of the input (same
multiset, same length). -/
theorem decoy_is_perm (seq : Pep) (fixed π : List Nat) (h : ValidSample seq fixed π) :
    ∃ out, weave seq fixed π = some out ∧ out.Perm seq ∧ out.length = seq.length := by
  obtain ⟨out, h1, h2, _, _, _, h6⟩ := weave_spec seq fixed π ' ' h
  exact ⟨out, h1, h6, h2⟩

/-- … and every fixed position carries the input residue (`out[i]? = seq[i]?` also covers a
fixed index beyond the end: both sides are `none`). -/
theorem decoy_keeps_fixed (seq : Pep) (fixed π : List Nat) (h : ValidSample seq fixed π) :
    ∃ out, weave seq fixed π = some out ∧ ∀ i, i ∈ fixed → out[i]? = seq[i]? := by
  obtain ⟨out, h1, _, _, _, h5, _⟩ := weave_spec seq fixed π ' ' h
  exact ⟨out, h1, h5⟩

/-- … and the movable positions carry `seq[π[0]], seq[π[1]], …` in this order:
`out[p] = if p ∈ fixed then seq[p] else seq[π[rank p]]`. -/
theorem decoy_movable_spec (seq : Pep) (fixed π : List Nat) (h : ValidSample seq fixed π) :
    ∃ out, weave seq fixed π = some out ∧ fixSub fixed out = fixSub fixed seq ∧
      movSub fixed out = π.map (fun j => seq.getD j ' ') := by
  obtain ⟨out, h1, _, h3, h4, _, _⟩ := weave_spec seq fixed π ' ' h
  exact ⟨out, h1, h3, h4⟩

/-- `shuffle_sequence` with a well-formed draw is that rearrangement. -/
theorem shuffle_eq_weave (seq : Pep) (fixed π : List Nat) (h : ValidSample seq fixed π) :
    shuffleSeq seq fixed π = weave seq fixed π := by
  unfold shuffleSeq
  rw [if_pos (List.isPerm_iff.mpr h)]

/-- `reverse_sequence` never raises; the result has the input's length and residues, keeps
every fixed position, and its movable subsequence is the input's movable subsequence
reversed (these facts determine the result). -/
theorem reverse_spec (seq : Pep) (fixed : List Nat) :
    ∃ out, reverseSeq seq fixed = some out ∧ out.length = seq.length ∧ out.Perm seq ∧
      (∀ i, i ∈ fixed → out[i]? = seq[i]?) ∧
      movSub fixed out = (movSub fixed seq).reverse := by
  obtain ⟨out, h1, h2, _, h4, h5, h6⟩ :=
    weave_spec seq fixed (movable seq.length fixed).reverse ' ' (List.reverse_perm _)
  refine ⟨out, h1, h2, h6, h5, ?_⟩
  rw [h4, List.map_reverse, ← movSub_eq_map]

theorem mem_siteIndices (c : Cfg) (hoff : c.off = 1) (s : Pep) (i : Nat) :
    i ∈ c.siteIndices s ↔ ∃ r, c.enzyme = some r ∧ isSite r c.exc s (i + 1) = true := by
  unfold Cfg.siteIndices
  cases c.enzyme with
  | none =>
    refine iff_of_false (fun h => nomatch h) ?_
    rintro ⟨_, h, _⟩
    cases h
  | some r =>
    show i ∈ (cleaveSites r c.exc s).map (· - c.off) ↔ _
    rw [hoff, C10.sites_eq_isSite, List.mem_map]
    constructor
    · rintro ⟨a, ha, rfl⟩
      have ha := (List.mem_filter.mp ha).2
      -- a site is positive, so `a - 1 + 1 = a`
      rw [← Nat.sub_add_cancel (isSite_bounds ha).1] at ha
      exact ⟨r, rfl, ha⟩
    · rintro ⟨_, hr, h⟩
      cases hr
      exact ⟨i + 1, List.mem_filter.mpr
        ⟨List.mem_range.mpr (Nat.lt_succ_of_le (isSite_bounds h).2), h⟩, rfl⟩

/-- With `off = 1`, `find_fixed_indices` returns exactly the positions the property names — the
N-terminus / C-terminus when requested, every listed residue, and the residue at each cleavage
site (the residue consumed by the rule's match, i.e. the one after which the chain is cut) — for
every rule, exception, option set and sequence.  `off = 1` is the behaviour a repair of the open
finding `c20-cleavage-fixed-index-off-by-one` would have; /repo as it is has `off = 0`, for which
the statement fails (`fixed_spec_fails_as_is`). -/
theorem fixed_spec (c : Cfg) (hoff : c.off = 1) (s : Pep) (i : Nat) :
    i ∈ fixedIndices c s ↔ MustKeep c.enzyme c.exc c.keepN c.keepC c.pats s i := by
  unfold fixedIndices MustKeep
  rw [List.mem_append, mem_siteIndices c hoff, mem_scanFrom_zero]
  constructor
  · rintro (⟨r, hr, hs⟩ | ⟨ch, hget, hk⟩)
    · exact ⟨(isSite_bounds hs).2, Or.inr (Or.inr (Or.inr ⟨r, hr, hs⟩))⟩
    · refine ⟨(List.getElem?_eq_some_iff.mp hget).1, ?_⟩
      rcases keepAt_iff.mp hk with h | h | h
      · exact Or.inl h
      · exact Or.inr (Or.inl h)
      · exact Or.inr (Or.inr (Or.inl ⟨ch, hget, h⟩))
  · rintro ⟨hlt, h | h | ⟨ch, hget, hp⟩ | h⟩
    · exact Or.inr ⟨s[i], List.getElem?_eq_getElem hlt, keepAt_iff.mpr (Or.inl h)⟩
    · exact Or.inr ⟨s[i], List.getElem?_eq_getElem hlt, keepAt_iff.mpr (Or.inr (Or.inl h))⟩
    · exact Or.inr ⟨ch, hget, keepAt_iff.mpr (Or.inr (Or.inr hp))⟩
    · exact Or.inl h

/-- A site under an exception is a site without it: an implementation that ignores the
exception (as the never-matching name `'trypsin_expection'` makes /repo do)
only keeps MORE positions, which the property allows. -/
theorem mustKeep_mono_exc (enzyme : Option Re) (e : Re) (kn kc : Bool) (pats : List (List Char))
    (s : Pep) (i : Nat) (h : MustKeep enzyme (some e) kn kc pats s i) :
    MustKeep enzyme none kn kc pats s i := by
  -- only the last alternative mentions the exception
  refine ⟨h.1, h.2.imp_right <| Or.imp_right <| Or.imp_right ?_⟩
  rintro ⟨r, hr, hs⟩
  refine ⟨r, hr, ?_⟩
  simp only [isSite, Bool.and_eq_true] at hs ⊢
  exact ⟨hs.1, by simp⟩

/-- trypsin as the translator read it from `EXPASY_RULES` -/
def trypsin : Re := (Generated.expasyRules.lookup "trypsin").getD []

/-- the options of the witness: `--enzyme trypsin`, nothing else kept; `off = 0` is
/repo as it is (`fixed_indices += find_all_enzymatic_cleave_sites(...)`) -/
def asIs : Cfg :=
  { enzyme := some trypsin, exc := none, off := 0, keepN := false, keepC := false, pats := [[]] }

def akaar : Pep := ['A', 'K', 'A', 'A', 'R']

/-- **Defect witness (/repo as it is, `off = 0`).** On `AKAAR` with trypsin the code as it is
fixes index 2 (an `A`), not index 1 (the `K` at the cleavage site), and the reversal moves
that `K` to index 3. -/
theorem fixed_index_is_site_not_residue :
    fixedIndices asIs akaar = [2] ∧
    isSite trypsin none akaar 2 = true ∧
    reverseSeq akaar (fixedIndices asIs akaar) = some ['R', 'A', 'A', 'K', 'A'] := by
  rw [asIs, trypsin, Generated.lookup_trypsin]
  decide +kernel

/-- **Negation of `fixed_spec` for the model of the code as it is**: with `off = 0` the
returned indices are NOT the positions the property names. -/
theorem fixed_spec_fails_as_is :
    ¬ ∀ (c : Cfg) (s : Pep) (i : Nat), c.off = 0 →
        (i ∈ fixedIndices c s ↔ MustKeep c.enzyme c.exc c.keepN c.keepC c.pats s i) := by
  intro h
  obtain ⟨hfixed, hsite, _⟩ := fixed_index_is_site_not_residue
  have h1 : 1 ∈ fixedIndices asIs akaar :=
    (h asIs akaar 1 rfl).mpr ⟨by decide, Or.inr (Or.inr (Or.inr ⟨trypsin, rfl, hsite⟩))⟩
  rw [hfixed] at h1
  exact absurd h1 (by decide)

/-- … and therefore the decoy of the as-is model does not keep the residue at the cleavage
site, while the repaired model (`off = 1`) does. -/
theorem as_is_moves_cleavage_residue :
    (reverseSeq akaar (fixedIndices asIs akaar)).map (·[1]?) = some (some 'A') ∧
    (reverseSeq akaar (fixedIndices { asIs with off := 1 } akaar)).map (·[1]?) = some (some 'K') := by
  rw [asIs, trypsin, Generated.lookup_trypsin]
  decide +kernel

/-- The `while True` loop of `generate_decoy_sequence` makes at least one and at most
`max(1, shuffle_max_attempts)` attempts, consumes exactly one draw per attempt, returns a
decoy produced by `shuffle_sequence` from one of the draws, and that decoy collides with the
pools only if every allowed attempt was used (which is when `n_overlap` is incremented). -/
theorem retry_bounded (seq : Pep) (fixed : List Nat) (inPool : Pep → Bool) (maxAtt : Nat)
    (perms : List (List Nat)) (d : Pep) (att : Nat) (ov : Bool) (rest : List (List Nat))
    (h : retry seq fixed inPool maxAtt 0 perms = some (d, att, ov, rest)) :
    1 ≤ att ∧ att ≤ max 1 maxAtt ∧ perms.length = rest.length + att ∧
    (ov = false → inPool d = false) ∧ (ov = true → inPool d = true ∧ maxAtt ≤ att) ∧
    ∃ π, π ∈ perms ∧ ValidSample seq fixed π ∧ weave seq fixed π = some d := by
  obtain ⟨h1, h2, h3, h4, h5, π, hπ, hs⟩ := retry_spec seq fixed inPool maxAtt perms 0 d att ov rest h
  obtain ⟨hp, hw⟩ := shuffleSeq_some hs
  refine ⟨h1, ?_, h2, h4, h5, π, hπ, hp, hw⟩
  rcases h3 with h3 | h3
  · rw [h3]; exact Nat.le_max_left _ _
  · exact Nat.le_trans h3 (Nat.le_max_right _ _)

/-- What a run returns: the targets sorted by sequence, and a decoy list paired with them
position by position, arranged by the order mode. For any options (also `off = 0`): the
positions kept are those `find_fixed_indices` returns. -/
theorem run_shape (c : RunCfg) (targets : List Rec) (perms : List (List Nat))
    (out : List Rec) (n left : Nat) (h : run c targets perms = some (out, n, left)) :
    ∃ D, out = arrange c.order (sortRecs targets) D ∧
      Paired (IsDecoyOf c (fun s i => i ∈ fixedIndices c.toCfg s)) (sortRecs targets) D := by
  unfold run at h
  simp only at h
  cases hg : genAll c ((sortRecs targets).map (·.seq)) (sortRecs targets) [] perms with
  | none => simp [hg] at h
  | some r =>
    obtain ⟨D, n', rest⟩ := r
    simp only [hg, Option.some.injEq, Prod.mk.injEq] at h
    exact ⟨D, h.1.symm, genAll_spec c _ _ _ _ _ _ _ hg⟩

/-- Under `off = 1` (see `fixed_spec`): the decoys are paired
one-to-one with the targets; each decoy's header is the target's header with the decoy string attached (prefix
or suffix), its sequence is a rearrangement of the target's residues of the same length, and
every position the property names (`MustKeep`) carries the target's residue. -/
theorem one_decoy_per_target (c : RunCfg) (hoff : c.off = 1) (targets : List Rec)
    (perms : List (List Nat)) (out : List Rec) (n left : Nat)
    (h : run c targets perms = some (out, n, left)) :
    ∃ D, out = arrange c.order (sortRecs targets) D ∧ D.length = targets.length ∧
      Paired (IsDecoyOf c (MustKeep c.enzyme c.exc c.keepN c.keepC c.pats)) (sortRecs targets) D := by
  obtain ⟨D, h1, h2⟩ := run_shape c targets perms out n left h
  refine ⟨D, h1, ?_, ?_⟩
  · rw [h2.length_eq, (sortRecs_perm targets).length_eq]
  · exact h2.imp fun t _ hd => hd.mono fun s i hi => (fixed_spec c.toCfg hoff s i).mpr hi

/-- As a multiset of records the output is the input targets, each
unchanged (same header, same sequence), plus the decoys — one per target. -/
theorem targets_unchanged (c : RunCfg) (targets : List Rec) (perms : List (List Nat))
    (out : List Rec) (n left : Nat) (h : run c targets perms = some (out, n, left)) :
    ∃ D, out.Perm (targets ++ D) ∧ D.length = targets.length := by
  obtain ⟨D, h1, h2⟩ := run_shape c targets perms out n left h
  have hl : D.length = (sortRecs targets).length := h2.length_eq
  refine ⟨D, ?_, by rw [hl, (sortRecs_perm targets).length_eq]⟩
  have hT := sortRecs_perm targets
  rw [h1]
  cases c.order with
  | juxtaposed => exact (interleave_perm _ _ hl).trans (hT.append_right D)
  | targetFirst => exact hT.append_right D
  | decoyFirst => exact List.perm_append_comm.trans (hT.append_right D)

/-- With `T` = the targets in sequence order and `D` their decoys,
`juxtaposed` writes `T[0], D[0], T[1], D[1], …`; `target_first` writes `T` then `D`;
`decoy_first` writes `D` then `T`. -/
theorem order_modes (c : RunCfg) (targets : List Rec) (perms : List (List Nat))
    (out : List Rec) (n left : Nat) (h : run c targets perms = some (out, n, left)) :
    ∃ D, D.length = (sortRecs targets).length ∧
      (c.order = .juxtaposed → out.length = 2 * targets.length ∧
        ∀ k, out[2 * k]? = (sortRecs targets)[k]? ∧ out[2 * k + 1]? = D[k]?) ∧
      (c.order = .targetFirst → out = sortRecs targets ++ D) ∧
      (c.order = .decoyFirst → out = D ++ sortRecs targets) := by
  obtain ⟨D, h1, h2⟩ := run_shape c targets perms out n left h
  have hl : D.length = (sortRecs targets).length := h2.length_eq
  refine ⟨D, hl, ?_, ?_, ?_⟩
  · intro ho
    rw [ho] at h1
    have := interleave_spec (sortRecs targets) D hl
    rw [(sortRecs_perm targets).length_eq] at this
    rw [h1]; exact this
  · intro ho; rw [ho] at h1; exact h1
  · intro ho; rw [ho] at h1; exact h1

/-- the sort puts the targets in ascending sequence order: it is a rearrangement of the input
in which no record is after a record with a larger sequence (stability of `sortRecs` is not
part of the statement) -/
theorem sort_spec (targets : List Rec) :
    (sortRecs targets).Perm targets ∧
      (sortRecs targets).Pairwise (fun a b => ltSeq b.seq a.seq = false) :=
  ⟨sortRecs_perm targets, sortRecs_sorted targets⟩

/-- Well-formedness needed for order independence: no two targets share a sequence. -/
def DistinctSeqs (targets : List Rec) : Prop := (targets.map (·.seq)).Nodup

instance (targets : List Rec) : Decidable (DistinctSeqs targets) := by
  unfold DistinctSeqs; exact inferInstance

/-- For the same options and the same draws (same seed), permuting the
input targets does not change the output at all — not even its order — provided no two
targets share a sequence. (Without the hypothesis the statement is false for `--method
shuffle`: two headers with one sequence get their decoys by input order; the harness runs
that point on the real code.) -/
theorem order_independent (c : RunCfg) (targets targets' : List Rec) (perms : List (List Nat))
    (hp : targets'.Perm targets) (hd : DistinctSeqs targets) :
    run c targets' perms = run c targets perms := by
  unfold run
  rw [sortRecs_eq_of_perm hp hd]

/-- `--method reverse` never fails, whatever the targets and options. -/
theorem reverse_run_total (c : RunCfg) (hm : c.method = .reverse) (targets : List Rec)
    (perms : List (List Nat)) : ∃ r, run c targets perms = some r := by
  have gen : ∀ (tpool : List Pep) (T : List Rec) (dpool : List Pep),
      ∃ r, genAll c tpool T dpool perms = some r := by
    intro tpool T
    induction T with
    | nil => intro dpool; exact ⟨_, rfl⟩
    | cons t ts ih =>
      intro dpool
      obtain ⟨d, hd, _⟩ := reverse_spec t.seq (fixedIndices c.toCfg t.seq)
      obtain ⟨⟨ds, n, rest⟩, hr⟩ := ih (d :: dpool)
      exact ⟨({ hdr := decoyHeader c t.hdr, seq := d } :: ds,
          n + (if (tpool.contains d || dpool.contains d) then 1 else 0), rest),
        by simp only [genAll, genSeq, hm, hd, Option.map_some, hr]⟩
  obtain ⟨⟨D, n, rest⟩, hr⟩ := gen ((sortRecs targets).map (·.seq)) (sortRecs targets) []
  exact ⟨(arrange c.order (sortRecs targets) D, n, rest.length), by simp only [run, hr]⟩

/-! ## non-vacuity -/

example : (Generated.expasyRules.lookup "trypsin").isSome = true := by rw [Generated.lookup_trypsin]; rfl
example : ValidSample akaar [1] [3, 0, 4, 2] := by decide +kernel
example : shuffleSeq akaar [1] [3, 0, 4, 2] = some ['A', 'K', 'A', 'R', 'A'] := by decide +kernel
example : DistinctSeqs [⟨"a", akaar⟩, ⟨"b", ['K', 'R']⟩] := by decide +kernel
/-- a run with a retry: the first draw reproduces the target, the second is accepted -/
example : (retry ['A', 'B'] [] (fun d => d == ['A', 'B']) 30 0 [[0, 1], [1, 0]]).map (·.2.1) = some 2 := by
  decide +kernel
example : ∃ c : Cfg, c.off = 1 ∧ fixedIndices c akaar = [1, 0, 4] :=
  ⟨{ asIs with off := 1, keepN := true, keepC := true }, rfl,
    by rw [asIs, trypsin, Generated.lookup_trypsin]; decide +kernel⟩

end MoPepGen.Props.C20
