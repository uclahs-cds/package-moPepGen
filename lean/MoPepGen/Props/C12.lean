import MoPepGen.Lemmas.IndexDir
/-!
# C12 — index directory: each parameter set maps to its own, faithful data

`gen`, `upd`, `load`, `tamper` (`Model/IndexDir.lean`) are the models of
`cli.generate_index`, `cli.update_index`, `cli.common.load_references` (index branch) and of
an edit of the recorded versions; they are tied to /repo by the streams of `harness/c12.py`.
All theorems hold for every environment `e` (current versions, `MINIMAL_VERSION`, pool
function), every parameter set, every reference id and operation histories of ANY length.
-/
namespace MoPepGen.Props.C12
open MoPepGen.IndexDir
variable {α : Type}


/-- **index_inv.** After ANY history of generateIndex / updateIndex / load / version-edit
invocations (any flags, any parameters, any reference sets, including invocations that
crash half-way) on an initially absent directory, the entries of `metadata.json` have
pairwise distinct parameter keys and pairwise distinct indices, each file name is
`canonical_peptides_<index>` (so names are injective in the index), keys are in normal form,
and every listed file that exists holds a pool computed — from the annotation and proteome
now in the directory — by an invocation whose arguments have exactly that key. -/
theorem index_inv (e : Env α) (ops : List Op) : Inv e (run e State.empty ops) := by
  have : ∀ (s : State α), Inv e s → Inv e (run e s ops) := by
    induction ops with
    | nil => exact fun s hs => hs
    | cons o os ih => exact fun s hs => ih _ (step_inv e s o hs)
  exact this _ fun m hm => nomatch hm


/-- **load_provenance.** In every state reachable by any history (indeed in every state
satisfying the invariant), a pool handed out by `load_references` for the request `q` was
computed from the annotation and proteome that are in the directory by an invocation
whose arguments have the same key as `q` — never by one with another key. -/
theorem load_provenance (e : Env α) (s : State α) (hi : Inv e s) (q : Params) (x : Loaded α)
    (h : load e s q = .loaded x) :
    ∃ a pr p, annoRef s.files = some a ∧ protRef s.files = some pr ∧ norm p = norm q ∧
      x.pool = .pool (e.poolRaw a pr p) := by
  obtain ⟨_, en, hen, hb, _⟩ := (load_loaded_iff e s q x).1 h
  obtain ⟨hmem, hk⟩ := getPool_some hen
  obtain ⟨a, pr, p, h1, h2, h3, h4⟩ := (WF_openDir hi).holds en hmem _ hb
  exact ⟨a, pr, p, h1, h2, h3.trans hk, h4⟩

/-- the pool function does not distinguish two argument tuples with the same key
(what `CleavageParams.__init__` promises; `exEnv` below is an example.  Known finding: the
unchanged tree computed pools from the UNnormalised `--cleavage-exception`, repaired by the `fix:`
7667327, which passes `cleavage_params.exception`) -/
def Respects (e : Env α) : Prop :=
  ∀ a b p q, norm p = norm q → e.poolRaw a b p = e.poolRaw a b q

/-- a concrete environment whose pool function respects keys (non-vacuity) -/
def exEnv : Env (Nat × Nat × Params) where
  cur := { py := "3.12.1", bio := "1.88", mpg := "1.4.6" }
  minimal := "1.3.0"
  poolRaw := fun a b p => (a, b, norm p)

example : Respects exEnv := by
  intro a b p q h
  show (a, b, norm p) = (a, b, norm q)
  rw [h]

/-- **load_correct.** If the pool function respects keys, a successful load for `q` returns
exactly the pool of `q` over the annotation and proteome in the directory. -/
theorem load_correct (e : Env α) (hr : Respects e) (s : State α) (hi : Inv e s) (q : Params)
    (x : Loaded α) (h : load e s q = .loaded x) :
    ∃ a pr, annoRef s.files = some a ∧ protRef s.files = some pr ∧
      x.pool = .pool (e.poolRaw a pr q) := by
  obtain ⟨a, pr, p, h1, h2, h3, h4⟩ := load_provenance e s hi q x h
  exact ⟨a, pr, h1, h2, by rw [h4, hr a pr p q h3]⟩

/-- `load_correct` on every directory reached by a history from the absent one -/
theorem load_correct_reachable (e : Env α) (hr : Respects e) (ops : List Op) (q : Params)
    (x : Loaded α) (h : load e (run e State.empty ops) q = .loaded x) :
    ∃ a pr, annoRef (run e State.empty ops).files = some a ∧
      protRef (run e State.empty ops).files = some pr ∧ x.pool = .pool (e.poolRaw a pr q) :=
  load_correct e hr _ (index_inv e ops) q x h

/-- **load rejects with "no pool" iff no entry has the key** (when the version gate passes) -/
theorem load_nopool_iff (e : Env α) (s : State α) (q : Params)
    (hv : isValid e.cur e.minimal (openDir e s).version = some true) :
    load e s q = .rejectNoPool ↔ ∀ en ∈ (openDir e s).pools, en.key ≠ norm q := by
  rw [← getPool_none]
  unfold load
  dsimp only
  rw [hv]
  cases hg : getPool (openDir e s).pools q with
  | none => exact iff_of_true rfl rfl
  | some en =>
    -- with an entry for the key the outcome is a load or a crash on a missing file
    refine iff_of_false (fun h => ?_) (fun h => nomatch h)
    dsimp only at h
    split at h
    · cases h
    · split at h
      · cases h
      · split at h
        · rename_i o ho
          rcases loadAnno_error ho with rfl | rfl <;> cases h
        · split at h <;> cases h

/-- on reachable directories the entries consulted are those written in `metadata.json` -/
theorem load_nopool_iff_reachable (e : Env α) (ops : List Op) (q : Params) (m : Meta)
    (hm : (run e State.empty ops).md = some m)
    (hv : isValid e.cur e.minimal (fillVersion e.cur m.version) = some true) :
    load e (run e State.empty ops) q = .rejectNoPool ↔ norm q ∉ m.pools.map (·.key) := by
  have hv' : isValid e.cur e.minimal (openDir e (run e State.empty ops)).version = some true := by
    rw [openDir, hm]; exact hv
  rw [load_nopool_iff e _ q hv', openDir_pools (index_inv e ops) hm]
  simp only [List.mem_map, not_exists, not_and]



/-- **update_preserves.** Adding a pool (or overwriting one with `--force`) never changes
what a load with other parameters returns: every load that succeeded before `updateIndex p`
returns the very same pool, genome, annotation and proteome afterwards.  For a request with
the SAME key as `p` (the `--force` overwrite) this needs the pool function to respect keys. -/
theorem update_preserves (e : Env α) (s : State α) (hi : Inv e s) (p : Params) (f : Bool)
    (q : Params) (x : Loaded α) (hpq : norm p ≠ norm q ∨ Respects e)
    (h : load e s q = .loaded x) : load e (upd e s p f).1 q = .loaded x := by
  have hw := WF_openDir hi
  rcases upd_cases e s p f with hs | ⟨enp, ra, rp, hgp, hA, hP, hs⟩ | ⟨ra, rp, hgp, hA, hP, hs⟩
  · rw [hs]; exact h
  · -- overwritten in place
    rw [hs]
    obtain ⟨hpm, hpk⟩ := getPool_some hgp
    have hfn := (hw.shape enp hpm).1
    refine load_transfer e s _ q x rfl rfl (fun en hen hb => ⟨hen, ?_⟩) (fun n hn => ?_) h
    · obtain ⟨hm, hk⟩ := getPool_some hen
      show fget (fset s.files enp.filename _) en.filename = _
      rw [fget_fset]
      by_cases hf : enp.filename = en.filename
      · -- the request is for the overwritten key: the new pool is the old one
        rw [if_pos hf]
        rw [hfn, (hw.shape en hm).1] at hf
        cases eq_of_nodup_map hw.idx hpm hm (FName.pool.inj hf)
        rcases hpq with hne | hr
        · exact absurd (hpk.symm.trans hk) hne
        · obtain ⟨a, pr, p', h1, h2, h3, h4⟩ := hw.holds enp hpm _ hb
          cases hA.symm.trans h1
          cases hP.symm.trans h2
          rw [h4, hr ra rp p' p (h3.trans hpk)]
      · rw [if_neg hf]; exact hb
    · show fget (fset s.files enp.filename _) n = _
      rw [hfn]
      exact fget_fset_of_ne (fun hh => hn _ hh.symm) _ _
  · -- a new entry
    have hi' := upd_inv e s p f hi
    rw [hs] at hi' ⊢
    -- the directory had a metadata.json (else the load could not have succeeded)
    obtain ⟨_, en0, hen0, _⟩ := (load_loaded_iff e s q x).1 h
    cases hmd : s.md with
    | none => rw [openDir_pools_none hmd] at hen0; cases hen0
    | some m0 =>
      refine load_transfer e s _ q x ?_ ?_ (fun en hen hb => ?_) (fun n hn => ?_) h
      · simp only [openDir, hmd, fillVersion_idem]
      · simp only [openDir, hmd]
      · rw [openDir_pools hi' rfl]
        refine ⟨getPool_append_of_some hen, ?_⟩
        obtain ⟨hm, _⟩ := getPool_some hen
        show fget (fset s.files _ _) en.filename = _
        rw [fget_fset_of_ne]
        · exact hb
        · rw [(hw.shape en hm).1]
          exact fun hh => Nat.ne_of_lt (lt_freshIndex hm) (FName.pool.inj hh).symm
      · exact fget_fset_of_ne (fun hh => hn _ hh.symm) _ _

/-- `update_preserves` along any further history of updates with keys other than that of `q`:
pools are never affected by adding new ones -/
theorem updates_preserve (e : Env α) (ps : List (Params × Bool)) (s : State α) (hi : Inv e s)
    (q : Params) (x : Loaded α) (hpq : ∀ pf ∈ ps, norm pf.1 ≠ norm q)
    (h : load e s q = .loaded x) :
    load e (run e s (ps.map fun pf => Op.upd pf.1 pf.2)) q = .loaded x := by
  induction ps generalizing s with
  | nil => exact h
  | cons pf ps ih =>
    simp only [List.map_cons, run, step]
    apply ih _ (upd_inv e s pf.1 pf.2 hi)
    · intro pf' hpf'; exact hpq pf' (List.mem_cons_of_mem _ hpf')
    · exact update_preserves e s hi pf.1 pf.2 q x (Or.inl (hpq pf List.mem_cons_self)) h

/-- **update_exists_noforce_rejects.** With the version gate passed, `updateIndex` without
`--force` for a key that has an entry exits with an error and leaves the directory as it is. -/
theorem update_exists_noforce_rejects (e : Env α) (s : State α) (p : Params)
    (hv : isValid e.cur e.minimal (openDir e s).version = some true)
    (hex : (getPool (openDir e s).pools p).isSome) :
    upd e s p false = (s, .rejectExists) := by
  unfold upd
  simp [hv, hex]

/-- **force_overwrites_in_place.** `updateIndex --force` for a key that has an entry `en`
rewrites exactly the file of that entry with the freshly computed pool; `metadata.json`
(entries, their order, indices and file names) is left as it is. -/
theorem force_overwrites_in_place (e : Env α) (s : State α) (p : Params) (en : Entry)
    (a pr : Blob α) (ra rp : Nat)
    (hv : isValid e.cur e.minimal (openDir e s).version = some true)
    (hen : getPool (openDir e s).pools p = some en)
    (ha : loadAnno s.files = .ok a) (hpr : fget s.files .proteome = some pr)
    (hra : a.ref = some ra) (hrp : pr.ref = some rp) :
    upd e s p true =
      ({ s with files := fset s.files en.filename (.pool (e.poolRaw ra rp p)) }, .done) := by
  unfold upd
  simp [hv, hen, ha, hpr, hra, hrp, saveCanonical]



/-- **version_gate.** If the versions recorded in `metadata.json` are not valid for the
current environment (python or biopython differ, recorded moPepGen older than
`MINIMAL_VERSION`, or not parseable), then `updateIndex` (with or without `--force`) and
every load stop with an error — `InvalidIndexError`, or the `ValueError` of `get_semver` —
and `generateIndex` without `--force` exits because the directory exists; none of them
changes the directory or hands out anything stored in it.  `generateIndex --force` (which
rebuilds everything) does not look at the recorded versions and is not covered. -/
theorem version_gate (e : Env α) (s : State α) (m : Meta) (hm : s.md = some m)
    (hbad : isValid e.cur e.minimal (fillVersion e.cur m.version) ≠ some true) :
    (∀ p f, (upd e s p f).1 = s ∧
        ((upd e s p f).2 = .rejectBadVersion ∨ (upd e s p f).2 = .crashValueError)) ∧
    (∀ q, load e s q = .rejectBadVersion ∨ load e s q = .crashValueError) ∧
    (∀ r p l, gen e s r p false l = (s, .rejectExists)) := by
  have hv : (openDir e s).version = fillVersion e.cur m.version := by rw [openDir, hm]
  refine ⟨fun p f => ?_, fun q => ?_, fun r p l => ?_⟩
  · unfold upd
    dsimp only
    rw [hv]
    cases hval : isValid e.cur e.minimal (fillVersion e.cur m.version) with
    | none => exact ⟨rfl, Or.inr rfl⟩
    | some b => cases b with
      | false => exact ⟨rfl, Or.inl rfl⟩
      | true => exact absurd hval hbad
  · unfold load
    dsimp only
    rw [hv]
    cases hval : isValid e.cur e.minimal (fillVersion e.cur m.version) with
    | none => exact Or.inr rfl
    | some b => cases b with
      | false => exact Or.inl rfl
      | true => exact absurd hval hbad
  · have hne : dirNonEmpty s = true := by rw [dirNonEmpty, hm]; rfl
    rw [gen, if_pos hne, if_neg Bool.false_ne_true]

/-- the gate is the documented comparison: same python, same biopython, and the recorded
moPepGen release (before any `-suffix`) at least `MINIMAL_VERSION` as integer tuples -/
theorem isValid_true_iff (cur : Version) (minimal : String) (v : Version) :
    isValid cur minimal v = some true ↔
      cur.py = v.py ∧ cur.bio = v.bio ∧
      ∃ that m, getSemver v.mpg = some that ∧ getSemver minimal = some m ∧ lexLe m that = true := by
  unfold isValid
  by_cases h1 : cur.py = v.py
  · by_cases h2 : cur.bio = v.bio
    · rw [if_neg (not_not_intro h1), if_neg (not_not_intro h2)]
      cases getSemver v.mpg with
      | none =>
        refine iff_of_false (fun h => nomatch h) ?_
        rintro ⟨_, _, _, _, h, _⟩
        cases h
      | some that =>
        cases getSemver minimal with
        | none =>
          refine iff_of_false (fun h => nomatch h) ?_
          rintro ⟨_, _, _, _, _, h, _⟩
          cases h
        | some m =>
          constructor
          · exact fun h => ⟨h1, h2, that, m, rfl, rfl, Option.some.inj h⟩
          · rintro ⟨_, _, _, _, ht, hm, h⟩
            cases ht; cases hm
            exact congrArg some h
    · rw [if_neg (not_not_intro h1), if_pos h2]
      exact iff_of_false (fun h => nomatch h) fun h => h2 h.2.1
  · rw [if_pos h1]
    exact iff_of_false (fun h => nomatch h) fun h => h1 h.1


/-- **payload_roundtrip.** After a completed `generateIndex` from reference set `r`, and
any further history of updates, loads and version edits, every successful load returns the
genome, annotation and proteome of `r` (and the source recorded for `r`), and
`load_coding_tx` returns the coding-transcript set of `r`. -/
theorem payload_roundtrip (e : Env α) (s s' : State α) (hi : Inv e s) (r : Nat) (p : Params)
    (f l : Bool) (hgen : gen e s r p f l = (s', .done)) (ops : List Op)
    (hops : ∀ o ∈ ops, ∀ r p f l, o ≠ .gen r p f l) (q : Params) (x : Loaded α)
    (h : load e (run e s' ops) q = .loaded x) :
    x.genome = .data r ∧ x.anno.ref = some r ∧ x.proteome = .data r ∧ x.source = some r ∧
    loadCodingTx (run e s' ops) = some (.data r) := by
  -- a completed `generateIndex` leaves a well-formed directory whatever it started from
  have hd := gen_done e s s' r p f l hgen
  obtain ⟨hfiles, hsrc⟩ := run_payload_stable e ops s' hd.inv hops
  obtain ⟨h1, h2, h3, _, _, h6, _, h8⟩ := hd
  obtain ⟨_, _, _, _, g1, g2, g3, g4⟩ := (load_loaded_iff e _ q x).1 h
  rw [hfiles .genome (fun _ hh => nomatch hh), h1] at g1
  rw [hfiles .proteome (fun _ hh => nomatch hh), h2] at g3
  rw [annoRef, ← hfiles .anno (fun _ hh => nomatch hh), loadAnno_ok g2] at h3
  refine ⟨(Option.some.inj g1).symm, h3, (Option.some.inj g3).symm, ?_, ?_⟩
  · rw [g4, hsrc, openDir, h8]
  · rw [loadCodingTx, hfiles .codingTx (fun _ hh => nomatch hh), h6]



/-- the directory is absent/empty, or has `metadata.json`, all six payload files and every
pool file the metadata lists -/
def Strong (s : State α) : Prop :=
  (s.md = none → s.files = []) ∧
  ∀ m, s.md = some m →
    (∀ en ∈ m.pools, (fget s.files en.filename).isSome) ∧
    (∀ n ∈ [FName.genome, .proteome, .anno, .geneIdx, .txIdx, .codingTx],
      (fget s.files n).isSome)

theorem strong_of_genDone {e : Env α} {s' : State α} {r : Nat} {p : Params}
    (h : GenDone e s' r p) : Strong s' := by
  obtain ⟨g1, g2, g3, g4, g5, g6, g7, g8⟩ := h
  refine ⟨fun hn => (nomatch g8.symm.trans hn), fun m hm => ?_⟩
  cases g8.symm.trans hm
  have g3' : (fget s'.files .anno).isSome := by
    cases ha : fget s'.files .anno with
    | none => rw [annoRef, ha] at g3; cases g3
    | some _ => rfl
  refine ⟨fun en hen => ?_, fun n hn => ?_⟩
  · cases List.mem_singleton.1 hen
    rw [g7]; rfl
  · simp only [List.mem_cons, List.not_mem_nil, or_false] at hn
    rcases hn with rfl | rfl | rfl | rfl | rfl | rfl
    · rw [g1]; rfl
    · rw [g2]; rfl
    · exact g3'
    · rw [g4]; rfl
    · rw [g5]; rfl
    · rw [g6]; rfl

theorem step_strong (e : Env α) (s : State α) (o : Op) (hi : Inv e s) (hs : Strong s)
    (h1 : (step e s o).2 ≠ .crashFileExists) (h2 : (step e s o).2 ≠ .crashSameFile) :
    Strong (step e s o).1 := by
  cases o with
  | load q => exact hs
  | tamper v =>
    dsimp only [step]
    unfold tamper
    split
    · exact hs
    · rename_i m hm
      refine ⟨fun hn => (nomatch hn), fun m' hm' => ?_⟩
      cases hm'
      exact hs.2 m hm
  | upd p f =>
    dsimp only [step]
    -- an update that writes found an annotation, so the directory is not the empty one
    have hmd : ∀ ra, annoRef s.files = some ra → ∃ m, s.md = some m := by
      intro ra hA
      cases hmd : s.md with
      | none => rw [annoRef, hs.1 hmd] at hA; cases hA
      | some m => exact ⟨m, rfl⟩
    rcases upd_cases e s p f with h | ⟨en, ra, _, _, hA, _, h⟩ | ⟨ra, _, _, hA, _, h⟩
    · rw [h]; exact hs
    · rw [h]
      obtain ⟨m, hm⟩ := hmd ra hA
      obtain ⟨hp1, hp2⟩ := hs.2 m hm
      refine ⟨fun hn => (nomatch hm.symm.trans hn), fun m' hm' => ?_⟩
      cases hm.symm.trans hm'
      exact ⟨fun en hen => fget_isSome_fset (hp1 en hen), fun n hn => fget_isSome_fset (hp2 n hn)⟩
    · rw [h]
      obtain ⟨m, hm⟩ := hmd ra hA
      obtain ⟨hp1, hp2⟩ := hs.2 m hm
      refine ⟨fun hn => (nomatch hn), fun m' hm' => ?_⟩
      cases hm'
      refine ⟨fun en hen => ?_, fun n hn => fget_isSome_fset (hp2 n hn)⟩
      rcases List.mem_append.1 hen with hen | hen
      · exact fget_isSome_fset (hp1 en (openDir_pools hi hm ▸ hen))
      · cases List.mem_singleton.1 hen
        show (fget (fset s.files (.pool _) _) (.pool _)).isSome = true
        rw [fget_fset, if_pos rfl]; rfl
  | gen r p f l =>
    dsimp only [step] at h1 h2 ⊢
    rcases gen_cases e s r p f l with h | ⟨fs', hw, _⟩ | ⟨fs', _, h⟩
    · rw [h]; exact hs
    · -- the wipe cannot fail: every listed file is there
      exfalso
      cases hmd : s.md with
      | none => rw [openDir_pools_none hmd] at hw; cases hw
      | some m =>
        have hw' := hi m hmd
        obtain ⟨fs'', hok⟩ := wipe_ok_of_present (α := α) hw'.idx
          (fun en hen => (hw'.shape en hen).1) s.files (hs.2 m hmd).1
        rw [openDir_pools hi hmd, hok] at hw
        cases hw
    · -- a completed body leaves a complete directory, whatever was there before
      rw [h] at h1 h2 ⊢
      rcases genBody_cases e { s with files := fs' } r p l with ⟨o, ho, hb⟩ | ⟨t', hb, hd⟩
      · rw [hb] at h1 h2
        rcases ho with rfl | rfl
        · exact absurd rfl h1
        · exact absurd rfl h2
      · rw [hb]; exact strong_of_genDone hd

/-- no invocation of the history died in `create_gtf_copy` -/
def NoGtfCrash (e : Env α) (s : State α) (ops : List Op) : Prop :=
  ∀ o ∈ outcomes e s ops, o ≠ .crashFileExists ∧ o ≠ .crashSameFile

/-- **index_inv_strong.** After any history in which no `generateIndex` died while copying /
linking the GTF (`--force --gtf-symlink` onto an existing directory, or `--force` with the same
GTF onto a symlinked one: the known crash that leaves the directory half rebuilt), the directory
is either still absent or complete: `metadata.json`, the six payload files and EVERY listed
pool file exist — together with `index_inv`, every listed file exists and holds the pool of
its key, so no file that a load, an update or the wipe of a forced regenerate opens is
missing. -/
theorem index_inv_strong (e : Env α) (ops : List Op) (h : NoGtfCrash e State.empty ops) :
    Strong (run e State.empty ops) := by
  have : ∀ (s : State α), Inv e s → Strong s → NoGtfCrash e s ops → Strong (run e s ops) := by
    clear h
    induction ops with
    | nil => exact fun s _ hs _ => hs
    | cons o os ih =>
      intro s hi hs hn
      obtain ⟨ho, hn'⟩ := List.forall_mem_cons.1 hn
      exact ih _ (step_inv e s o hi) (step_strong e s o hi hs ho.1 ho.2) hn'
  exact this _ (fun m hm => nomatch hm) ⟨fun _ => rfl, fun m hm => nomatch hm⟩ h

/-! ## non-vacuity: a concrete history (generate, regenerate with `--force`, refused generate) -/

def exP : Params := { enzyme := "trypsin", exc := some "auto", misc := 2, minMw := 500000,
                      minLen := 7, maxLen := 25 }
def exQ : Params := { exP with enzyme := "lysc" }
def exOps : List Op := [.gen 0 exP false false, .gen 1 exQ true false, .gen 0 exQ false false]

example : NoGtfCrash exEnv State.empty exOps := by unfold NoGtfCrash; decide +kernel
example : (run exEnv State.empty exOps).md.map (·.pools) =
    some [{ filename := .pool 1, index := 1, key := { exQ with exc := none } }] := by decide +kernel
example : norm exP = { exP with exc := some "trypsin_exception" } := by decide +kernel
-- Python tuple comparison in `is_valid_mpg_version` (`MINIMAL_VERSION` = 1.3.0)
example : lexLe [1, 3, 0] [1, 4, 6] = true ∧ lexLe [1, 3, 0] [1, 2, 9] = false ∧
    lexLe [1, 3, 0] [1, 3] = false ∧ lexLe [1, 3, 0] [1, 3, 0, 1] = true ∧
    lexLe [1, 3, 0] [2] = true := by decide +kernel

end MoPepGen.Props.C12
