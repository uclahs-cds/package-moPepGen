import MoPepGen.Lemmas.Vep
import MoPepGen.Props.C11
/-!
# C14 — parseVEP / parseREDItools preserve the genomic event

Property theorems, and lemmas about the predicates they are stated with.  `vepConvert`,
`rediValidSubs`, `rediConvertFixed` (`Model/Vep.lean`) are the models of
`VEPRecord.convert_to_variant_record`, `REDItoolsRecord.get_valid_subs` and
`REDItoolsRecord.convert_to_variant_records`, tied to /repo by `harness/c14.py`.
`applyEvent`, `rowEvent`, `applyGvf` are the specification (Layer S).  Genes, transcripts,
`geneSeq`, `genomicToGene`, `isExonic` are those of C11.

Two defects found here are repaired in /repo, and the models keep the code before the repair:
`rediConvert` is the REDItools loop before accbcc2 (`rediConvertFixed` after it), and `vepAnchor`
re-anchors an end-inclusion insertion on the first transcribed base of a `cds_start_NF`
transcript, which /repo since d45e6f8 does not (`alt_start > tx_start_genetic`); on those rows
`vepConvert` is not the code of /repo.

The VEP theorems quantify over every gene interval, strand, exon list, chromosome, row position,
span length and allele.
-/
namespace MoPepGen.Props.C14
open MoPepGen

/-! ## non-vacuity -/

def exGene : Gene := { strand := .minus, loc := ⟨2, 20⟩ }
def exTx : Transcript := { strand := .minus, exons := [⟨4, 9⟩, ⟨12, 18⟩] }
def exChrom : List Char := "AACCGGTTACGTACGTTGCAAC".toList
example : exGene.loc.stop ≤ exChrom.length := by decide +kernel
example : exTx.WF ∧ exTx.Within exGene := by decide +kernel
example : String.ofList (geneSeq exChrom exGene) = "TGCAACGTACGTAACCGG" := by decide +kernel
-- evaluated once for the vectors below (decoding the string literal is most of their work)
theorem exSeq : geneSeq exChrom exGene
    = ['T', 'G', 'C', 'A', 'A', 'C', 'G', 'T', 'A', 'C', 'G', 'T', 'A', 'A', 'C', 'C', 'G', 'G'] := by
  decide +kernel
-- minus strand SNV at genomic 16 (gene index 4), allele given on the + strand
example : vepConvert exGene exTx false (geneSeq exChrom exGene) ⟨16, 16, some ['A']⟩
    = .ok ⟨4, 5, ['A'], ['T'], .snv⟩ := by
  rw [exSeq]
  decide +kernel
-- deletion of genomic 14..15 : anchored on the 5' neighbour in gene orientation
example : vepConvert exGene exTx false (geneSeq exChrom exGene) ⟨14, 15, none⟩
    = .ok ⟨4, 7, "ACG".toList, ['A'], .mnv⟩ := by
  rw [exSeq]
  decide +kernel
-- two-base-span insertion
example : vepConvert exGene exTx false (geneSeq exChrom exGene) ⟨14, 15, some "AAG".toList⟩
    = .ok ⟨5, 6, ['C'], "CCTT".toList, .indel⟩ := by
  rw [exSeq]
  decide +kernel
-- first transcribed base without / with cds_start_NF, last base + 1
example : vepConvert exGene exTx false (geneSeq exChrom exGene) ⟨18, 18, some ['A']⟩
    = .error .startSite := by decide +kernel
example : vepConvert exGene exTx true (geneSeq exChrom exGene) ⟨17, 18, none⟩
    = .ok ⟨2, 5, "CAA".toList, ['A'], .mnv⟩ := by
  rw [exSeq]
  decide +kernel
example : vepConvert exGene exTx false (geneSeq exChrom exGene) ⟨4, 5, none⟩
    = .error .stopSite := by decide +kernel
example : vepConvert exGene exTx false (geneSeq exChrom exGene) ⟨2, 2, some ['A']⟩
    = .error .outOfGene := by decide +kernel
-- one-base-span insertions: end-inclusion spelling (re-anchored), start-inclusion, neither
example : vepConvert exGene exTx true (geneSeq exChrom exGene) ⟨16, 16, some "TTA".toList⟩
    = .ok ⟨3, 4, ['A'], "ATA".toList, .indel⟩ := by
  rw [exSeq]
  decide +kernel
example : vepConvert exGene exTx true (geneSeq exChrom exGene) ⟨16, 16, some "ATT".toList⟩
    = .ok ⟨4, 5, ['A'], "AAT".toList, .indel⟩ := by
  rw [exSeq]
  decide +kernel
example : vepConvert exGene exTx true (geneSeq exChrom exGene) ⟨16, 16, some "CTC".toList⟩
    = .error .unanchorable := by
  rw [exSeq]
  decide +kernel
-- substitution of four bases by three
example : vepConvert exGene exTx true (geneSeq exChrom exGene) ⟨13, 16, some "CTC".toList⟩
    = .ok ⟨4, 8, "ACGT".toList, "GAG".toList, .mnv⟩ := by
  rw [exSeq]
  decide +kernel

/-- Every record `vepConvert` returns has REF equal to the gene sequence at its own location
`[start, stop)` (and of that length) — SNV, deletion (both anchorings), insertion (all three
spellings), substitution; both strands; every position.  The record Python (before d45e6f8)
placed at `[-1, 0)` is the error `negAnchor` of the model, not a record (example below). -/
theorem vep_ref_matches (chrom : List Char) (g : Gene) (t : Transcript) (nf : Bool)
    (row : VepRow) (r : GvfRec) (hrow : row.s ≤ row.e)
    (h : vepConvert g t nf (geneSeq chrom g) row = .ok r) :
    r.ref = pySlice (geneSeq chrom g) r.start r.stop ∧ r.stop - r.start = r.ref.length := by
  obtain ⟨a, b, ts, te, -, hstart, -, ha⟩ := vepConvert_ok h
  exact (vepAnchor_ok (Nat.le_of_not_lt fun h => hstart (Or.inl h)) ha).1

/-- **Event preservation.**  Whenever a record is emitted, applying it to the gene sequence
gives exactly the gene re-extracted from the chromosome mutated by the event the VEP row
denotes (`rowEvent`: deletion for `-`, insertion between the two bases of a two-base span,
replacement of the span by the allele otherwise — which covers SNVs, one-base-span insertions
in both spellings and substitutions of ≥ 3 bases).  Both strands (the allele is
reverse-complemented on `-`), all positions, all lengths, with or without `cds_start_NF`. -/
theorem vep_event_preserved (chrom : List Char) (g : Gene) (t : Transcript) (nf : Bool)
    (row : VepRow) (r : GvfRec) (hc : g.loc.stop ≤ chrom.length) (hrow : row.s ≤ row.e)
    (h : vepConvert g t nf (geneSeq chrom g) row = .ok r) :
    applyGvf (geneSeq chrom g) r
      = geneSeq (applyEvent chrom (rowEvent row)) (geneAfter g (rowEvent row)) := by
  obtain ⟨a, b, ts, te, hl, hstart, -, ha⟩ := vepConvert_ok h
  obtain ⟨⟨hs1, hs, -⟩, ⟨-, -, he⟩, -, -, hab, -⟩ := vepLocate_ok hl
  -- both sides are `anchorSpec` at the gene interval `[a, b)` of the row
  rw [(vepAnchor_ok (Nat.le_of_not_lt fun h => hstart (Or.inl h)) ha).2.1,
    geneSeq_rowEvent chrom g row hc hs1 hs hrow (Nat.le_of_pred_lt he), ← hab]

/-- the hypothesis `hspan` of the boundary theorems holds for a well-formed transcript -/
theorem wf_span_lt (t : Transcript) (hw : t.WF) : t.spanStart < t.spanStop := by
  obtain ⟨first, last, hf, hl, hfm, hlm, hlo, hhi⟩ := hw.span
  unfold Transcript.spanStart Transcript.spanStop
  rw [hf, hl]; simp only
  have := hw.2.1 first hfm
  have := hhi first hfm
  omega

/-- the row touches the 5' boundary of the transcript: its 5'-most base (in transcript
orientation) lies before the first transcribed base, or on it without `cds_start_NF` -/
def TouchesStart (g : Gene) (t : Transcript) (nf : Bool) (row : VepRow) : Prop :=
  match g.strand with
  | .plus => row.s - 1 < t.spanStart ∨ (row.s - 1 = t.spanStart ∧ nf = false)
  | .minus => t.spanStop < row.e ∨ (row.e = t.spanStop ∧ nf = false)

/-- the 3'-most base of the row lies beyond the last transcribed base -/
def BeyondEnd (g : Gene) (t : Transcript) (row : VepRow) : Prop :=
  match g.strand with
  | .plus => t.spanStop < row.e
  | .minus => row.s - 1 < t.spanStart

instance (g : Gene) (t : Transcript) (nf : Bool) (row : VepRow) : Decidable (TouchesStart g t nf row) := by
  unfold TouchesStart; cases g.strand <;> infer_instance
instance (g : Gene) (t : Transcript) (row : VepRow) : Decidable (BeyondEnd g t row) := by
  unfold BeyondEnd; cases g.strand <;> infer_instance

example : TouchesStart exGene exTx false ⟨18, 18, none⟩ := by decide +kernel
example : ¬ TouchesStart exGene exTx true ⟨18, 18, none⟩ := by decide +kernel
example : BeyondEnd exGene exTx ⟨4, 5, none⟩ := by decide +kernel

/-- **Boundary events are rejected, never placed.**  For a row and transcript inside the gene
(so that all four coordinate look-ups succeed): a row touching the 5' boundary gives
`TranscriptionStartSiteMutationError`; otherwise a row reaching beyond the 3' end gives
`TranscriptionStopSiteMutationError`.  Both strands, every allele. -/
theorem vep_boundary_rejected (g : Gene) (t : Transcript) (nf : Bool) (seq : List Char)
    (row : VepRow) (hrow : row.s ≤ row.e) (hspan : t.spanStart < t.spanStop)
    {a b ts te : Nat} (hl : vepLocate g t row = .ok (a, b, ts, te)) :
    (TouchesStart g t nf row → vepConvert g t nf seq row = .error .startSite) ∧
    (¬ TouchesStart g t nf row → BeyondEnd g t row →
      vepConvert g t nf seq row = .error .stopSite) := by
  obtain ⟨⟨-, hs, hs'⟩, ⟨-, -, he⟩, ⟨hS, hS'⟩, ⟨hE, hE'⟩, hab, hts⟩ := vepLocate_ok hl
  rw [Nat.sub_add_cancel (Nat.zero_lt_of_lt hspan)] at hts
  -- the two tests of the converter are the two predicates: gene coordinates keep the genomic
  -- order on `+` and reverse it on `-`
  have key : ((a < ts ∨ (a = ts ∧ nf = false)) ↔ TouchesStart g t nf row) ∧
      (b > te ↔ BeyondEnd g t row) := by
    unfold TouchesStart BeyondEnd
    cases hstr : g.strand <;> simp only [geneIv, hstr, Iv.mk.injEq] at hab hts ⊢ <;>
      obtain ⟨rfl, rfl⟩ := hab <;> obtain ⟨rfl, rfl⟩ := hts
    · exact ⟨or_congr (Nat.sub_lt_sub_iff_right hs) (and_congr_left' (sub_right_inj hs hS)),
        Nat.sub_lt_sub_iff_right (Nat.le_trans hE (Nat.sub_le _ 1))⟩
    · have he' := Nat.le_of_pred_lt he
      have hE'' := Nat.le_of_pred_lt hE'
      exact ⟨or_congr (sub_lt_sub_left_iff he') (and_congr_left' (sub_left_inj he' hE'')),
        sub_lt_sub_left_iff (Nat.le_of_lt hS')⟩
  unfold vepConvert
  rw [hl]
  simp only
  constructor
  · intro h
    rw [if_pos (key.1.mpr h)]
  · intro h hb
    rw [if_neg (fun h' => h (key.1.mp h')), if_pos (key.2.mpr hb)]

/-- a row with an end outside the gene is rejected (`ValueError` of
`coordinate_genomic_to_gene`), never placed -/
theorem vep_outside_gene_rejected (g : Gene) (t : Transcript) (nf : Bool) (seq : List Char)
    (row : VepRow)
    (h : ¬ (1 ≤ row.s ∧ g.loc.start ≤ row.s - 1 ∧ row.s - 1 < g.loc.stop) ∨
         ¬ (1 ≤ row.e ∧ g.loc.start ≤ row.e - 1 ∧ row.e - 1 < g.loc.stop)) :
    vepConvert g t nf seq row = .error .outOfGene := by
  unfold vepConvert
  split
  · rename_i e hl
    rw [vepLocate_error hl]
  · rename_i a b ts te hl
    obtain ⟨hs, he, -⟩ := vepLocate_ok hl
    exact absurd h (not_or.mpr ⟨not_not_intro hs, not_not_intro he⟩)

/-- **Converse: an emitted record never touches the boundary.**  If a record is returned, the
whole row interval lies inside the transcript span and — unless the transcript is
`cds_start_NF` — strictly after its first transcribed base. -/
theorem vep_record_inside_transcript (g : Gene) (t : Transcript) (nf : Bool) (seq : List Char)
    (row : VepRow) (r : GvfRec) (hrow : row.s ≤ row.e) (hspan : t.spanStart < t.spanStop)
    (h : vepConvert g t nf seq row = .ok r) :
    t.spanStart ≤ row.s - 1 ∧ row.e ≤ t.spanStop ∧ ¬ TouchesStart g t nf row ∧
      ¬ BeyondEnd g t row := by
  rw [← and_assoc]
  obtain ⟨a, b, ts, te, hl, -⟩ := vepConvert_ok h
  obtain ⟨hstart, hstop⟩ := vep_boundary_rejected g t nf seq row hrow hspan hl
  have hT : ¬ TouchesStart g t nf row := fun hT => by
    rw [hstart hT] at h; cases h
  have hB : ¬ BeyondEnd g t row := fun hB => by
    rw [hstop hT hB] at h; cases h
  refine ⟨?_, hT, hB⟩
  unfold TouchesStart at hT
  unfold BeyondEnd at hB
  cases hs : g.strand <;> rw [hs] at hT hB <;> simp only at hT hB <;> omega

/-- without `cds_start_NF` the anchored record itself (after re-anchoring) lies inside the
transcript in gene coordinates: `tx_start_genetic ≤ start` and `stop ≤ tx_end_genetic` -/
theorem vep_anchor_inside_transcript (g : Gene) (t : Transcript) (seq : List Char)
    (row : VepRow) (r : GvfRec) (hrow : row.s ≤ row.e)
    (h : vepConvert g t false seq row = .ok r) :
    ∃ a b ts te, vepLocate g t row = .ok (a, b, ts, te) ∧ ts ≤ r.start ∧ r.stop ≤ te := by
  obtain ⟨a, b, ts, te, hl, hstart, hstop, ha⟩ := vepConvert_ok h
  have hts : ts ≤ a := Nat.le_of_not_lt fun h => hstart (Or.inl h)
  have hne : a ≠ ts := fun h0 => hstart (Or.inr ⟨h0, rfl⟩)
  -- the record is cut inside `[a - 1, b)`, and `ts < a`, `b ≤ te`
  have := (vepAnchor_ok hts ha).2.2 hne
  exact ⟨a, b, ts, te, hl, by omega, by omega⟩

/-- A one-base-span row whose (strand-corrected) allele has ≥ 2 bases and neither starts nor
ends with the reference base of the gene at that position is never converted: the result is
the `ValueError` "Don't know how to process this variant" (or, at the boundary, the start /
stop site error) — not a misplaced record. -/
theorem vep_unanchorable_rejected (chrom : List Char) (g : Gene) (t : Transcript) (nf : Bool)
    (row : VepRow) (al : List Char) (hone : row.s = row.e) (hal : row.allele = some al)
    (hlen : 1 < al.length) {a b ts te : Nat} (hl : vepLocate g t row = .ok (a, b, ts, te))
    (ref : Char) (href : (geneSeq chrom g)[a]? = some ref)
    (h1 : some ref ≠ (strandAllele g.strand al).getLast?)
    (h2 : some ref ≠ (strandAllele g.strand al).head?) :
    vepConvert g t nf (geneSeq chrom g) row = .error .startSite ∨
    vepConvert g t nf (geneSeq chrom g) row = .error .stopSite ∨
    vepConvert g t nf (geneSeq chrom g) row = .error .unanchorable := by
  obtain ⟨⟨hs1, hs, -⟩, ⟨-, -, he⟩, -, -, hab, -⟩ := vepLocate_ok hl
  have hba : b - a = 1 := by
    have hlen := geneIv_len g (b := ⟨row.s - 1, row.e⟩)
      ⟨hs, Nat.le_trans (Nat.sub_le _ 1) (Nat.le_of_eq hone), Nat.le_of_pred_lt he⟩
    rw [← hab, ← hone] at hlen
    exact hlen.trans (Nat.sub_sub_self hs1)
  have hl2 : 1 < (strandAllele g.strand al).length := by
    rw [strandAllele_length]; exact hlen
  unfold vepConvert
  rw [hl]
  simp only
  split
  · exact Or.inl rfl
  · split
    · exact Or.inr (Or.inl rfl)
    · refine Or.inr (Or.inr ?_)
      unfold vepAnchor
      rw [hal]; simp only [Option.map_some]
      rw [if_pos hba, if_pos hl2, href]
      simp only
      rw [if_neg h1, if_neg h2]

/-- The code before d45e6f8, on a `cds_start_NF` transcript that starts on the first base of its
gene: a one-base-span insertion on that base spelled with the reference base LAST is
re-anchored to index `-1`; Python read the last base of the gene there and returned a record
at `[-1, 0)` whose REF (`A`, the last gene base) is not the gene sequence at that location.
(finding `vep-insertion-anchored-before-gene-start`, fixed in /repo) -/
example : vepConvert ⟨.plus, ⟨2, 20⟩⟩ ⟨.plus, [⟨2, 9⟩, ⟨12, 18⟩]⟩ true
    (geneSeq exChrom ⟨.plus, ⟨2, 20⟩⟩) ⟨3, 3, some "GGC".toList⟩
    = .error (.negAnchor ['A'] "AGG".toList) := by decide +kernel

/-- the defect needs `cds_start_NF` and a row and transcript starting on gene index 0 -/
theorem vep_negAnchor_only_nf (g : Gene) (t : Transcript) (nf : Bool) (seq : List Char)
    (row : VepRow) (x y : List Char)
    (h : vepConvert g t nf seq row = .error (.negAnchor x y)) :
    nf = true ∧ ∃ b te, vepLocate g t row = .ok (0, b, 0, te) := by
  unfold vepConvert at h
  split at h
  · rename_i e hl
    cases (Except.error.inj h).symm.trans (vepLocate_error hl)
  · rename_i a b ts te hl
    split at h
    · cases h
    · rename_i hstart
      split at h
      · cases h
      · have hts : ts ≤ a := Nat.le_of_not_lt fun h => hstart (Or.inl h)
        obtain rfl := vepAnchor_negAnchor hts h
        obtain rfl := Nat.le_zero.mp hts
        refine ⟨?_, b, te, hl⟩
        cases nf
        · exact absurd (Or.inr ⟨rfl, rfl⟩) hstart
        · rfl

/-- the DNA-coverage gate: `gCoverage-q` is `-1`, or an integer `≥ --min-coverage-dna`
(a non-integer field such as `-` never passes) -/
def GcovOk (gcov : Option Int) (minDna : Int) : Prop :=
  gcov = some (-1) ∨ ∃ c, gcov = some c ∧ minDna ≤ c

theorem gcovFails_iff (gcov : Option Int) (minDna : Int) :
    gcovFails gcov minDna = false ↔ GcovOk gcov minDna := by
  unfold gcovFails GcovOk
  cases gcov with
  | none => simp
  | some c =>
    simp only [Option.some.injEq, Bool.and_eq_false_iff, decide_eq_false_iff_not, exists_eq_left']
    exact or_congr Decidable.not_not Int.not_lt

/-- the per-substitution condition: the ALT base has a count `n` with `n ≥ --min-coverage-alt`
and `n / total ≥ --min-frequency-alt = fnum / fden`, as an exact comparison of rationals
(cross-multiplied) -/
def SubOk (p : RediParams) (s : RediSite) (sub : Char × Char) : Prop :=
  ∃ n, s.count sub.2 = some n ∧ p.minAlt ≤ (n : Int) ∧ p.fnum * s.total ≤ n * p.fden

theorem rediSubLoop_spec (p : RediParams) (s : RediSite) (subs l : List (Char × Char))
    (h : rediSubLoop p s subs = .ok l) :
    l.Sublist subs ∧ ∀ sub, sub ∈ l ↔ sub ∈ subs ∧ SubOk p s sub := by
  induction subs generalizing l with
  | nil => cases h; simp
  | cons x rest ih =>
    have skip : ¬ SubOk p s x → rediSubLoop p s rest = .ok l →
        l.Sublist (x :: rest) ∧ ∀ sub, sub ∈ l ↔ sub ∈ x :: rest ∧ SubOk p s sub := by
      intro hno h
      obtain ⟨hs, hm⟩ := ih l h
      refine ⟨hs.cons _, fun sub => ?_⟩
      rw [hm sub, List.mem_cons, or_and_right]
      exact (or_iff_right fun ⟨h1, h2⟩ => hno (h1 ▸ h2)).symm
    unfold rediSubLoop at h
    split at h
    · cases h
    · rename_i n hn
      have hno : (n : Int) < p.minAlt ∨ n * p.fden < p.fnum * s.total → ¬ SubOk p s x := by
        rintro hbad ⟨m, hm, h1, h2⟩
        cases hn.symm.trans hm
        omega
      split at h
      · rename_i hlt
        exact skip (hno (Or.inl hlt)) h
      · split at h
        · cases h
        · split at h
          · rename_i hlt
            exact skip (hno (Or.inr hlt)) h
          · split at h
            · rename_i l' hl'
              cases h
              obtain ⟨hs, hm⟩ := ih l' hl'
              have hok : SubOk p s x := ⟨n, hn, by omega, by omega⟩
              refine ⟨hs.cons_cons _, fun sub => ?_⟩
              rw [List.mem_cons, List.mem_cons, hm sub, or_and_right]
              exact or_congr_left (iff_self_and.mpr fun h1 => h1 ▸ hok)
            · cases h

/-- **Thresholds are applied exactly.**  Whenever `get_valid_subs` returns, a substitution of
the row is kept iff  total ≥ min-coverage-rna  ∧  (gCoverage = -1 ∨ gCoverage ≥
min-coverage-dna)  ∧  count(ALT) ≥ min-coverage-alt  ∧  count(ALT)/total ≥ min-frequency-alt
(exact rational comparison); the kept substitutions are in the order of the row. -/
theorem redi_thresholds_exact (p : RediParams) (s : RediSite) (l : List (Char × Char))
    (h : rediValidSubs p s = .ok l) :
    l.Sublist s.subs ∧ ∀ sub, sub ∈ l ↔
      sub ∈ s.subs ∧ p.minRna ≤ (s.total : Int) ∧ GcovOk s.gcov p.minDna ∧ SubOk p s sub := by
  have none_kept : ¬ (p.minRna ≤ (s.total : Int) ∧ GcovOk s.gcov p.minDna) →
      ([] : List (Char × Char)).Sublist s.subs ∧ ∀ sub, sub ∈ [] ↔ sub ∈ s.subs ∧
        p.minRna ≤ (s.total : Int) ∧ GcovOk s.gcov p.minDna ∧ SubOk p s sub :=
    fun hno => ⟨List.nil_sublist _, fun _ =>
      ⟨fun hm => absurd hm List.not_mem_nil, fun ⟨_, h1, h2, _⟩ => absurd ⟨h1, h2⟩ hno⟩⟩
  unfold rediValidSubs at h
  split at h
  · rename_i hlt
    cases h
    exact none_kept fun ⟨h1, _⟩ => Int.not_le.mpr hlt h1
  · rename_i hge
    split at h
    · rename_i hg
      cases h
      exact none_kept fun ⟨_, h2⟩ => by rw [← gcovFails_iff, hg] at h2; cases h2
    · rename_i hg
      obtain ⟨hs, hm⟩ := rediSubLoop_spec p s s.subs l h
      refine ⟨hs, fun sub => ?_⟩
      rw [hm sub, and_iff_right (Int.not_lt.mp hge),
        and_iff_right ((gcovFails_iff _ _).mp (Bool.eq_false_iff.mpr hg))]

/-- `get_valid_subs` returns (no `KeyError`, no `ZeroDivisionError`) on every row whose ALT
bases are in `ACGT` and whose total count is positive -/
theorem redi_valid_total (p : RediParams) (s : RediSite) (htot : 0 < s.total)
    (hacgt : ∀ sub ∈ s.subs, (s.count sub.2).isSome = true) :
    ∃ l, rediValidSubs p s = .ok l := by
  unfold rediValidSubs
  split
  · exact ⟨_, rfl⟩
  · split
    · exact ⟨_, rfl⟩
    · generalize s.subs = subs at hacgt
      induction subs with
      | nil => exact ⟨_, rfl⟩
      | cons x rest ih =>
        obtain ⟨l, hl⟩ := ih (fun y hy => hacgt y (List.mem_cons_of_mem _ hy))
        obtain ⟨n, hn⟩ := Option.isSome_iff_exists.mp (hacgt x List.mem_cons_self)
        unfold rediSubLoop
        rw [hn]; simp only
        split
        · exact ⟨l, hl⟩
        · rw [if_neg (by omega)]
          split
          · exact ⟨l, hl⟩
          · rw [hl]; exact ⟨_, rfl⟩

-- values exactly on a threshold are accepted; one below `--min-coverage-alt`, `--min-frequency-alt`
-- or `--min-coverage-dna` is rejected; `gCoverage-q` `-1` passes, a non-integer does not
example : rediValidSubs ⟨3, 1, 10, 10, 10⟩ ⟨100, 7, 0, 3, 0, [('A', 'G')], some 10⟩
    = .ok [('A', 'G')] := by decide +kernel
example : rediValidSubs ⟨3, 1, 10, 10, 10⟩ ⟨100, 8, 0, 2, 0, [('A', 'G')], some 10⟩
    = .ok [] := by decide +kernel
example : rediValidSubs ⟨3, 1, 10, 10, 10⟩ ⟨100, 27, 0, 3, 0, [('A', 'G')], some 10⟩
    = .ok [('A', 'G')] := by decide +kernel
example : rediValidSubs ⟨3, 1, 10, 10, 10⟩ ⟨100, 28, 0, 3, 0, [('A', 'G')], some 10⟩
    = .ok [] := by decide +kernel
example : rediValidSubs ⟨3, 1, 10, 10, 10⟩ ⟨100, 7, 0, 3, 0, [('A', 'G')], some 9⟩
    = .ok [] := by decide +kernel
example : rediValidSubs ⟨3, 1, 10, 10, 10⟩ ⟨100, 7, 0, 3, 0, [('A', 'G')], some (-1)⟩
    = .ok [('A', 'G')] := by decide +kernel
example : rediValidSubs ⟨3, 1, 10, 10, 10⟩ ⟨100, 7, 0, 3, 0, [('A', 'G')], none⟩
    = .ok [] := by decide +kernel

/-- what the record list must be, as a set (neither order nor multiplicity is stated): the
records (index of a listed transcript in which the site is exonic — `ok? t` —, gene coordinate
of the site in its gene, valid substitution) -/
def RediRecsSpec (s : RediSite) (listed : List (Gene × Transcript)) (i : Nat)
    (subs : List (Char × Char)) (ok? : Transcript → Prop) (recs : List RediRec) : Prop :=
  ∀ r, r ∈ recs ↔ ∃ j g t, listed[j]? = some (g, t) ∧ r.tx = i + j ∧ ok? t ∧
    genomicToGene g (s.pos - 1) = .ok r.pos ∧ (r.ref, r.alt) ∈ subs

section
variable {s : RediSite} {g : Gene} {t : Transcript} {rest : List (Gene × Transcript)} {i : Nat}
  {subs : List (Char × Char)} {ok? : Transcript → Prop}

theorem RediRecsSpec.nil : RediRecsSpec s [] i subs ok? [] := by
  intro r; simp

theorem RediRecsSpec.skip {recs : List RediRec} (hno : ¬ ok? t)
    (h : RediRecsSpec s rest (i + 1) subs ok? recs) :
    RediRecsSpec s ((g, t) :: rest) i subs ok? recs := by
  intro r
  rw [h r]
  constructor
  · rintro ⟨j, g', t', h1, h2, h3⟩
    exact ⟨j + 1, g', t', h1, by omega, h3⟩
  · rintro ⟨j, g', t', h1, h2, h3, h4⟩
    cases j with
    | zero => cases h1; exact absurd h3 hno
    | succ j => exact ⟨j, g', t', h1, by omega, h3, h4⟩

theorem RediRecsSpec.keep {q : Nat} {l : List RediRec} (hok : ok? t)
    (hq : genomicToGene g (s.pos - 1) = .ok q) (h : RediRecsSpec s rest (i + 1) subs ok? l) :
    RediRecsSpec s ((g, t) :: rest) i subs ok?
      (subs.map (fun sub => ⟨i, q, sub.1, sub.2⟩) ++ l) := by
  intro r
  rw [List.mem_append, List.mem_map, h r]
  constructor
  · rintro (⟨sub, hsub, rfl⟩ | ⟨j, g', t', h1, h2, h3⟩)
    · exact ⟨0, g, t, rfl, rfl, hok, hq, hsub⟩
    · exact ⟨j + 1, g', t', h1, by omega, h3⟩
  · rintro ⟨j, g', t', h1, h2, h3, h4, h5⟩
    cases j with
    | zero =>
      cases h1
      cases hq.symm.trans h4
      exact Or.inl ⟨(r.ref, r.alt), h5, congrArg (RediRec.mk · r.pos r.ref r.alt) h2.symm⟩
    | succ j => exact Or.inr ⟨j, g', t', h1, by omega, h3, h4, h5⟩

variable {p : RediParams} {listed : List (Gene × Transcript)} {recs : List RediRec}

theorem RediRecsSpec.congr {ok' : Transcript → Prop} (hiff : ∀ gt ∈ listed, ok? gt.2 ↔ ok' gt.2)
    (h : RediRecsSpec s listed i subs ok? recs) : RediRecsSpec s listed i subs ok' recs := by
  intro r
  rw [h r]
  exact exists_congr fun j => exists_congr fun g => exists_congr fun t => and_congr_right fun h1 =>
    and_congr_right fun _ => and_congr_left' (hiff (g, t) (List.mem_of_getElem? h1))

theorem rediLoopFixed_spec (hw : ∀ gt ∈ listed, gt.2.WF) (hv : rediValidSubs p s = .ok subs)
    (h : rediLoopFixed p s listed i = .ok recs) :
    RediRecsSpec s listed i subs (fun t => isExonic t (s.pos - 1) = true) recs := by
  induction listed generalizing i recs with
  | nil => cases h; exact .nil
  | cons gt rest ih =>
    obtain ⟨g, t⟩ := gt
    have hwt : t.WF := hw (g, t) List.mem_cons_self
    have hwr : ∀ gt ∈ rest, gt.2.WF := fun x hx => hw x (List.mem_cons_of_mem _ hx)
    unfold rediLoopFixed at h
    split at h
    · rename_i e he
      -- `get_transcript_index` fails exactly on the non-exonic positions
      refine .skip (fun hx => ?_) (ih hwr h)
      obtain ⟨k, hk⟩ := C11.txIndex_exonic t hwt _ hx
      rw [hk] at he; cases he
    · rename_i k hk
      split at h
      · cases h
      · rename_i q hq
        rw [hv] at h; simp only at h
        split at h
        · cases h
        · rename_i l hl
          cases h
          exact .keep (C11.txToGenomic_txIndex t hwt _ _ hk).2.2 hq (ih hwr hl)

theorem rediLoop_spec (hv : rediValidSubs p s = .ok subs)
    (h : rediLoop p s listed i = .ok recs) :
    RediRecsSpec s listed i subs (fun t => txIndex t (s.pos - 1) ≠ .error .intron) recs := by
  induction listed generalizing i recs with
  | nil => cases h; exact .nil
  | cons gt rest ih =>
    obtain ⟨g, t⟩ := gt
    unfold rediLoop at h
    split at h
    · rename_i he
      exact .skip (fun hx => hx he) (ih h)
    · rename_i hx
      split at h
      · cases h
      · rename_i q hq
        rw [hv] at h; simp only at h
        split at h
        · cases h
        · rename_i l hl
          cases h
          exact .keep hx hq (ih hl)

end

/-- **Position** (`rediConvertFixed`: the loop of /repo, repaired by accbcc2).  For well-formed
listed transcripts, the records are, as a set: for each listed transcript in which the site
`pos-1` is exonic, and each substitution passing the thresholds, the record at
`coordinate_genomic_to_gene(pos-1)` of that transcript's gene, carrying that transcript's index.
Transcripts in which the site is intronic OR outside the transcript get no record. -/
theorem redi_position (p : RediParams) (s : RediSite) (listed : List (Gene × Transcript))
    (hw : ∀ gt ∈ listed, gt.2.WF) (subs : List (Char × Char))
    (hv : rediValidSubs p s = .ok subs) (recs : List RediRec)
    (h : rediConvertFixed p s listed = .ok recs) :
    RediRecsSpec s listed 0 subs (fun t => isExonic t (s.pos - 1) = true) recs :=
  rediLoopFixed_spec hw hv h

/-- The loop before accbcc2 (`rediConvert`) emits a record for every listed transcript for which
`get_transcript_index` does not raise the *intron* error — i.e. also for transcripts whose
span does not contain the site (the out-of-range `ValueError` is swallowed). -/
theorem redi_position_as_written (p : RediParams) (s : RediSite)
    (listed : List (Gene × Transcript)) (subs : List (Char × Char))
    (hv : rediValidSubs p s = .ok subs) (recs : List RediRec)
    (h : rediConvert p s listed = .ok recs) :
    RediRecsSpec s listed 0 subs (fun t => txIndex t (s.pos - 1) ≠ .error .intron) recs :=
  rediLoop_spec hv h

/-- `redi_position` with `rediConvert`, the loop before accbcc2, is FALSE (see the `example`
below).  What holds: when every listed transcript spans the site (which a table annotated by
REDItools' `AnnotateTable.py` is assumed to provide; not checked here), that loop satisfies the
same specification as the repaired one. -/
theorem redi_position_partial (p : RediParams) (s : RediSite) (listed : List (Gene × Transcript))
    (hw : ∀ gt ∈ listed, gt.2.WF)
    (hspan : ∀ gt ∈ listed, gt.2.spanStart ≤ s.pos - 1 ∧ s.pos - 1 < gt.2.spanStop)
    (subs : List (Char × Char)) (hv : rediValidSubs p s = .ok subs) (recs : List RediRec)
    (h : rediConvert p s listed = .ok recs) :
    RediRecsSpec s listed 0 subs (fun t => isExonic t (s.pos - 1) = true) recs := by
  refine (redi_position_as_written p s listed subs hv recs h).congr fun gt hm => ⟨fun h3 => ?_,
    fun h3 => ?_⟩
  · cases hx : isExonic gt.2 (s.pos - 1)
    · exact absurd (C11.txIndex_intron _ (hw _ hm) _ (hspan _ hm) hx) h3
    · rfl
  · obtain ⟨k, hk⟩ := C11.txIndex_exonic _ (hw _ hm) _ h3
    rw [hk]
    exact fun hc => nomatch hc

/-- the defect: site 11 (0-based 10) is exonic in the first listed transcript and lies
OUTSIDE the second one (exon 50..52); the loop before accbcc2 emits a record for both, the
repaired loop only for the first (finding `reditools-record-for-transcript-not-containing-site`,
fixed in /repo) -/
example :
    rediConvert ⟨3, 1, 10, 10, 10⟩ ⟨11, 10, 0, 26, 0, [('A', 'G')], some 20⟩
      [(⟨.plus, ⟨7, 54⟩⟩, ⟨.plus, [⟨8, 17⟩, ⟨37, 42⟩]⟩), (⟨.plus, ⟨7, 54⟩⟩, ⟨.plus, [⟨50, 52⟩]⟩)]
      = .ok [⟨0, 3, 'A', 'G'⟩, ⟨1, 3, 'A', 'G'⟩] ∧
    rediConvertFixed ⟨3, 1, 10, 10, 10⟩ ⟨11, 10, 0, 26, 0, [('A', 'G')], some 20⟩
      [(⟨.plus, ⟨7, 54⟩⟩, ⟨.plus, [⟨8, 17⟩, ⟨37, 42⟩]⟩), (⟨.plus, ⟨7, 54⟩⟩, ⟨.plus, [⟨50, 52⟩]⟩)]
      = .ok [⟨0, 3, 'A', 'G'⟩] := by decide +kernel

end MoPepGen.Props.C14
