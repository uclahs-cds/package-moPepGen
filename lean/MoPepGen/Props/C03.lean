import MoPepGen.Props.C02
import MoPepGen.Generated.Expasy
import MoPepGen.Generated.Weights
import MoPepGen.Lemmas.DigestTables
/-!
# C03 — FASTA headers are truthful witnesses  (PARTIAL: label bookkeeping of the traversal
is not modelled; every emitted (peptide, entry) pair is validated by `Spec.witness`)

Proved: the witness predicate means what the property says (C02 `witness_sound`); the
"completion" the harness uses to describe a failing entry is sound; and the label counter of a
`VariantPeptideDict` (`get_peptide_sequences`: `self.labels[label] += 1; label|k`) never issues
the same entry string twice.
-/
namespace MoPepGen.Props.C03
open MoPepGen MoPepGen.Spec MoPepGen.Props.C01 MoPepGen.Props.C02

/-- an accepted entry names only records of the input and is a witness in the property's sense -/
theorem entry_truthful (g : Cfg) (t : TxIn) (vs : List Var) (ids : List Nat) (p : Pep)
    (h : witness g t vs ids p = true) :
    (∀ i ∈ ids, ∃ w ∈ vs, ∃ v, usable t w = some v ∧ i ∈ v.ids) ∧
      RealizableByRecords g t vs ids p := by
  have hr := witness_sound g t vs ids p h
  refine ⟨?_, hr⟩
  obtain ⟨_, hin, _, _, hcov, _⟩ := hr
  exact named_ids_usable hin hcov

/-- if the completion analysis returns a set of ids, some compatible combination containing the
named records yields the peptide (so the entry "omits" records rather than naming wrong ones) -/
theorem completion_sound (g : Cfg) (t : TxIn) (vs : List Var) (ids extra : List Nat) (p : Pep)
    (h : witnessCompletion g t vs ids p = some extra) :
    ∃ hp ∈ haplotypes t vs, (∀ i ∈ ids, i ∈ hp.flatMap (·.ids)) ∧ ProductOf g t hp p := by
  obtain ⟨c, hm⟩ := exists_mem_of_foldl_none_eq_some h
  simp only [List.mem_filter, Bool.and_eq_true, List.all_eq_true, List.contains_iff_mem] at hm
  exact ⟨c, hm.1, hm.2.1, hm.2.2⟩

/-! ### the label counter -/

/-- M: `labels[label] += 1; label += f"|{labels[label]}"` over the base labels in the order
they are emitted by one `get_peptide_sequences` call (`seen` = the labels counted so far) -/
def numberFrom (seen : List String) : List String → List (String × Nat)
  | [] => []
  | b :: bs => (b, seen.count b + 1) :: numberFrom (b :: seen) bs

theorem numberFrom_gt (seen bs : List String) :
    ∀ e ∈ numberFrom seen bs, seen.count e.1 < e.2 := by
  induction bs generalizing seen with
  | nil => simp [numberFrom]
  | cons b bs ih =>
    intro e he
    simp only [numberFrom, List.mem_cons] at he
    rcases he with rfl | he
    · simp
    · exact Nat.lt_of_le_of_lt List.count_le_count_cons (ih (b :: seen) e he)

/-- every entry string `label|k` is issued at most once by one counter -/
theorem label_counter_distinct (bs : List String) : (numberFrom [] bs).Nodup := by
  suffices h : ∀ seen, (numberFrom seen bs).Nodup from h []
  induction bs with
  | nil => intro seen; simp [numberFrom]
  | cons b bs ih =>
    intro seen
    simp only [numberFrom, List.nodup_cons]
    refine ⟨?_, ih _⟩
    intro hmem
    have := numberFrom_gt (b :: seen) bs _ hmem
    simp at this

example : numberFrom [] ["T|v", "T|w", "T|v"] = [("T|v", 1), ("T|w", 1), ("T|v", 2)] := by decide +kernel

/-! ### circRNA backbones -/

/-- `callCirc` is the union, over the empty and every compatible combination of the records
usable inside the circle, of `circPeptides`, minus the host's products and the canonical set:
the witness predicate below speaks about exactly the inner expression of the definition -/
theorem callCirc_unfold (g : Cfg) (c : List Char) (vs : List Var) (deny : List Pep) :
    callCirc g c vs deny =
      (([] :: haplotypes (circHost c) vs).flatMap (circPeptides g c)).filter fun p =>
        !deny.contains p && !g.canonical.contains p := rfl

/-- S: what an entry on a circRNA backbone asserts: the named records — usable records of the
input inside the circle, mutually compatible, exactly these — are applied to the ONE molecule
(every pass around the circle carries them) and `p` is a product form of its translation -/
def CircRealizableByRecords (g : Cfg) (c : List Char) (vs : List Var) (ids : List Nat) (p : Pep) : Prop :=
  ∃ h : List Var, (∀ v ∈ h, ∃ w ∈ vs, usable (circHost c) w = some v) ∧ separatedOrPaired h = true ∧
    (∀ v ∈ h, ∀ i ∈ v.ids, i ∈ ids) ∧ (∀ i ∈ ids, ∃ v ∈ h, i ∈ v.ids) ∧ p ∈ circPeptides g c h

/-- an accepted circRNA entry names only records of the input and is a witness in the
property's sense (same records in every pass) -/
theorem circ_entry_truthful (g : Cfg) (c : List Char) (vs : List Var) (ids : List Nat) (p : Pep)
    (h : witnessCirc g c vs ids p = true) :
    (∀ i ∈ ids, ∃ w ∈ vs, ∃ v, usable (circHost c) w = some v ∧ i ∈ v.ids) ∧
      CircRealizableByRecords g c vs ids p := by
  simp only [witnessCirc, Bool.and_eq_true] at h
  obtain ⟨⟨hcover, hsep⟩, hp⟩ := h
  obtain ⟨hin, hnamed, hcov⟩ := named_records_spec rfl hcover
  exact ⟨named_ids_usable hin hcov, _, hin, hsep, hnamed, hcov, List.contains_iff_mem.mp hp⟩

/-- if the completion analysis returns a set of ids, the empty or some compatible combination
containing the named records yields the peptide on the circle; if the peptide is neither a
product of the host nor canonical it is then a member of the DEFINITION `callCirc` -/
theorem circ_completion_sound (g : Cfg) (c : List Char) (vs : List Var) (ids extra : List Nat)
    (p : Pep) (deny : List Pep)
    (h : witnessCircCompletion g c vs ids p = some extra) :
    (∃ hp ∈ [] :: haplotypes (circHost c) vs,
        (∀ i ∈ ids, i ∈ hp.flatMap (·.ids)) ∧ p ∈ circPeptides g c hp) ∧
      (deny.contains p = false → g.canonical.contains p = false → p ∈ callCirc g c vs deny) := by
  obtain ⟨x, hm⟩ := exists_mem_of_foldl_none_eq_some h
  simp only [List.mem_filter, Bool.and_eq_true, List.all_eq_true, List.contains_iff_mem] at hm
  refine ⟨⟨x, hm.1, hm.2.1, hm.2.2⟩, fun hd hcn => ?_⟩
  rw [callCirc_unfold, List.mem_filter, hd, hcn]
  exact ⟨List.mem_flatMap.mpr ⟨x, hm.1, hm.2.2⟩, rfl⟩

/-! non-vacuity: a 24-nt circle `ATG GCT GCT GCT GCT GCT AAG TGA` (M A A A A A K *), one SNV
`C>A` in the second codon (A → D): the entry naming the record is accepted for `MDAAAAK`, the
entry naming nothing is not, and the completion analysis says which record is missing -/
def exCircCfg : Cfg :=
  { cleave := { rule := (Generated.expasyRules.lookup "trypsin").getD [], exc := none, misc := 0,
                minMw := 0, minLen := 7, maxLen := 25,
                tab := Generated.proteinWeights, water := Generated.waterWeight },
    sect := false, w2f := false, canonical := [] }
def exCirc : List Char := "ATGGCTGCTGCTGCTGCTAAGTGA".toList
def exCircVar : Var := { start := 4, stop := 5, ref := ['C'], alt := ['A'], cls := .snv, ids := [0] }

/-- The test vectors are evaluated by the kernel after preparations that change the work and
nothing else: `startCodons` is read in one pass, the rule is taken from its place in the table
instead of being looked up by name, string literals become character lists. -/
theorem exCirc_completion :
    witnessCircCompletion exCircCfg exCirc [exCircVar] [] "MDAAAAK".toList = some [0] := by
  simp only [witnessCircCompletion, circPeptides, peptidesOf, orfStarts, startCodons_eq_scan]
  unfold exCirc exCircCfg
  rw [Generated.lookup_trypsin]
  char_lists
  decide +kernel

example : witnessCirc exCircCfg exCirc [exCircVar] [0] "MDAAAAK".toList = true := by
  simp only [witnessCirc, circPeptides, peptidesOf, orfStarts, startCodons_eq_scan]
  unfold exCirc exCircCfg
  rw [Generated.lookup_trypsin]
  char_lists
  decide +kernel
example : witnessCirc exCircCfg exCirc [exCircVar] [] "MDAAAAK".toList = false := by
  simp only [witnessCirc, circPeptides, peptidesOf, orfStarts, startCodons_eq_scan]
  unfold exCirc exCircCfg
  rw [Generated.lookup_trypsin]
  char_lists
  decide +kernel
example : witnessCircCompletion exCircCfg exCirc [exCircVar] [] "MDAAAAK".toList = some [0] :=
  exCirc_completion
example : "MDAAAAK".toList ∈ callCirc exCircCfg exCirc [exCircVar] [] :=
  (circ_completion_sound exCircCfg exCirc [exCircVar] [] [0] _ [] exCirc_completion).2
    (by decide +kernel) (by decide +kernel)

end MoPepGen.Props.C03
