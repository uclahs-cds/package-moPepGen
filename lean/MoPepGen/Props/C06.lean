import MoPepGen.Lemmas.Pipeline
/-!
# C06 — the peptide set is independent of `--threads` (and of batch composition)

Theorems about the model of the dispatch loop and the result loop of
`call_variant_peptide` (tied to /repo by the correspondence stream `run`: the
batches the real command logs and its FASTA/table/tally for every thread count
are compared with this model).  The graph callers are data, so the statements
hold whatever they return.

Independence of the split of records into GVF files / `.idx` files is C13's
`pointer_scan_equiv`; raw vs indexed reference is C11/C12.  Hash seed and the
process pool are runtime behaviour outside the model: paired real runs only.
-/
namespace MoPepGen.Props.C06
open MoPepGen MoPepGen.Pipe

/-- Every gathered (non-skipped) transcript is dispatched exactly once, in order, for EVERY
thread count and every pattern of skipped transcripts. -/
theorem dispatch_covers {α : Type} (threads : Nat) (g : List (Option α)) :
    (dispatch threads g).flatten = g.filterMap id :=
  dispatch_flatten threads g

/-- The loop of /repo before `fix:` commit 9e15b3a did not have this property: with two threads,
one skipped and one gathered transcript, nothing is dispatched (`dispatchOld` is the model of
that loop). -/
theorem dispatchOld_drops : dispatchOld 2 [none, some 7] = ([] : List (List Nat)) := by
  decide +kernel

/-- no empty batch is ever handed to the pool -/
theorem dispatch_nonempty {α : Type} (threads : Nat) (g : List (Option α)) :
    ∀ b ∈ dispatch threads g, b ≠ [] := (dispatchGo_spec threads g [] (Or.inr rfl)).2

/-- Table, FASTA and tally are the same for every two thread counts. -/
theorem run_threads_independent (c : Limits) (skip : Bool) (t1 t2 : Nat)
    (g : List (Option TxUnits)) : runAll c skip t1 g = runAll c skip t2 g := by
  rw [runAll_eq, runAll_eq]

/-- ... and equal to processing the gathered transcripts one by one. -/
theorem run_eq_sequential (c : Limits) (skip : Bool) (t : Nat) (g : List (Option TxUnits)) :
    runAll c skip t g = runAll c skip 1 g := run_threads_independent c skip t 1 g

/-- non-vacuity: a run with a skipped transcript in a partial last batch -/
example : dispatch 2 [none, some 7, some 8, none, some 9] = [[7, 8], [9]] := by decide +kernel

end MoPepGen.Props.C06
