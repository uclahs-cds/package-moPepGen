-- Root of the `MoPepGen` library: every module, by layer (DESIGN.md §3 says what each is for).
import MoPepGen.Generated.Codon
import MoPepGen.Generated.Constants
import MoPepGen.Generated.Expasy
import MoPepGen.Generated.Labels
import MoPepGen.Generated.Weights
import MoPepGen.Model.Cache
import MoPepGen.Model.Circ
import MoPepGen.Model.Coord
import MoPepGen.Model.Decoy
import MoPepGen.Model.Digest
import MoPepGen.Model.DigestPos
import MoPepGen.Model.Filter
import MoPepGen.Model.Fusion
import MoPepGen.Model.FusionSpec
import MoPepGen.Model.Graph
import MoPepGen.Model.Gtf
import MoPepGen.Model.Gvf
import MoPepGen.Model.IndexDir
import MoPepGen.Model.Label
import MoPepGen.Model.Pairing
import MoPepGen.Model.Pipeline
import MoPepGen.Model.Regex
import MoPepGen.Model.Rmats
import MoPepGen.Model.RmatsSpec
import MoPepGen.Model.Split
import MoPepGen.Model.Translate
import MoPepGen.Model.Tvg
import MoPepGen.Model.TvgLang
import MoPepGen.Model.Vep
import MoPepGen.Model.WingsLocal
import MoPepGen.Spec.CallVariant
import MoPepGen.Driver.C10
import MoPepGen.Driver.C11
import MoPepGen.Driver.C12
import MoPepGen.Driver.C13
import MoPepGen.Driver.C14
import MoPepGen.Driver.C15
import MoPepGen.Driver.C16
import MoPepGen.Driver.C17
import MoPepGen.Driver.C18
import MoPepGen.Driver.C19
import MoPepGen.Driver.C20
import MoPepGen.Driver.G
import MoPepGen.Driver.GT
import MoPepGen.Driver.Gtf
import MoPepGen.Driver.Pipe
import MoPepGen.Driver.S
import MoPepGen.Driver.Util
import MoPepGen.Lemmas.Cache
import MoPepGen.Lemmas.Circ
import MoPepGen.Lemmas.CircLookup
import MoPepGen.Lemmas.Coord
import MoPepGen.Lemmas.Decoy
import MoPepGen.Lemmas.Digest
import MoPepGen.Lemmas.DigestPos
import MoPepGen.Lemmas.DigestTables
import MoPepGen.Lemmas.Encode
import MoPepGen.Lemmas.Filter
import MoPepGen.Lemmas.Fusion
import MoPepGen.Lemmas.FusionCall
import MoPepGen.Lemmas.FusionParse
import MoPepGen.Lemmas.GeneIv
import MoPepGen.Lemmas.Graph
import MoPepGen.Lemmas.GraphCuts
import MoPepGen.Lemmas.GraphEmbed
import MoPepGen.Lemmas.GraphExpand
import MoPepGen.Lemmas.Gtf
import MoPepGen.Lemmas.GtfClosed
import MoPepGen.Lemmas.Gvf
import MoPepGen.Lemmas.GvfIndex
import MoPepGen.Lemmas.GvfRecord
import MoPepGen.Lemmas.Haplotype
import MoPepGen.Lemmas.IndexDir
import MoPepGen.Lemmas.ListAux
import MoPepGen.Lemmas.Pairing
import MoPepGen.Lemmas.Pipeline
import MoPepGen.Lemmas.Regex
import MoPepGen.Lemmas.Rmats
import MoPepGen.Lemmas.RmatsAlign
import MoPepGen.Lemmas.RmatsEvent
import MoPepGen.Lemmas.Seq
import MoPepGen.Lemmas.SortInfos
import MoPepGen.Lemmas.Spec
import MoPepGen.Lemmas.SpecMono
import MoPepGen.Lemmas.Split
import MoPepGen.Lemmas.SrcOrder
import MoPepGen.Lemmas.SummarySplit
import MoPepGen.Lemmas.Translate
import MoPepGen.Lemmas.TranslateFuel
import MoPepGen.Lemmas.TranslateSearch
import MoPepGen.Lemmas.TranslateSec
import MoPepGen.Lemmas.TranslateSplit
import MoPepGen.Lemmas.Tvg
import MoPepGen.Lemmas.TvgLang
import MoPepGen.Lemmas.TvgLive
import MoPepGen.Lemmas.TvgLoop
import MoPepGen.Lemmas.TvgPool
import MoPepGen.Lemmas.TvgSorted
import MoPepGen.Lemmas.Vep
import MoPepGen.Lemmas.WingsLocal
import MoPepGen.Props.C01
import MoPepGen.Props.C02
import MoPepGen.Props.C03
import MoPepGen.Props.C04
import MoPepGen.Props.C05
import MoPepGen.Props.C06
import MoPepGen.Props.C07
import MoPepGen.Props.C08
import MoPepGen.Props.C09
import MoPepGen.Props.C10
import MoPepGen.Props.C11
import MoPepGen.Props.C12
import MoPepGen.Props.C13
import MoPepGen.Props.C14
import MoPepGen.Props.C15
import MoPepGen.Props.C16
import MoPepGen.Props.C17
import MoPepGen.Props.C18
import MoPepGen.Props.C19
import MoPepGen.Props.C20
